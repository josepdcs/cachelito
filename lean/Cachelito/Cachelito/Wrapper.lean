/-
  Cachelito.Wrapper — the code `#[cache]` / `#[cache_async]` generate around an engine:
  key → lookup → (invalidate_on check) → body → (cache_if / Result filter) → store → return.

  `cachelito-macros/src/lib.rs:44-94,229-267,270-430`, `cachelito-async-macros/src/lib.rs:22-31,103-146,366-404`.
  The function body and the two user predicates are ORACLES supplied per call (so impure scripts and
  predicates whose verdict changes between calls are expressible); the trace records which of them
  were actually consulted.
-/
import Cachelito.Core

namespace Cachelito

/-- what the macro derives from the attribute list and the signature -/
structure FnSpec where
  name : String                 -- `name = "…"` or the function identifier (registry / stats name)
  isAsync : Bool                -- `#[cache_async]`
  threadScope : Bool            -- `scope = "thread"` (sync only)
  cfg : Cfg                     -- flavour must agree with `isAsync` / `threadScope`
  useMem : Bool                 -- memory-aware store selected (textual test on the max_memory tokens)
  isResult : Bool               -- return type spelled `Result<` / `std::result::Result<`
  hasCacheIf : Bool
  hasInvalidateOn : Bool
  tags : List String
  events : List String
  deps : List String
  deriving Repr

/-- one call: the key its arguments render to, and the oracles for this call -/
structure CallIn (K V : Type) where
  key : K
  bodyVal : V                   -- what the body returns IF it runs
  cacheIf : K → V → Bool        -- what `cache_if` answers IF consulted
  invalidateOn : K → V → Bool   -- what `invalidate_on` answers IF consulted (true = stale)

inductive TraceEv (K V : Type)
  | checkCalled (k : K) (cached : V) (stale : Bool)   -- invalidate_on consulted on a hit
  | bodyRun
  | predCalled (k : K) (v : V) (accept : Bool)        -- cache_if consulted
  | stored (k : K) (v : V)
  | returned (v : V) (fromCache : Bool)
  deriving Repr

variable {K V S : Type} [DecidableEq K]

/-- does the wrapper hand the fresh result to the engine?
    Sync: `cache_if` guards the call of `insert*` / `insert_result*`, and `insert_result*` stores only `Ok`.
    Async: `cache_if` alone when present (an `Err` it accepts IS stored), else `is_ok()` for Result types. -/
def shouldStore (spec : FnSpec) (isOk : V → Bool) (accept : Bool) (v : V) : Bool :=
  if spec.isAsync then
    if spec.hasCacheIf then accept else (if spec.isResult then isOk v else true)
  else
    (if spec.hasCacheIf then accept else true) && (if spec.isResult then isOk v else true)

/-- the generated function, on the state of its own cache -/
def callFn (spec : FnSpec) (tl : Tlru S) (size : V → Nat) (isOk : V → Bool) (rs : List Nat)
    (s : State K V) (c : CallIn K V) : State K V × V × List (TraceEv K V) :=
  let (s1, o) := get spec.cfg s c.key
  let miss (pre : List (TraceEv K V)) : State K V × V × List (TraceEv K V) :=
    let r := c.bodyVal
    let accept := c.cacheIf c.key r
    let t1 := pre ++ [TraceEv.bodyRun] ++ (if spec.hasCacheIf then [TraceEv.predCalled c.key r accept] else [])
    if shouldStore spec isOk accept r then
      let s2 := if spec.useMem then insertMem spec.cfg tl size rs s1 c.key r
                else insert spec.cfg tl (rs.headD 0) s1 c.key r
      (s2, r, t1 ++ [TraceEv.stored c.key r, TraceEv.returned r false])
    else (s1, r, t1 ++ [TraceEv.returned r false])
  match o with
  | some cached =>
    if spec.hasInvalidateOn then
      let stale := c.invalidateOn c.key cached
      if stale then miss [TraceEv.checkCalled c.key cached true]
      else (s1, cached, [TraceEv.checkCalled c.key cached false, TraceEv.returned cached true])
    else (s1, cached, [TraceEv.returned cached true])
  | none => miss []

end Cachelito
