/-
  Cachelito.System — several cached functions, their caches (one per function for global scope and
  async, one per function AND thread for thread scope), the invalidation registry
  (`cachelito-core/src/invalidation.rs`) and the statistics registry (`stats_registry.rs`).

  Registrations happen on the FIRST call of a global / async function
  (`cachelito-macros/src/lib.rs:300-393`, `cachelito-async-macros/src/lib.rs:428-513`):
    * statistics under the cache name,
    * tag / event / dependency tables + clear callback — only if one of the three lists is non-empty,
    * conditional-invalidation callback — always.
  Thread-scope functions register nothing.  Cache names are assumed pairwise distinct (two caches with
  one name overwrite each other's callbacks; outside the properties' quantifier).
-/
import Cachelito.Wrapper

namespace Cachelito

/-- identity of one cache instance: function index, and the thread for thread-scope functions -/
structure CacheId where
  fn : Nat
  thread : Option Nat
  deriving DecidableEq, Repr

structure Sys (K V : Type) where
  caches : List (CacheId × State K V)   -- absent = never touched = `State.init` at the current clock
  called : List Nat                     -- global/async functions whose first call happened (registered)
  now : Nat

inductive SysOp (K V : Type)
  | call (fn : Nat) (thread : Nat) (c : CallIn K V)
  | tick (ms : Nat)
  | invalidateByTag (t : String)
  | invalidateByEvent (e : String)
  | invalidateByDependency (d : String)
  | invalidateCache (name : String)
  | invalidateWith (name : String) (p : K → Bool)
  | invalidateAllWith (p : String → K → Bool)
  | statsGet (name : String)
  | statsReset (name : String)

inductive SysOut (K V : Type)
  | ret (v : V) (trace : List (TraceEv K V))
  | unit
  | count (n : Nat)
  | flag (b : Bool)
  | stats (s : Option (Nat × Nat))      -- hits, misses
  | noSuchFn

variable {K V S : Type} [DecidableEq K]

def Sys.init : Sys K V := ⟨[], [], 0⟩

def cacheIdOf (spec : FnSpec) (fn thread : Nat) : CacheId :=
  ⟨fn, if spec.threadScope then some thread else none⟩

def Sys.getCache (sys : Sys K V) (id : CacheId) : State K V :=
  match sys.caches.find? (fun p => p.1 = id) with
  | some p => p.2
  | none => { (State.init : State K V) with now := sys.now }

def Sys.setCache (sys : Sys K V) (id : CacheId) (s : State K V) : Sys K V :=
  { sys with caches := (id, s) :: sys.caches.filter (fun p => p.1 ≠ id) }

/-- apply `f` to every existing cache instance of function `fn` (global/async: at most one) -/
def Sys.mapFn (sys : Sys K V) (fn : Nat) (f : State K V → State K V) : Sys K V :=
  { sys with caches := sys.caches.map (fun p => if p.1.fn = fn ∧ p.1.thread = none then (p.1, f p.2) else p) }

/-- functions that own a clear callback: registered (called, not thread scope) and with metadata -/
def hasClearCallback (fns : List FnSpec) (sys : Sys K V) (i : Nat) : Bool :=
  match fns[i]? with
  | some spec => sys.called.contains i && !spec.threadScope &&
      !(spec.tags.isEmpty && spec.events.isEmpty && spec.deps.isEmpty)
  | none => false

/-- functions that own a conditional-invalidation callback and a statistics entry -/
def isRegistered (fns : List FnSpec) (sys : Sys K V) (i : Nat) : Bool :=
  match fns[i]? with
  | some spec => sys.called.contains i && !spec.threadScope
  | none => false

/-- indices of functions selected by `sel` that own a clear callback -/
def clearTargets (fns : List FnSpec) (sys : Sys K V) (sel : FnSpec → Bool) : List Nat :=
  (List.range fns.length).filter (fun i =>
    hasClearCallback fns sys i && (match fns[i]? with | some spec => sel spec | none => false))

def clearAll (sys : Sys K V) (targets : List Nat) : Sys K V :=
  targets.foldl (fun sy i => sy.mapFn i clear) sys

def sysStep (fns : List FnSpec) (tls : Nat → Tlru S) (size : V → Nat) (isOk : V → Bool) (rs : List Nat)
    (sys : Sys K V) : SysOp K V → Sys K V × SysOut K V
  | .call fn thread c =>
    match fns[fn]? with
    | none => (sys, .noSuchFn)
    | some spec =>
      let id := cacheIdOf spec fn thread
      let (s', v, tr) := callFn spec (tls fn) size isOk rs (sys.getCache id) c
      let sys' := sys.setCache id s'
      let sys' := if spec.threadScope || sys'.called.contains fn then sys'
                  else { sys' with called := fn :: sys'.called }
      (sys', .ret v tr)
  | .tick ms =>
    ({ sys with now := sys.now + ms, caches := sys.caches.map (fun p => (p.1, { p.2 with now := p.2.now + ms })) }, .unit)
  | .invalidateByTag t =>
    let ts := clearTargets fns sys (fun spec => spec.tags.contains t)
    (clearAll sys ts, .count ts.length)
  | .invalidateByEvent e =>
    let ts := clearTargets fns sys (fun spec => spec.events.contains e)
    (clearAll sys ts, .count ts.length)
  | .invalidateByDependency d =>
    let ts := clearTargets fns sys (fun spec => spec.deps.contains d)
    (clearAll sys ts, .count ts.length)
  | .invalidateCache name =>
    let ts := clearTargets fns sys (fun spec => spec.name = name)
    (clearAll sys ts, .flag (!ts.isEmpty))
  | .invalidateWith name p =>
    let ts := (List.range fns.length).filter (fun i =>
      isRegistered fns sys i && (match fns[i]? with | some spec => spec.name = name | none => false))
    (ts.foldl (fun sy i => sy.mapFn i (invalidateWith p)) sys, .flag (!ts.isEmpty))
  | .invalidateAllWith p =>
    let ts := (List.range fns.length).filter (fun i => isRegistered fns sys i)
    (ts.foldl (fun sy i =>
        match fns[i]? with
        | some spec => sy.mapFn i (invalidateWith (p spec.name))
        | none => sy) sys, .count ts.length)
  | .statsGet name =>
    let ts := (List.range fns.length).filter (fun i =>
      isRegistered fns sys i && (match fns[i]? with | some spec => spec.name = name | none => false))
    match ts with
    | i :: _ => let s := sys.getCache ⟨i, none⟩; (sys, .stats (some (s.hitStat, s.missStat)))
    | [] => (sys, .stats none)
  | .statsReset name =>
    let ts := (List.range fns.length).filter (fun i =>
      isRegistered fns sys i && (match fns[i]? with | some spec => spec.name = name | none => false))
    (ts.foldl (fun sy i => sy.mapFn i (fun s => { s with hitStat := 0, missStat := 0 })) sys, .flag (!ts.isEmpty))

def sysRun (fns : List FnSpec) (tls : Nat → Tlru S) (size : V → Nat) (isOk : V → Bool) :
    Sys K V → List (SysOp K V × List Nat) → Sys K V × List (SysOut K V)
  | sys, [] => (sys, [])
  | sys, (op, rs) :: ops =>
    let (s1, o) := sysStep fns tls size isOk rs sys op
    let (s2, os) := sysRun fns tls size isOk s1 ops
    (s2, o :: os)

end Cachelito
