/-
  Cachelito.Keys — model of cache-key construction (property C02).

  Transcribes
    * `cachelito-core/src/keys.rs`: every built-in `CacheableKey` is `format!("{:?}", self)`
      (blanket impl over `DefaultCacheableKey`, lines 67-74; the built-in types are lines 83-142);
    * `cachelito-macro-utils/src/lib.rs:299-362`: `generate_key_expr` (async, `format!("{:?}", arg)`)
      and `generate_key_expr_with_cacheable_key` (sync, `arg.to_cache_key()`): the parts are the
      receiver (if any) followed by the arguments, joined by `"|"`; no parts gives the empty string.

  So a key is determined by Rust's `Debug` rendering of each part.  `render` below transcribes
  `{:?}` for the built-in key types and for `#[derive(Debug)]` user types:

    integers          decimal, `-` for negatives (the width is not printed)
    bool              `true` / `false`
    char              `'c'`   with `char::escape_debug_ext` (escapes `'`, not `"`)
    String / &str     `"…"`   with `char::escape_debug_ext` per char (escapes `"`, not `'`)
    f32 / f64         opaque: `Fmt.float` (a parameter; see `FloatOK`)
    ()                `()`
    tuples            `(a, b)`, the 1-tuple is `(a,)`
    Option            `None` / `Some(a)`
    Vec / slices      `[a, b]`
    derive(Debug)     unit struct / variant `Name`; tuple struct / variant `Name(a, b)`;
                      named-field struct / variant `Name { x: a, y: b }`; with zero fields just `Name`

  Which characters are printed as `\u{…}` is decided by Rust's Unicode tables (grapheme-extend and
  printable); the model takes that as the parameter `Fmt.esc : Char → Bool`, consulted exactly where
  `escape_debug_ext` consults the tables (after the fixed escapes `\0 \t \r \n \\` and the quote).

  Values are untyped trees (`Val`); `wt : Ty → Val → Bool` says that a value inhabits a type of the
  grammar `Ty`.  Text is `List Char` throughout.  Core Lean only (linked into the driver).
-/

namespace Cachelito.Keys

abbrev Text := List Char

/-! ### Identifiers -/

/-- punctuation with a structural role in `Debug` output; never part of an identifier -/
def isStructural (c : Char) : Bool :=
  c == '|' || c == ',' || c == ')' || c == ']' || c == '}' || c == ' ' ||
  c == '(' || c == '[' || c == '{' || c == ':'

/-- a type / variant / field name: non-empty, no structural punctuation (covers ASCII and Unicode
    identifiers; `r#type` is printed as `type`) -/
def isIdent (s : Text) : Bool := !s.isEmpty && s.all (fun c => !isStructural c)

structure Ident where
  chars : Text
  ok : isIdent chars = true
  deriving DecidableEq

theorem Ident.ext {a b : Ident} (h : a.chars = b.chars) : a = b := by
  cases a; cases b; cases h; rfl

/-! ### Types and values -/

mutual
/-- the argument types with a built-in cache key, plus `derive(Debug)` user types -/
inductive Ty where
  /-- `u8 … u128, usize` -/
  | uint
  /-- `i8 … i128, isize` -/
  | sint
  | bool
  | char
  /-- `String`, `&str` -/
  | str
  /-- `f32`, `f64` -/
  | float
  | unit
  | option (t : Ty)
  /-- `Vec<T>`, `&[T]` -/
  | vec (t : Ty)
  /-- `(T1,)` … `(T1, …, T5)` (any arity is allowed here) -/
  | tuple (ts : List Ty)
  /-- a `#[derive(Debug)]` struct (one variant carrying the struct's name) or enum -/
  | adt (variants : List Variant)
/-- one variant of a user type -/
inductive Variant where
  | unit (name : Ident)
  | tuple (name : Ident) (ts : List Ty)
  | named (name : Ident) (fields : List (Ident × Ty))
end

/-- values; `F` is the carrier of floating-point values -/
inductive Val (F : Type) where
  | nat (n : Nat)
  | int (i : Int)
  | bool (b : Bool)
  | char (c : Char)
  | str (s : Text)
  | float (f : F)
  | unit
  | none
  | some (v : Val F)
  | vec (vs : List (Val F))
  | tuple (vs : List (Val F))
  /-- `Name` -/
  | unitV (name : Ident)
  /-- `Name(a, b)` -/
  | tupleV (name : Ident) (vs : List (Val F))
  /-- `Name { x: a, y: b }` -/
  | namedV (name : Ident) (fields : List (Ident × Val F))

/-- the constructor name of a user-type value -/
def Val.name? {F : Type} : Val F → Option Ident
  | .unitV n => Option.some n
  | .tupleV n _ => Option.some n
  | .namedV n _ => Option.some n
  | _ => Option.none

/-! ### Numbers -/

def decDigit (d : Nat) : Char := Char.ofNat (48 + d)

/-- lower-case hexadecimal digit (as in `\u{1f600}`) -/
def hexDigit (d : Nat) : Char := if d < 10 then Char.ofNat (48 + d) else Char.ofNat (87 + d)

/-- positional rendering, most significant digit first, no leading zeros; `fuel ≥ n` is enough -/
def renderRadix (b : Nat) (dig : Nat → Char) : Nat → Nat → Text
  | 0, n => [dig n]
  | fuel + 1, n => if n < b then [dig n] else renderRadix b dig fuel (n / b) ++ [dig (n % b)]

def renderNat (n : Nat) : Text := renderRadix 10 decDigit n n

def renderHex (n : Nat) : Text := renderRadix 16 hexDigit n n

def renderInt : Int → Text
  | .ofNat n => renderNat n
  | .negSucc n => '-' :: renderNat (n + 1)

/-! ### Characters and strings: `char::escape_debug_ext` -/

/-- which quote the literal is delimited by (and which one is therefore escaped) -/
inductive Quote where
  | single
  | double
  deriving DecidableEq

def Quote.char : Quote → Char
  | .single => '\''
  | .double => '"'

def unicodeEsc (c : Char) : Text := '\\' :: 'u' :: '{' :: (renderHex c.toNat ++ ['}'])

/-- `escape_debug_ext`: fixed escapes first, then the literal's own quote, then the Unicode tables
    (`esc`), otherwise the character itself -/
def escapeChar (esc : Char → Bool) (q : Quote) (c : Char) : Text :=
  if c = '\x00' then ['\\', '0']
  else if c = '\t' then ['\\', 't']
  else if c = '\r' then ['\\', 'r']
  else if c = '\n' then ['\\', 'n']
  else if c = '\\' then ['\\', '\\']
  else if c = q.char then ['\\', q.char]
  else if esc c then unicodeEsc c
  else [c]

def escapeBody (esc : Char → Bool) (q : Quote) : Text → Text
  | [] => []
  | c :: cs => escapeChar esc q c ++ escapeBody esc q cs

def renderStr (esc : Char → Bool) (s : Text) : Text := '"' :: (escapeBody esc .double s ++ ['"'])

def renderChar (esc : Char → Bool) (c : Char) : Text := '\'' :: (escapeChar esc .single c ++ ['\''])

/-! ### `Debug` rendering -/

/-- the two parameters of the model: the Unicode escape predicate and the float printer -/
structure Fmt (F : Type) where
  esc : Char → Bool
  float : F → Text

def renderBool : Bool → Text
  | true => ['t', 'r', 'u', 'e']
  | false => ['f', 'a', 'l', 's', 'e']

mutual
/-- `format!("{:?}", v)` -/
def render {F : Type} (fm : Fmt F) : Val F → Text
  | .nat n => renderNat n
  | .int i => renderInt i
  | .bool b => renderBool b
  | .char c => renderChar fm.esc c
  | .str s => renderStr fm.esc s
  | .float f => fm.float f
  | .unit => ['(', ')']
  | .none => ['N', 'o', 'n', 'e']
  | .some v => 'S' :: 'o' :: 'm' :: 'e' :: '(' :: (render fm v ++ [')'])
  | .vec [] => ['[', ']']
  | .vec (v :: vs) => '[' :: (render fm v ++ (renderTail fm vs ++ [']']))
  | .tuple [] => ['(', ')']
  | .tuple [v] => '(' :: (render fm v ++ [',', ')'])
  | .tuple (v :: w :: vs) => '(' :: (render fm v ++ (renderTail fm (w :: vs) ++ [')']))
  | .unitV n => n.chars
  | .tupleV n [] => n.chars
  | .tupleV n (v :: vs) => n.chars ++ '(' :: (render fm v ++ (renderTail fm vs ++ [')']))
  | .namedV n [] => n.chars
  | .namedV n ((f, v) :: fs) =>
      n.chars ++ ' ' :: '{' :: ' ' :: (f.chars ++ ':' :: ' ' :: (render fm v ++ (renderFieldsTail fm fs ++ [' ', '}'])))
/-- every element preceded by `", "` -/
def renderTail {F : Type} (fm : Fmt F) : List (Val F) → Text
  | [] => []
  | v :: vs => ',' :: ' ' :: (render fm v ++ renderTail fm vs)
/-- every `name: value` preceded by `", "` -/
def renderFieldsTail {F : Type} (fm : Fmt F) : List (Ident × Val F) → Text
  | [] => []
  | (f, v) :: fs => ',' :: ' ' :: (f.chars ++ ':' :: ' ' :: (render fm v ++ renderFieldsTail fm fs))
end

/-! ### Well-typedness -/

mutual
/-- `v` is a value of type `t` -/
def wt {F : Type} : Ty → Val F → Bool
  | .uint, v => match v with | .nat _ => true | _ => false
  | .sint, v => match v with | .int _ => true | _ => false
  | .bool, v => match v with | .bool _ => true | _ => false
  | .char, v => match v with | .char _ => true | _ => false
  | .str, v => match v with | .str _ => true | _ => false
  | .float, v => match v with | .float _ => true | _ => false
  | .unit, v => match v with | .unit => true | _ => false
  | .option t, v => match v with | .none => true | .some w => wt t w | _ => false
  | .vec t, v => match v with | .vec vs => vs.all (wt t) | _ => false
  | .tuple ts, v => match v with | .tuple vs => wtList ts vs | _ => false
  | .adt vars, v => wtVariants vars v
def wtList {F : Type} : List Ty → List (Val F) → Bool
  | [], vs => match vs with | [] => true | _ :: _ => false
  | t :: ts, vs => match vs with | [] => false | v :: vs => wt t v && wtList ts vs
/-- the value's constructor name selects the (first) variant of that name; shapes must agree -/
def wtVariants {F : Type} : List Variant → Val F → Bool
  | [], _ => false
  | .unit n :: rest, v =>
      if v.name? = some n then (match v with | .unitV _ => true | _ => false) else wtVariants rest v
  | .tuple n ts :: rest, v =>
      if v.name? = some n then (match v with | .tupleV _ vs => wtList ts vs | _ => false)
      else wtVariants rest v
  | .named n fs :: rest, v =>
      if v.name? = some n then (match v with | .namedV _ fvs => wtFields fs fvs | _ => false)
      else wtVariants rest v
def wtFields {F : Type} : List (Ident × Ty) → List (Ident × Val F) → Bool
  | [], fvs => match fvs with | [] => true | _ :: _ => false
  | (f, t) :: fs, fvs =>
      match fvs with
      | [] => false
      | (g, v) :: fvs => decide (f = g) && wt t v && wtFields fs fvs
end

/-! ### Keys -/

/-- `parts.join(sep)` -/
def joinTail (sep : Text) : List Text → Text
  | [] => []
  | p :: ps => sep ++ (p ++ joinTail sep ps)

def joinWith (sep : Text) : List Text → Text
  | [] => []
  | p :: ps => p ++ joinTail sep ps

/-- the key parts: receiver first (if the function is a method), then the arguments in order -/
def keyVals {F : Type} (receiver : Option (Val F)) (args : List (Val F)) : List (Val F) :=
  receiver.toList ++ args

/-- the cache key generated by both key builders: `Debug` renderings joined by `|`;
    the empty string when there are no parts -/
def keyOf {F : Type} (fm : Fmt F) (receiver : Option (Val F)) (args : List (Val F)) : Text :=
  joinWith ['|'] ((keyVals receiver args).map (render fm))

/-- the mutant of C02: the same parts concatenated WITHOUT the separator -/
def keyOfNoSep {F : Type} (fm : Fmt F) (receiver : Option (Val F)) (args : List (Val F)) : Text :=
  joinWith [] ((keyVals receiver args).map (render fm))

/-- a function signature: receiver type (methods) and argument types -/
structure Sig where
  receiver : Option Ty
  args : List Ty

def Sig.tys (sig : Sig) : List Ty := sig.receiver.toList ++ sig.args

/-- receiver and arguments inhabit the signature -/
def Sig.wt {F : Type} (sig : Sig) (receiver : Option (Val F)) (args : List (Val F)) : Bool :=
  (match sig.receiver, receiver with
   | Option.none, Option.none => true
   | Option.some t, Option.some v => Keys.wt t v
   | _, _ => false) && wtList sig.args args

/-! ### The float assumptions -/

/-- characters that Rust's float `Debug` output can contain: digits, `.`, exponent marker, signs and
    the letters of `inf` / `NaN` -/
def isFloatChar (c : Char) : Bool :=
  c.isDigit || c == '.' || c == 'e' || c == 'E' || c == '+' || c == '-' ||
  c == 'i' || c == 'n' || c == 'f' || c == 'N' || c == 'a'

/-- What C02 assumes about the float printer (not modelled): distinct values print differently,
    and the output is a non-empty string over `isFloatChar`.  For `f64`/`f32` the first holds
    for all non-NaN values (shortest round-trip printing; `0.0` / `-0.0` print differently), and all
    NaNs print as `NaN`, so `F` is to be read as "floats with all NaNs identified". -/
structure FloatOK {F : Type} (rf : F → Text) : Prop where
  inj : ∀ x y, rf x = rf y → x = y
  nonempty : ∀ x, rf x ≠ []
  alphabet : ∀ x, ∀ c ∈ rf x, isFloatChar c = true

end Cachelito.Keys
