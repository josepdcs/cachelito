/-
  Cachelito.Attrs — the attribute parsers of `#[cache(...)]` / `#[cache_async(...)]`
  (`cachelito-macro-utils/src/lib.rs:11-611`), transcribed.

  ABSTRACT SYNTAX.  An attribute list is what `Punctuated::<MetaNameValue, Token![,]>::parse_terminated`
  hands to the parser loop: a list of `name = value` where `name` is the identifier text (`r#limit` is the
  identifier text of a raw identifier: `Ident == "limit"` is false for it) and `value` is the `syn::Expr`
  classified the way the parser looks at it:

    intLit neg v suffix      `Expr::Lit(Lit::Int)`; `v` is the value of `base10_digits()` (syn normalises
                             `0x10`, `1_000`, `007` to `16`, `1000`, `7`); `1f64` is an Int literal with suffix
                             `f64` for syn.  `neg = true` is the literal `-v`: syn's `MetaNameValue` parser
                             yields a NEGATIVE LITERAL only when the literal is the very last token of the
                             whole attribute stream (`attr.rs:742-749`, `ahead.is_empty()`); anywhere else `-1`
                             is `Expr::Unary`, i.e. `otherExpr`.  That position rule is part of the encoding
                             produced by the harness generator (and therefore checked by `attrs_diff`).
    floatLit neg m e suffix  `Expr::Lit(Lit::Float)` denoting `m · 10^e` (`1.50` = 150·10⁻², `1e3` = 1·10³)
    strLit s                 `Lit::Str` with value `s` (after unescaping)
    boolLit / otherLit       `Lit::Bool`, and `Lit::Char | Byte | ByteStr | CStr`
    path p                   `Expr::Path` (only `.path` is looked at; a `qself` would be dropped)
    array elems              `Expr::Array`; an element is either a string literal or anything else
    otherExpr                every other expression (`-x`, `(3)`, `f()`, `1 + 2`, …)

  RESULT.  `Except Reject Parsed`:
    * `Reject.parserErr msg` — the function returned `Err(compile_error!(msg))`; the macro `panic!`s.  Since
                               commit 82aef8c this includes every value parser that produced `compile_error!`
                               tokens (`reject_invalid`): the tokens are returned as `Err` at once;
    * `Reject.panics what`   — an `.expect(...)` or the `assert!(f.is_finite())` of `Literal::f64_suffixed`
                               panicked;
    * `.ok p`.  The fields `p.limit`, `p.ttl`, `p.maxMemory`, `p.frequencyWeight` have type `Spliced _`
      (`TokenStream2` can hold `compile_error!` tokens, and in the parser BEFORE 82aef8c they did:
      `Legacy.parse` below); the repaired parser never returns `Spliced.compileError` inside `.ok`
      (`Lemmas/Attrs.lean: parse_ok_fields`).
  All are compile failures; `compiles` says so.  Since commit 1b1b026 the `max_memory` arithmetic is
  `checked_mul`, so nothing depends on the overflow-check setting of the macro crate any more; the old
  behaviour (`oc`) survives in `Legacy` only.

  Core Lean only (linked into the driver).
-/
import Cachelito.Core

namespace Cachelito.Attrs
open Cachelito

/-! ### Syntax -/

inductive Kind | sync | async
  deriving DecidableEq, Repr

structure Path where
  leadingColon : Bool
  segs : List String
  deriving DecidableEq, Repr

/-- an element of an array expression: a string literal or anything else -/
inductive ArrElem
  | str (s : String)
  | other
  deriving DecidableEq, Repr

inductive AttrVal
  | intLit (neg : Bool) (value : Nat) (suffix : String)
  | floatLit (neg : Bool) (mant : Nat) (exp10 : Int) (suffix : String)
  | strLit (s : String)
  | boolLit (b : Bool)
  | otherLit
  | path (p : Path)
  | array (elems : List ArrElem)
  | otherExpr
  deriving DecidableEq, Repr

def ArrElem.isStr : ArrElem → Bool
  | .str _ => true
  | .other => false

def ArrElem.str? : ArrElem → Option String
  | .str s => some s
  | .other => none

abbrev Attr := String × AttrVal
abbrev AttrList := List Attr

/-! ### `f64` values (exact) -/

/-- a finite non-negative `f64`, exactly: `m · 2^e`, canonical (`m` odd, or `m = 0 ∧ e = 0`) -/
structure F64 where
  m : Nat
  e : Int
  deriving DecidableEq, Repr

inductive Rounded
  | zero
  | finite (x : F64)
  | inf
  deriving DecidableEq, Repr

/-- strip the factors 2 of `m` (at most `fuel` of them) -/
def F64.normalize : Nat → Nat → Int → F64
  | 0, m, e => ⟨m, e⟩
  | fuel + 1, m, e => if m = 0 then ⟨0, 0⟩ else if m % 2 = 0 then F64.normalize fuel (m / 2) (e + 1) else ⟨m, e⟩

/-- `N / D` with `q / 2^e = N / D` -/
def scaleBy (n d : Nat) (e : Int) : Nat × Nat :=
  if 0 ≤ e then (n, d * 2 ^ e.toNat) else (n * 2 ^ (-e).toNat, d)

/-- round-to-nearest-even of the positive rational `n / d` to binary64 (what `str::parse::<f64>` and
    `u64 as f64` do), in exact arithmetic.  Subnormals (`e = -1074`), underflow to zero and overflow to
    infinity included. -/
def roundRat (n d : Nat) : Rounded :=
  if n = 0 ∨ d = 0 then .zero else
  let e0 : Int := (n.log2 : Int) - (d.log2 : Int) - 53      -- n/d / 2^e0 ∈ (2^52, 2^54)
  let p0 := scaleBy n d e0
  let e1 : Int := if 2 ^ 53 ≤ p0.1 / p0.2 then e0 + 1 else e0  -- n/d / 2^e1 ∈ [2^52, 2^53)
  let e : Int := if e1 < -1074 then -1074 else e1
  let p := scaleBy n d e
  let m := p.1 / p.2
  let r := p.1 % p.2
  let m' := if p.2 < 2 * r ∨ (2 * r = p.2 ∧ m % 2 = 1) then m + 1 else m
  if m' = 0 then .zero
  else if 972 ≤ e ∨ (971 ≤ e ∧ 2 ^ 53 ≤ m') then .inf     -- m' ∈ [2^52, 2^53] here: m'·2^e ≥ 2^1024
  else .finite (F64.normalize 64 m' e)

/-- the decimal `mant · 10^exp10` rounded to binary64 -/
def roundDec (mant : Nat) (exp10 : Int) : Rounded :=
  if 0 ≤ exp10 then roundRat (mant * 10 ^ exp10.toNat) 1 else roundRat mant (10 ^ (-exp10).toNat)

/-! ### Parsed attributes -/

/-- the `compile_error!("…")` invocations the parser stores INSIDE a field -/
inductive CE
  | limitRange | limitLit | limitSyntax
  | ttlLit | ttlSyntax
  | fwNonPositive | fwLit | fwSyntax
  | mmNumber | mmFormat | mmLit | mmSyntax | mmTooLarge
  deriving DecidableEq, Repr

def CE.msg : CE → String
  | .limitRange => "limit must be a valid positive integer"
  | .limitLit => "Invalid literal for `limit`: expected integer"
  | .limitSyntax => "Invalid syntax for `limit`: expected `limit = <integer>`"
  | .ttlLit => "Invalid literal for `ttl`: expected integer (seconds)"
  | .ttlSyntax => "Invalid syntax for `ttl`: expected `ttl = <integer>`"
  | .fwNonPositive => "frequency_weight must be > 0.0 (zero would cause 0^0 undefined behavior and has no semantic meaning)"
  | .fwLit => "Invalid literal for `frequency_weight`: expected float"
  | .fwSyntax => "Invalid syntax for `frequency_weight`: expected `frequency_weight = <float>`"
  | .mmNumber => "Invalid number format for max_memory"
  | .mmFormat => "Invalid format for max_memory: expected \"100MB\", \"1GB\", \"500KB\", or number"
  | .mmLit => "Invalid literal for `max_memory`: expected string (\"100MB\") or integer"
  | .mmSyntax => "Invalid syntax for `max_memory`: expected `max_memory = \"100MB\"`"
  | .mmTooLarge => "max_memory is too large"

/-- a `TokenStream2` field: `None` / `Some(v)` tokens, or spliced `compile_error!` tokens -/
inductive Spliced (α : Type)
  | ok (v : Option α)
  | compileError (e : CE)
  deriving DecidableEq, Repr

def Spliced.isOk {α : Type} : Spliced α → Bool
  | .ok _ => true
  | .compileError _ => false

inductive Scope | global | thread
  deriving DecidableEq, Repr

/-- `SyncCacheAttributes` / `AsyncCacheAttributes` (the async struct has no `scope`: the field stays `.global`) -/
structure Parsed where
  limit : Spliced Nat
  policy : String                       -- the validated policy name
  ttl : Spliced Nat
  scope : Scope
  name : Option String
  maxMemory : Spliced Nat
  tags : List String
  events : List String
  dependencies : List String
  invalidateOn : Option Path
  cacheIf : Option Path
  frequencyWeight : Spliced F64
  deriving DecidableEq, Repr

/-- `Default::default()` of both structs (`lib.rs:36-52,70-87`): no limit, FIFO, no ttl, global, … -/
def Parsed.default : Parsed :=
  { limit := .ok none, policy := "fifo", ttl := .ok none, scope := .global, name := none,
    maxMemory := .ok none, tags := [], events := [], dependencies := [],
    invalidateOn := none, cacheIf := none, frequencyWeight := .ok none }

inductive Reject
  | parserErr (msg : String)
  | panics (what : String)
  deriving DecidableEq, Repr

abbrev Result := Except Reject Parsed

instance : DecidableEq Result := fun a b =>
  match a, b with
  | .ok x, .ok y => if h : x = y then isTrue (by rw [h]) else isFalse (by intro e; cases e; exact h rfl)
  | .error x, .error y => if h : x = y then isTrue (by rw [h]) else isFalse (by intro e; cases e; exact h rfl)
  | .ok _, .error _ => isFalse (by intro e; cases e)
  | .error _, .ok _ => isFalse (by intro e; cases e)

/-- does the macro invocation survive attribute parsing?  (`Err` → the macro panics; `compile_error!`
    tokens spliced as a value → rustc reports them; a panic in the parser → "custom attribute panicked") -/
def compiles : Result → Bool
  | .ok p => p.limit.isOk && p.ttl.isOk && p.maxMemory.isOk && p.frequencyWeight.isOk
  | .error _ => false

/-! ### Error messages of the `Err(...)` returns -/

def policies : List String := ["fifo", "lru", "lfu", "arc", "random", "tlru"]

/-- `policies_str_with_separator` -/
def policiesStr (sep : String) : String := sep.intercalate (policies.map (fun p => "\"" ++ p ++ "\""))

def msgPolicyInvalid : String := "Invalid policy: expected one of " ++ policiesStr ", "
def msgPolicyLit : String := "Invalid literal for `policy`: expected string"
def msgPolicySyntax : String := "Invalid syntax for `policy`: expected `policy = \"" ++ policiesStr "|" ++ "\"`"
def msgScopeInvalid : String := "Invalid scope: expected \"global\" or \"thread\""
def msgScopeLit : String := "Invalid literal for `scope`: expected string"
def msgScopeSyntax : String := "Invalid syntax for `scope`: expected `scope = \"global\"|\"thread\"`"
def msgArrayElem : String := "Array elements must be string literals"
def msgArrayExpected : String := "Expected array of strings like [\"tag1\", \"tag2\"]"
def msgInvalidateOn : String := "Invalid syntax for `invalidate_on`: expected `invalidate_on = function_name`"
def msgCacheIf : String := "Invalid syntax for `cache_if`: expected `cache_if = function_name`"
def msgUnknown (k : Kind) (name : String) : String :=
  "Unknown attribute: `" ++ name ++ "`. Valid attributes are: limit, policy, ttl, " ++
  (match k with | .sync => "scope, " | .async => "") ++
  "name, max_memory, tags, events, dependencies, invalidate_on, cache_if, frequency_weight"

/-! ### Per-attribute parsers -/

def usizeBound : Nat := 2 ^ 64

/-- `parse_limit_attribute` (`lib.rs:90-101`) -/
def parseLimit : AttrVal → Spliced Nat
  | .intLit neg v _ => if !neg && v < usizeBound then .ok (some v) else .compileError .limitRange
  | .floatLit .. | .strLit _ | .boolLit _ | .otherLit => .compileError .limitLit
  | _ => .compileError .limitSyntax

/-- `parse_policy_attribute` (`lib.rs:104-131`) -/
def parsePolicy : AttrVal → Except String String
  | .strLit s => if policies.contains s then .ok s else .error msgPolicyInvalid
  | .intLit .. | .floatLit .. | .boolLit _ | .otherLit => .error msgPolicyLit
  | _ => .error msgPolicySyntax

/-- `parse_ttl_attribute` (`lib.rs:134-147`); `.error` = the `.expect` panicked -/
def parseTtl : AttrVal → Except String (Spliced Nat)
  | .intLit neg v _ =>
    if !neg && v < 2 ^ 64 then .ok (.ok (some v)) else .error "ttl must be a positive integer (seconds)"
  | .floatLit .. | .strLit _ | .boolLit _ | .otherLit => .ok (.compileError .ttlLit)
  | _ => .ok (.compileError .ttlSyntax)

def Rounded.toF64 : Rounded → F64
  | .finite x => x
  | _ => ⟨0, 0⟩

/-- `parse_frequency_weight_attribute` (`lib.rs:162-191`).  A float literal that is negative, zero, or so
    small that it rounds to `0.0` is refused (`val <= 0.0`); one so large that it rounds to `inf` makes
    `quote!` panic (`Literal::f64_suffixed` asserts finiteness).  ANY `u64` integer literal is accepted,
    `0` included (`val as f64`, no sign test). -/
def parseFrequencyWeight : AttrVal → Except String (Spliced F64)
  | .floatLit neg m e _ =>
    if neg then .ok (.compileError .fwNonPositive)
    else match roundDec m e with
      | .zero => .ok (.compileError .fwNonPositive)
      | .inf => .error "assertion failed: f.is_finite()"
      | .finite x => .ok (.ok (some x))
  | .intLit neg v _ =>
    if !neg && v < 2 ^ 64 then .ok (.ok (some (roundRat v 1).toF64)) else .error "frequency_weight must be a number"
  | .strLit _ | .boolLit _ | .otherLit => .ok (.compileError .fwLit)
  | _ => .ok (.compileError .fwSyntax)

/-- `parse_name_attribute` (`lib.rs:194-202`): anything but a string literal silently yields `None` -/
def parseName : AttrVal → Option String
  | .strLit s => some s
  | _ => none

/-! #### `max_memory` strings (`lib.rs:209-248`), on `List Char` -/

/-- value of a string of ASCII digits -/
def decVal (ds : List Char) : Nat := Nat.ofDigitChars 10 ds 0

/-- `str::parse::<usize>()` on a 64-bit target: an optional single `+`, then one or more ASCII digits,
    value below `2^64` (`core::num::from_str_radix`: a lone `+`/`-` and the empty string are errors, `-`
    is an invalid digit for unsigned types) -/
def parseUsize (s : List Char) : Option Nat :=
  let ds := match s with
    | '+' :: r => r
    | _ => s
  if ds = [] then none
  else if ds.all Char.isDigit then (if decVal ds < usizeBound then some (decVal ds) else none)
  else none

/-- `s.ends_with("ab")` -/
def endsWith2 (a b : Char) (s : List Char) : Bool :=
  match s.reverse with
  | y :: x :: _ => x == a && y == b
  | _ => false

/-- on the REVERSED string: drop every leading `b a` -/
def trimRev2 (a b : Char) : List Char → List Char
  | y :: x :: r => if x = a ∧ y = b then trimRev2 a b r else y :: x :: r
  | [y] => [y]
  | [] => []

/-- `s.trim_end_matches("ab")`: strips the suffix REPEATEDLY -/
def trimEndMatches2 (a b : Char) (s : List Char) : List Char := (trimRev2 a b s.reverse).reverse

/-- `n.checked_mul(1024usize.pow(k))` (`lib.rs:217-220,228-231,239-242`, commit 1b1b026): a product that
    does not fit in `usize` is refused with `compile_error!("max_memory is too large")` -/
def mulUnit (n k : Nat) : Spliced Nat :=
  if n * 1024 ^ k < usizeBound then .ok (some (n * 1024 ^ k)) else .compileError .mmTooLarge

/-- the `GB` / `MB` / `KB` branches: strip the unit (repeatedly), parse the rest, multiply -/
def mmWithUnit (u : List Char) (a : Char) (k : Nat) : Spliced Nat :=
  match parseUsize (trimEndMatches2 a 'B' u) with
  | some n => mulUnit n k
  | none => .compileError .mmNumber

/-- `lib.rs:214-255` on the upper-cased string: units are tested in the order GB, MB, KB -/
def parseMaxMemoryUpper (u : List Char) : Spliced Nat :=
  if endsWith2 'G' 'B' u then mmWithUnit u 'G' 3
  else if endsWith2 'M' 'B' u then mmWithUnit u 'M' 2
  else if endsWith2 'K' 'B' u then mmWithUnit u 'K' 1
  else match parseUsize u with
    | some n => .ok (some n)
    | none => .compileError .mmFormat

/-- `val_str.to_uppercase()` first (see the note below) -/
def parseMaxMemoryStr (s : List Char) : Spliced Nat :=
  parseMaxMemoryUpper (s.map Char.toUpper)

/- Note on `to_uppercase()`: Rust's is the Unicode mapping, `Char.toUpper` the ASCII one.  The only
   non-ASCII characters whose upper case contains an ASCII character are `ı` (→ `I`), `ſ` (→ `S`) and the
   ligatures/`ß` (→ `FF`, `FI`, `FL`, `ST`, `SS`, …), none of which produces a digit, `+`, `G`, `M`, `K` or
   `B`; a string containing any non-ASCII character is therefore rejected by both with the same message
   (the unit test only looks at the last two characters, the number test refuses every non-digit). -/

/-- `parse_max_memory_attribute` (`lib.rs:206-273`); `.error` = the `.expect` panicked -/
def parseMaxMemory : AttrVal → Except String (Spliced Nat)
  | .strLit s => .ok (parseMaxMemoryStr s.toList)
  | .intLit neg v _ =>
    if !neg && v < usizeBound then .ok (.ok (some v)) else .error "max_memory must be a positive integer (bytes)"
  | .floatLit .. | .boolLit _ | .otherLit => .ok (.compileError .mmLit)
  | _ => .ok (.compileError .mmSyntax)

/-- `parse_scope_attribute` (`lib.rs:276-296`) -/
def parseScope : AttrVal → Except String Scope
  | .strLit s => if s = "global" then .ok .global else if s = "thread" then .ok .thread else .error msgScopeInvalid
  | .intLit .. | .floatLit .. | .boolLit _ | .otherLit => .error msgScopeLit
  | _ => .error msgScopeSyntax

/-- the loop of `parse_string_array_attribute` over the elements -/
def parseElems : List ArrElem → Option (List String)
  | [] => some []
  | .str s :: r => (parseElems r).map (s :: ·)
  | .other :: _ => none

/-- `parse_string_array_attribute` (`lib.rs:370-397`) -/
def parseStringArray : AttrVal → Except String (List String)
  | .array elems => match parseElems elems with
    | some ss => .ok ss
    | none => .error msgArrayElem
  | _ => .error msgArrayExpected

/-- `parse_invalidate_on_attribute` / `parse_cache_if_attribute` (`lib.rs:401-419`) -/
def parsePathAttr (msg : String) : AttrVal → Except String Path
  | .path p => .ok p
  | _ => .error msg

/-! ### The parser loops -/

def liftErr {α : Type} (r : Except String α) (f : α → Parsed) : Result :=
  match r with
  | .ok a => .ok (f a)
  | .error m => .error (.parserErr m)

def liftPanic {α : Type} (r : Except String α) (f : α → Parsed) : Result :=
  match r with
  | .ok a => .ok (f a)
  | .error m => .error (.panics m)

/-- a value parser's outcome through `reject_invalid(...)?` (`lib.rs:424-430`, commit 82aef8c): a panic is a
    panic; `compile_error!` tokens (the only token strings of a value parser that start with `compile_error`)
    are returned as `Err` IMMEDIATELY; `None` / `Some(..)` tokens are stored -/
def liftValue {α : Type} (r : Except String (Spliced α)) (f : Spliced α → Parsed) : Result :=
  match r with
  | .error m => .error (.panics m)
  | .ok (.compileError e) => .error (.parserErr e.msg)
  | .ok (.ok v) => .ok (f (.ok v))

/-- one iteration of the `for nv in parsed_args` loop of `parse_sync_attributes` (`lib.rs:539-608`) /
    `parse_async_attributes` (`lib.rs:486-522`), `parse_common_attribute` (`lib.rs:434-472`) inlined.
    Every recognised attribute OVERWRITES its field (so a later occurrence wins); `Err` — including an
    invalid `limit` / `ttl` / `max_memory` / `frequency_weight` value — and panics abort at once. -/
def stepAttr (k : Kind) (st : Parsed) (n : String) (v : AttrVal) : Result :=
  if n = "limit" then liftValue (.ok (parseLimit v)) (fun x => { st with limit := x })
  else if n = "policy" then liftErr (parsePolicy v) (fun s => { st with policy := s })
  else if n = "ttl" then liftValue (parseTtl v) (fun t => { st with ttl := t })
  else if n = "scope" ∧ k = .sync then liftErr (parseScope v) (fun s => { st with scope := s })
  else if n = "name" then .ok { st with name := parseName v }
  else if n = "max_memory" then liftValue (parseMaxMemory v) (fun m => { st with maxMemory := m })
  else if n = "tags" then liftErr (parseStringArray v) (fun l => { st with tags := l })
  else if n = "events" then liftErr (parseStringArray v) (fun l => { st with events := l })
  else if n = "dependencies" then liftErr (parseStringArray v) (fun l => { st with dependencies := l })
  else if n = "invalidate_on" then liftErr (parsePathAttr msgInvalidateOn v) (fun p => { st with invalidateOn := some p })
  else if n = "cache_if" then liftErr (parsePathAttr msgCacheIf v) (fun p => { st with cacheIf := some p })
  else if n = "frequency_weight" then liftValue (parseFrequencyWeight v) (fun w => { st with frequencyWeight := w })
  else .error (.parserErr (msgUnknown k n))

def parseLoop (k : Kind) : Parsed → AttrList → Result
  | st, [] => .ok st
  | st, (n, v) :: rest =>
    match stepAttr k st n v with
    | .ok st' => parseLoop k st' rest
    | .error e => .error e

def parse (k : Kind) (l : AttrList) : Result := parseLoop k Parsed.default l

/-- `parse_sync_attributes` -/
def parseSync (l : AttrList) : Result := parse .sync l
/-- `parse_async_attributes` -/
def parseAsync (l : AttrList) : Result := parse .async l

/-! ### What the macros do with the parsed values -/

/-- is `pat` an infix of `s`?  (`str::contains`) -/
def hasInfix (pat : List Char) : List Char → Bool
  | [] => pat.isEmpty
  | c :: s => pat.isPrefixOf (c :: s) || hasInfix pat s

/-- how a string literal token prints its content: `"` and `\` are escaped (the parser's messages contain no
    other character that `Literal::string` escapes) -/
def escapeLit : List Char → List Char
  | [] => []
  | c :: s => if c = '"' ∨ c = '\\' then '\\' :: c :: escapeLit s else c :: escapeLit s

/-- `TokenStream::to_string()` of the `max_memory` field -/
def mmTokens (k : Kind) : Spliced Nat → List Char
  | .ok none => (match k with | .sync => "None" | .async => "Option :: < usize > :: None").toList
  | .ok (some n) => "Some (".toList ++ Nat.toDigits 10 n ++ "usize)".toList
  | .compileError e => "compile_error ! (\"".toList ++ escapeLit e.msg.toList ++ "\")".toList

/-- `has_max_memory` (`cachelito-macros/src/lib.rs:222-226`, `cachelito-async-macros/src/lib.rs:22-24`): the
    TEXTUAL test `!tokens.to_string().contains("None")` selecting the memory-aware insert -/
def hasMaxMemory (k : Kind) (p : Parsed) : Bool := !hasInfix "None".toList (mmTokens k p.maxMemory)

/-- `is_result` (`cachelito-macros/src/lib.rs:762-765`, `cachelito-async-macros/src/lib.rs:342-345`): the return
    type's token string with the spaces removed starts with `Result<` or `std::result::Result<` -/
def isResultSpelling (retType : String) : Bool :=
  let t := retType.toList.filter (· ≠ ' ')
  "Result<".toList.isPrefixOf t || "std::result::Result<".toList.isPrefixOf t

/-- `fn_name_str`: the `name` attribute or the function identifier -/
def fnNameStr (p : Parsed) (ident : String) : String := p.name.getD ident

/-! ### Independent specification: validity and meaning "as written" -/

/-- last value written for attribute `name` -/
def lastVal (name : String) : AttrList → Option AttrVal
  | [] => none
  | (n, v) :: rest =>
    match lastVal name rest with
    | some w => some w
    | none => if n = name then some v else none

def knownNames : Kind → List String
  | .sync => ["limit", "policy", "ttl", "scope", "name", "max_memory", "tags", "events", "dependencies",
              "invalidate_on", "cache_if", "frequency_weight"]
  | .async => ["limit", "policy", "ttl", "name", "max_memory", "tags", "events", "dependencies",
               "invalidate_on", "cache_if", "frequency_weight"]

/-- `(a B)^j`: how many repetitions, if the list is nothing else -/
def unitReps (a : Char) : List Char → Option Nat
  | [] => some 0
  | x :: y :: r => if x = a ∧ y = 'B' then (unitReps a r).map (· + 1) else none
  | _ => none

/-- exponent of a unit letter (`K`/`M`/`G` = 1/2/3), 0 for anything else -/
def unitExp (c : Char) : Nat := if c = 'K' then 1 else if c = 'M' then 2 else if c = 'G' then 3 else 0

/-- what follows the digits: nothing, or one unit written `j ≥ 1` times -/
def scanUnit : List Char → Option (Nat × Nat)
  | [] => some (0, 0)
  | c :: r => if unitExp c = 0 then none else (unitReps c (c :: r)).map (fun j => (unitExp c, j))

/-- digits, then `scanUnit` -/
def scanBody (sg : Bool) (body : List Char) : Option (Bool × Nat × Nat × Nat) :=
  if body.takeWhile Char.isDigit = [] then none
  else (scanUnit (body.dropWhile Char.isDigit)).map
    (fun kj => (sg, decVal (body.takeWhile Char.isDigit), kj.1, kj.2))

/-- forward scan of an (upper-cased) `max_memory` string: `[+] digits (unit)^j`.  Returns whether a sign was
    written, the number, the exponent `k` of the unit (`KB/MB/GB` = 1/2/3, none = 0) and `j`. -/
def scanMM : List Char → Option (Bool × Nat × Nat × Nat)
  | '+' :: r => scanBody true r
  | u => scanBody false u

/-- the documented forms: digits, optionally followed by ONE unit, in any letter case; value in `usize` -/
def mmStrict (s : String) : Option Nat :=
  match scanMM (s.toList.map Char.toUpper) with
  | some (false, n, k, j) => if j ≤ 1 ∧ n * 1024 ^ k < usizeBound then some (n * 1024 ^ k) else none
  | _ => none

/-- the forms the parser tolerates beyond the documented ones: a leading `+`, a repeated unit -/
def mmLenient (s : String) : Option (Nat × Nat) :=
  match scanMM (s.toList.map Char.toUpper) with
  | some (_, n, k, _) => if n < usizeBound then some (n, k) else none
  | none => none

def validLimit : AttrVal → Bool
  | .intLit false v _ => v < usizeBound
  | _ => false

def validTtl : AttrVal → Bool
  | .intLit false v _ => v < 2 ^ 64
  | _ => false

def validPolicy : AttrVal → Bool
  | .strLit s => policies.contains s
  | _ => false

def validScope : AttrVal → Bool
  | .strLit s => s = "global" || s = "thread"
  | _ => false

def validMaxMemory : AttrVal → Bool
  | .strLit s => (mmStrict s).isSome
  | .intLit false v _ => v < usizeBound
  | _ => false

/-- a float literal denoting a positive finite `f64`, or a positive integer literal below `2^64` -/
def validFrequencyWeight : AttrVal → Bool
  | .floatLit false m e _ => match roundDec m e with
    | .finite _ => true
    | _ => false
  | .intLit false v _ => 0 < v && v < 2 ^ 64
  | _ => false

def validStrArray : AttrVal → Bool
  | .array elems => elems.all ArrElem.isStr
  | _ => false

def isStr : AttrVal → Bool
  | .strLit _ => true
  | _ => false

def isPath : AttrVal → Bool
  | .path _ => true
  | _ => false

/-- the value is of the right kind and in range for the attribute `n` of macro `k` (false for unknown names) -/
def validAttr (k : Kind) (n : String) (v : AttrVal) : Bool :=
  if n = "limit" then validLimit v
  else if n = "policy" then validPolicy v
  else if n = "ttl" then validTtl v
  else if n = "scope" then (k = .sync) && validScope v
  else if n = "name" then isStr v
  else if n = "max_memory" then validMaxMemory v
  else if n = "tags" ∨ n = "events" ∨ n = "dependencies" then validStrArray v
  else if n = "invalidate_on" ∨ n = "cache_if" then isPath v
  else if n = "frequency_weight" then validFrequencyWeight v
  else false

/-- every attribute known to the macro and every value valid -/
def Valid (k : Kind) (l : AttrList) : Prop := ∀ a ∈ l, validAttr k a.1 a.2 = true

instance (k : Kind) (l : AttrList) : Decidable (Valid k l) := by unfold Valid; infer_instance

/-- the configuration an attribute list denotes -/
structure Meaning where
  limit : Option Nat
  policy : Policy
  ttl : Option Nat
  scope : Scope
  name : Option String
  maxMemory : Option Nat
  tags : List String
  events : List String
  dependencies : List String
  invalidateOn : Option Path
  cacheIf : Option Path
  frequencyWeight : Option F64
  deriving DecidableEq, Repr

def policyOfName (s : String) : Policy :=
  if s = "lru" then .lru else if s = "lfu" then .lfu else if s = "arc" then .arc
  else if s = "random" then .random else if s = "tlru" then .tlru else .fifo

def policyName : Policy → String
  | .fifo => "fifo" | .lru => "lru" | .lfu => "lfu" | .arc => "arc" | .random => "random" | .tlru => "tlru"

def natOf : Option AttrVal → Option Nat
  | some (.intLit _ v _) => some v
  | _ => none

def strOf : Option AttrVal → Option String
  | some (.strLit s) => some s
  | _ => none

def strsOf : Option AttrVal → List String
  | some (.array elems) => elems.filterMap ArrElem.str?
  | _ => []

def pathOf : Option AttrVal → Option Path
  | some (.path p) => some p
  | _ => none

/-- bytes denoted by a `max_memory` value: `n`, or `n · 1024^{1,2,3}` for `KB/MB/GB` -/
def memOf : Option AttrVal → Option Nat
  | some (.strLit s) => mmStrict s
  | some (.intLit _ v _) => some v
  | _ => none

/-- the `f64` nearest to the written number -/
def weightOf : Option AttrVal → Option F64
  | some (.floatLit _ m e _) => some (roundDec m e).toF64
  | some (.intLit _ v _) => some (roundRat v 1).toF64
  | _ => none

/-- "As written": for each attribute the LAST value written, defaults otherwise. -/
def meaning (k : Kind) (l : AttrList) : Meaning :=
  { limit := natOf (lastVal "limit" l)
    policy := match strOf (lastVal "policy" l) with
      | some s => policyOfName s
      | none => .fifo
    ttl := natOf (lastVal "ttl" l)
    scope := match k, strOf (lastVal "scope" l) with
      | .sync, some s => if s = "thread" then .thread else .global
      | _, _ => .global
    name := strOf (lastVal "name" l)
    maxMemory := memOf (lastVal "max_memory" l)
    tags := strsOf (lastVal "tags" l)
    events := strsOf (lastVal "events" l)
    dependencies := strsOf (lastVal "dependencies" l)
    invalidateOn := pathOf (lastVal "invalidate_on" l)
    cacheIf := pathOf (lastVal "cache_if" l)
    frequencyWeight := weightOf (lastVal "frequency_weight" l) }

/-- the parser output that carries exactly these values -/
def Meaning.toParsed (m : Meaning) : Parsed :=
  { limit := .ok m.limit, policy := policyName m.policy, ttl := .ok m.ttl, scope := m.scope, name := m.name,
    maxMemory := .ok m.maxMemory, tags := m.tags, events := m.events, dependencies := m.dependencies,
    invalidateOn := m.invalidateOn, cacheIf := m.cacheIf, frequencyWeight := .ok m.frequencyWeight }

/-- the core cache configuration the generated function constructs (`GlobalCache::new` /
    `ThreadLocalCache::new` / `AsyncGlobalCache::new` with these arguments) -/
def Meaning.toCfg (k : Kind) (m : Meaning) : Cfg :=
  { flavour := match k, m.scope with
      | .async, _ => .async
      | .sync, .thread => .threadLocal
      | .sync, .global => .global
    policy := m.policy, limit := m.limit, maxMem := m.maxMemory, ttl := m.ttl }

/-! ### What must be rejected according to the property (used by the monitors) -/

/-- `max_memory` values outside everything the parser is known to tolerate -/
def badMaxMemory : AttrVal → Bool
  | .strLit s => match mmLenient s with
    | none => true
    | some (n, k) => usizeBound ≤ n * 1024 ^ k
  | .intLit neg v _ => neg || usizeBound ≤ v
  | _ => true

/-- `frequency_weight` values outside everything the parser is known to tolerate (it tolerates every
    non-negative integer literal below `2^64`, `0` included) -/
def badFrequencyWeight : AttrVal → Bool
  | .floatLit neg m e _ => neg || (match roundDec m e with | .finite _ => false | _ => true)
  | .intLit neg v _ => neg || 2 ^ 64 ≤ v
  | _ => true

/-- an attribute the property says must not be silently accepted: unknown name, or an invalid
    `policy` / `scope` / `limit` / `ttl` / `max_memory` (/ `frequency_weight`) value -/
def mustRejectAttr (k : Kind) (n : String) (v : AttrVal) : Bool :=
  if !(knownNames k).contains n then true
  else if n = "limit" then !validLimit v
  else if n = "policy" then !validPolicy v
  else if n = "ttl" then !validTtl v
  else if n = "scope" then !validScope v
  else if n = "max_memory" then badMaxMemory v
  else if n = "frequency_weight" then badFrequencyWeight v
  else false

/-! ### Legacy: the parser BEFORE commits 82aef8c / 1b1b026 (regression witnesses only)

The value parsers' `compile_error!` tokens were STORED in the field and the loop carried on, so a later
occurrence of the same attribute overwrote them; and the `max_memory` product was a plain `n * 1024 * …`
that panicked with overflow checks (`oc = true`) and wrapped without. -/

namespace Legacy

def mulUnit (oc : Bool) (n k : Nat) : Except String Nat :=
  if n * 1024 ^ k < usizeBound then .ok (n * 1024 ^ k)
  else if oc then .error "attempt to multiply with overflow"
  else .ok (n * 1024 ^ k % usizeBound)

def mmWithUnit (oc : Bool) (u : List Char) (a : Char) (k : Nat) : Except String (Spliced Nat) :=
  match parseUsize (trimEndMatches2 a 'B' u) with
  | some n => (mulUnit oc n k).map (fun b => .ok (some b))
  | none => .ok (.compileError .mmNumber)

def parseMaxMemoryUpper (oc : Bool) (u : List Char) : Except String (Spliced Nat) :=
  if endsWith2 'G' 'B' u then mmWithUnit oc u 'G' 3
  else if endsWith2 'M' 'B' u then mmWithUnit oc u 'M' 2
  else if endsWith2 'K' 'B' u then mmWithUnit oc u 'K' 1
  else match parseUsize u with
    | some n => .ok (.ok (some n))
    | none => .ok (.compileError .mmFormat)

def parseMaxMemory (oc : Bool) : AttrVal → Except String (Spliced Nat)
  | .strLit s => parseMaxMemoryUpper oc (s.toList.map Char.toUpper)
  | v => Attrs.parseMaxMemory v

def stepAttr (k : Kind) (oc : Bool) (st : Parsed) (n : String) (v : AttrVal) : Result :=
  if n = "limit" then .ok { st with limit := parseLimit v }
  else if n = "ttl" then liftPanic (parseTtl v) (fun t => { st with ttl := t })
  else if n = "max_memory" then liftPanic (parseMaxMemory oc v) (fun m => { st with maxMemory := m })
  else if n = "frequency_weight" then liftPanic (parseFrequencyWeight v) (fun w => { st with frequencyWeight := w })
  else Attrs.stepAttr k st n v

def parseLoop (k : Kind) (oc : Bool) : Parsed → AttrList → Result
  | st, [] => .ok st
  | st, (n, v) :: rest =>
    match stepAttr k oc st n v with
    | .ok st' => parseLoop k oc st' rest
    | .error e => .error e

def parse (k : Kind) (oc : Bool) (l : AttrList) : Result := parseLoop k oc Parsed.default l

end Legacy

end Cachelito.Attrs
