/-
  Lemmas about the data-carrying interleaving model `Cachelito.ConcData` (C18).

  §1  shape of `tstep` / `cstepWith`, a thread list split around the stepping thread; lifting of invariants along
      schedules, to all threads, along histories
  §2  "shrinking" steps: every eviction (with or WITHOUT the sequential invariant, i.e. with orphan
      queue keys and untracked stored keys present) removes a sub-list of the store and of the queue and
      never un-tracks a key that stays stored; the three cases of the sync queue section of
      `insert_with_memory` (`trackMemStep_cases`, `loopTarget`)
  §3  the micro-steps: the read step of a lookup (`first_get`), the first step of a store (one equation per
      engine), what the first steps other than reads do to the counters (`*_stats`, `first_other`, used by
      `Lemmas/ConcStats`), which local state fits which operation (`Pend.opOf`, `Pend.okFor`, `PendFits`,
      `ResFits`, used from §9 on), the continuation a local state stands for (`cont`, `micro_some`); one
      sequential step = the micro-steps of its operation back to back (`micro_chain`)
  §4  values: every stored pair is `(k, f k)`
  §5  async engine: every micro-step preserves what its primitives preserve (`micro_async_rec`): `Inv`, the
      entry and memory bounds
  §6  sync engine: the same (`micro_sync_rec`) with stores in flight: invariant, entry bound, and their lifting
      from one micro-step to a step of the system (`cstepWith_inflight`)
  §7  one sequential step from a quiescent sync state, whose queue may hold orphan keys (`step_of_micro`):
      weak invariant, entry bound, values
  §8  sync engine: the memory bound with stores in flight
  §9  whole histories / schedules, faithful bookkeeping of the finished-operation records
  §10 a one-thread system is exactly the sequential model `Cachelito.run`
-/
import Cachelito.ConcData
import Cachelito.Lemmas.Inv
import Cachelito.Lemmas.Mem
import Cachelito.Lemmas.Hist
import Cachelito.Lemmas.Score

set_option linter.unusedSectionVars false

namespace Cachelito.ConcData
open Cachelito

variable {K V S : Type} [DecidableEq K]
variable (legacy : Bool) (cfg : Cfg) (tl : Tlru S) (size : V → Nat)

/-! ## §1 Shape of a step -/

theorem tstep_some {legacy : Bool} {cfg : Cfg} {tl : Tlru S} {size : V → Nat} {s s' : State K V}
    {t t' : Thread K V} (h : tstep legacy cfg tl size s t = some (s', t')) :
    ∃ op rs rest, t.prog = (op, rs) :: rest ∧
      ((∃ p, micro legacy cfg tl size s op rs t.pend = (s', .more p) ∧ t' = { t with pend := some p }) ∨
       (∃ op' o, micro legacy cfg tl size s op rs t.pend = (s', .fin op' o) ∧
          t' = { prog := rest, pend := none, done := t.done ++ [(op', o)] })) := by
  unfold tstep at h
  split at h
  · cases h
  · rename_i op rs rest hp
    refine ⟨op, rs, rest, hp, ?_⟩
    split at h <;> cases h
    · exact Or.inl ⟨_, ‹_›, rfl⟩
    · exact Or.inr ⟨_, _, ‹_›, rfl⟩

/-- `tstep` computed forwards on a thread given by its three fields (`tstep_some` is the inversion) -/
theorem tstep_cons (legacy : Bool) (cfg : Cfg) (tl : Tlru S) (size : V → Nat) (s : State K V) (op : Op K V)
    (rs : List Nat) (rest : List (Op K V × List Nat)) (p : Option (Pend K V)) (d : List (Op K V × Out V)) :
    ∃ t', tstep legacy cfg tl size s ⟨(op, rs) :: rest, p, d⟩ = some ((micro legacy cfg tl size s op rs p).1, t') ∧
      ((∃ p', (micro legacy cfg tl size s op rs p).2 = .more p' ∧ t' = ⟨(op, rs) :: rest, some p', d⟩) ∨
       (∃ op' o, (micro legacy cfg tl size s op rs p).2 = .fin op' o ∧ t' = ⟨rest, none, d ++ [(op', o)]⟩)) := by
  unfold tstep
  simp only
  generalize micro legacy cfg tl size s op rs p = r
  obtain ⟨s1, res⟩ := r
  cases res with
  | more p' => exact ⟨_, rfl, Or.inl ⟨p', rfl, rfl⟩⟩
  | fin op' o => exact ⟨_, rfl, Or.inr ⟨op', o, rfl, rfl⟩⟩

theorem cstepWith_some {legacy : Bool} {cfg : Cfg} {tl : Tlru S} {size : V → Nat} {c c' : CState K V} {i : Nat}
    (h : cstepWith legacy cfg tl size c i = some c') :
    ∃ t s' t', c.threads[i]? = some t ∧ tstep legacy cfg tl size c.shared t = some (s', t') ∧
      c' = ⟨s', c.threads.set i t'⟩ := by
  unfold cstepWith at h
  split at h
  · cases h
  · split at h <;> cases h
    exact ⟨_, _, _, ‹_›, ‹_›, rfl⟩

theorem crunWith_invariant (P : CState K V → Prop)
    (hstep : ∀ c i c', P c → cstepWith legacy cfg tl size c i = some c' → P c')
    (sch : List ThreadId) (c : CState K V) (h : P c) : P (crunWith legacy cfg tl size sch c) := by
  induction sch generalizing c with
  | nil => exact h
  | cons i sch ih =>
    simp only [crunWith]
    cases hs : cstepWith legacy cfg tl size c i with
    | none => exact ih c h
    | some c' => exact ih c' (hstep c i c' h hs)

set_option linter.unusedVariables false in
theorem mem_set_cases {α : Type} {l : List α} {i : Nat} {t t' x : α} (hi : l[i]? = some t)
    (hx : x ∈ l.set i t') : x = t' ∨ x ∈ l := by
  rcases List.mem_or_eq_of_mem_set hx with h | h
  · right; exact h
  · left; exact h

/-- a list split around its `i`-th element -/
theorem split_of_getElem? {α : Type} {l : List α} {i : Nat} {t : α} (hi : l[i]? = some t) :
    ∃ l1 l2, l = l1 ++ t :: l2 ∧ l1.length = i ∧ ∀ t', l.set i t' = l1 ++ t' :: l2 := by
  obtain ⟨hlt, rfl⟩ := List.getElem?_eq_some_iff.mp hi
  exact ⟨l.take i, l.drop (i + 1), by rw [← List.drop_eq_getElem_cons hlt, List.take_append_drop],
    by rw [List.length_take]; omega, fun t' => by rw [List.set_eq_take_append_cons_drop, if_pos hlt]⟩

theorem mem_mid {α : Type} {l1 l2 : List α} {t x : α} : x ∈ l1 ++ t :: l2 ↔ x = t ∨ x ∈ l1 ++ l2 := by
  simp only [List.mem_append, List.mem_cons]; exact or_left_comm

theorem forall_mid {α : Type} {Q : α → Prop} {l1 l2 : List α} {t : α} :
    (∀ x, x ∈ l1 ++ t :: l2 → Q x) ↔ Q t ∧ ∀ x, x ∈ l1 ++ l2 → Q x :=
  ⟨fun h => ⟨h t (mem_mid.mpr (Or.inl rfl)), fun x hx => h x (mem_mid.mpr (Or.inr hx))⟩,
   fun h x hx => (mem_mid.mp hx).elim (fun e => e ▸ h.1) (h.2 x)⟩

theorem cstepWith_forall {legacy : Bool} {cfg : Cfg} {tl : Tlru S} {size : V → Nat} {c c' : CState K V} {i : Nat}
    {T : Thread K V → Prop} (h : cstepWith legacy cfg tl size c i = some c') (hT : ∀ t, t ∈ c.threads → T t)
    (hstep : ∀ t s' t', t ∈ c.threads → tstep legacy cfg tl size c.shared t = some (s', t') → T t') :
    ∀ t, t ∈ c'.threads → T t := by
  obtain ⟨t, s', t', hi, hts, rfl⟩ := cstepWith_some h
  intro x hx
  rcases mem_set_cases hi hx with rfl | hx
  · exact hstep t s' _ (List.mem_of_getElem? hi) hts
  · exact hT x hx

theorem cstepWith_shared {legacy : Bool} {cfg : Cfg} {tl : Tlru S} {size : V → Nat} {c c' : CState K V} {i : Nat}
    (h : cstepWith legacy cfg tl size c i = some c') :
    ∃ t op rs, t ∈ c.threads ∧ (op, rs) ∈ t.prog ∧
      c'.shared = (micro legacy cfg tl size c.shared op rs t.pend).1 := by
  obtain ⟨t, s', t', hi, hts, rfl⟩ := cstepWith_some h
  obtain ⟨op, rs, rest, hprog, hcase⟩ := tstep_some hts
  refine ⟨t, op, rs, List.mem_of_getElem? hi, hprog ▸ List.mem_cons_self, ?_⟩
  rcases hcase with ⟨p, hm, _⟩ | ⟨op', o, hm, _⟩ <;> rw [hm]

theorem forall_start {T : Thread K V → Prop} (s : State K V) {progs : List (List (Op K V × List Nat))}
    (h : ∀ prog, prog ∈ progs → T (Thread.start prog)) : ∀ t, t ∈ (CState.start s progs).threads → T t := by
  intro t ht
  obtain ⟨prog, hprog, rfl⟩ := List.mem_map.mp ht
  exact h prog hprog

theorem run_invariant {J : State K V → Prop} (ops : List (Op K V × List Nat))
    (hstep : ∀ s op rs, (op, rs) ∈ ops → J s → J (step cfg tl size rs s op).1) (s : State K V) (h : J s) :
    J (run cfg tl size s ops).1 := by
  induction ops generalizing s with
  | nil => exact h
  | cons a ops ih =>
    exact ih (fun s op rs hm => hstep s op rs (List.mem_cons_of_mem _ hm)) _ (hstep s a.1 a.2 List.mem_cons_self h)

/-! ## §2 Shrinking steps -/

/-- `(m', q')` is obtained from `(m, q)` by removing entries and queue slots only, and no key that
    stays stored loses its queue slot.  Holds for every eviction primitive of every engine, in ANY
    state (orphan queue keys, untracked stored keys, even duplicates). -/
structure Shr (m : Store K V) (q : List K) (m' : Store K V) (q' : List K) : Prop where
  store : m'.Sublist m
  queue : q'.Sublist q
  keep : ∀ x, x ∈ keys m' → x ∈ q → x ∈ q'

theorem Shr.refl (m : Store K V) (q : List K) : Shr m q m q :=
  ⟨List.Sublist.refl _, List.Sublist.refl _, fun _ _ h => h⟩

theorem Shr.trans {m m1 m2 : Store K V} {q q1 q2 : List K} (h1 : Shr m q m1 q1) (h2 : Shr m1 q1 m2 q2) :
    Shr m q m2 q2 :=
  ⟨h2.store.trans h1.store, h2.queue.trans h1.queue,
   fun x hx hq => h2.keep x hx (h1.keep x ((keys_sublist h2.store).subset hx) hq)⟩

theorem Shr.length_le {m m' : Store K V} {q q' : List K} (h : Shr m q m' q') : m'.length ≤ m.length :=
  h.store.length_le

theorem Shr.queue_length_le {m m' : Store K V} {q q' : List K} (h : Shr m q m' q') : q'.length ≤ q.length :=
  h.queue.length_le

theorem Shr.keys_sub {m m' : Store K V} {q q' : List K} (h : Shr m q m' q') :
    ∀ x, x ∈ keys m' → x ∈ keys m := fun _ hx => (keys_sublist h.store).subset hx

theorem Shr.eraseKey_of {m : Store K V} {q q' : List K} (k : K) (hq : q'.Sublist q)
    (hkeep : ∀ x, x ≠ k → x ∈ keys m → x ∈ q → x ∈ q') : Shr m q (eraseKey k m) q' := by
  refine ⟨eraseKey_sublist k m, hq, ?_⟩
  intro x hx hxq
  rw [keys_eraseKey] at hx
  have := List.mem_filter.mp hx
  exact hkeep x (by simpa using this.2) this.1 hxq

theorem popStored_shr (m : Store K V) (q : List K) : Shr m q (popStored m q).1 (popStored m q).2.1 := by
  induction q with
  | nil => exact Shr.refl _ _
  | cons a q ih =>
    simp only [popStored]
    by_cases ha : hasKey a m = true
    · simp only [ha, if_true]
      exact Shr.eraseKey_of a (List.sublist_cons_self a q) fun x hxa _ hxq =>
        (List.mem_cons.mp hxq).resolve_left hxa
    · simp only [ha, if_false, Bool.false_eq_true]
      refine ⟨ih.store, ih.queue.trans (List.sublist_cons_self a q), ?_⟩
      intro x hx hxq
      rcases List.mem_cons.mp hxq with h | h
      · subst h
        have hxm : x ∈ keys m := ih.keys_sub x hx
        exact absurd ((hasKey_iff x m).mpr hxm) ha
      · exact ih.keep x hx h

theorem popOne_shr (m : Store K V) (q : List K) : Shr m q (popOne m q).1 (popOne m q).2.1 := by
  cases q with
  | nil => exact Shr.refl _ _
  | cons a q =>
    simp only [popOne]
    exact Shr.eraseKey_of a (List.sublist_cons_self a q) fun x hxa _ hxq =>
      (List.mem_cons.mp hxq).resolve_left hxa

theorem mem_eraseIdx_of_ne {q : List K} {i : Nat} {k x : K} (hi : q[i]? = some k) (hx : x ∈ q) (hne : x ≠ k) :
    x ∈ q.eraseIdx i := by
  obtain ⟨j, hj⟩ := List.mem_iff_getElem?.mp hx
  exact List.mem_eraseIdx_iff_getElem?.mpr
    ⟨j, fun hji => hne (by rw [hji, hi] at hj; exact (Option.some.inj hj).symm), hj⟩

theorem evictRandom_shr (r : Nat) (m : Store K V) (q : List K) :
    Shr m q (evictRandom r m q).1 (evictRandom r m q).2.1 := by
  unfold evictRandom
  cases hq : q[r % q.length]? with
  | none => exact Shr.refl _ _
  | some k =>
    simp only
    refine Shr.eraseKey_of k (List.eraseIdx_sublist _ _) ?_
    intro x hxk _ hxq
    exact mem_eraseIdx_of_ne hq hxq hxk

theorem removeBoth_shr (k : K) (m : Store K V) (q : List K) :
    Shr m q (removeBoth cfg k m q).1 (removeBoth cfg k m q).2 := by
  unfold removeBoth
  cases cfg.flavour <;> simp only
  · exact Shr.eraseKey_of k List.erase_sublist (fun x hxk _ hxq => (List.mem_erase_of_ne hxk).mpr hxq)
  · exact Shr.eraseKey_of k List.erase_sublist (fun x hxk _ hxq => (List.mem_erase_of_ne hxk).mpr hxq)
  · exact Shr.eraseKey_of k List.filter_sublist
      (fun x hxk _ hxq => List.mem_filter.mpr ⟨hxq, by simpa using hxk⟩)

theorem evictScored_shr (now : Nat) (m : Store K V) (q : List K) :
    Shr m q (evictScored cfg tl now m q).1 (evictScored cfg tl now m q).2.1 := by
  unfold evictScored
  cases victim cfg tl now m q with
  | none => exact Shr.refl _ _
  | some k => exact removeBoth_shr cfg k m q

theorem evictLimit_shr (now r : Nat) (m : Store K V) (q : List K) :
    Shr m q (evictLimit cfg tl now r m q).1 (evictLimit cfg tl now r m q).2.1 := by
  unfold evictLimit
  cases cfg.policy <;> simp only
  · exact popStored_shr m q
  · exact popStored_shr m q
  · exact evictScored_shr cfg tl now m q
  · exact evictScored_shr cfg tl now m q
  · exact evictRandom_shr r m q
  · exact evictScored_shr cfg tl now m q

theorem evictMem_shr (now r : Nat) (m : Store K V) (q : List K) :
    Shr m q (evictMem cfg tl now r m q).1 (evictMem cfg tl now r m q).2.1 := by
  unfold evictMem
  cases cfg.policy <;> simp only
  · cases cfg.flavour <;> simp only
    · exact popStored_shr m q
    · exact popOne_shr m q
    · exact popOne_shr m q
  · cases cfg.flavour <;> simp only
    · exact popStored_shr m q
    · exact popOne_shr m q
    · exact popOne_shr m q
  · exact evictScored_shr cfg tl now m q
  · exact evictScored_shr cfg tl now m q
  · exact evictRandom_shr r m q
  · exact evictScored_shr cfg tl now m q

theorem limitStep_shr (now r : Nat) (m : Store K V) (q : List K) :
    Shr m q (limitStep cfg tl now r m q).1 (limitStep cfg tl now r m q).2 := by
  unfold limitStep
  cases cfg.limit with
  | none => exact Shr.refl _ _
  | some n =>
    simp only
    split
    · exact evictLimit_shr cfg tl now r m q
    · exact Shr.refl _ _

theorem memLoop_shr (now maxM extra : Nat) (fuel : Nat) (rs : List Nat) (m : Store K V) (q : List K) :
    Shr m q (memLoop cfg tl size now maxM extra fuel rs m q).1 (memLoop cfg tl size now maxM extra fuel rs m q).2.1 :=
  memLoop_induction (P := Shr m q) (fun r m' q' h => h.trans (evictMem_shr cfg tl now r m' q')) size maxM extra
    fuel rs (Shr.refl m q)

/-! ### The queue section of the sync `insert_with_memory` -/

/-- what the memory loop followed by the entry-limit step computes from the state `s` (queue already
    re-pushed), with `fuel` iterations allowed -/
def loopTarget (cfg : Cfg) (tl : Tlru S) (size : V → Nat) (maxM fuel : Nat) (rs : List Nat) (s : State K V) :
    State K V :=
  let r := memLoop cfg tl size s.now maxM 0 fuel rs s.store s.queue
  let l := limitStep cfg tl s.now (r.2.2.headD 0) r.1 r.2.1
  { s with store := l.1, queue := l.2 }

/-- **The queue section of the sync `insert_with_memory`** (store already written): the key is re-pushed; then,
    without a memory bound, the entry-limit step; an oversize entry is removed again together with its slot;
    otherwise the memory loop and the entry-limit step. -/
theorem trackMemStep_cases (rs : List Nat) (s : State K V) (k : K) :
    (cfg.maxMem = none ∧ trackMemStep cfg tl size rs s k =
      { s with store := (limitStep cfg tl s.now (rs.headD 0) s.store (erasePush k s.queue)).1,
               queue := (limitStep cfg tl s.now (rs.headD 0) s.store (erasePush k s.queue)).2 }) ∨
    (∃ maxM, cfg.maxMem = some maxM ∧ entrySize size k s.store > maxM ∧
      trackMemStep cfg tl size rs s k = { s with store := eraseKey k s.store, queue := s.queue.erase k }) ∨
    (∃ maxM, cfg.maxMem = some maxM ∧ ¬ entrySize size k s.store > maxM ∧
      trackMemStep cfg tl size rs s k =
        loopTarget cfg tl size maxM ((erasePush k s.queue).length + 1) rs { s with queue := erasePush k s.queue }) := by
  unfold trackMemStep loopTarget
  cases cfg.maxMem with
  | none => exact Or.inl ⟨rfl, rfl⟩
  | some maxM =>
    by_cases hov : entrySize size k s.store > maxM
    · exact Or.inr (Or.inl ⟨maxM, rfl, hov, by simp only [hov, if_true, dropLast_erasePush]⟩)
    · exact Or.inr (Or.inr ⟨maxM, rfl, hov, by simp only [hov, if_false]⟩)

theorem trackMemStep_shr (rs : List Nat) (s : State K V) (k : K) :
    Shr s.store (erasePush k s.queue) (trackMemStep cfg tl size rs s k).store (trackMemStep cfg tl size rs s k).queue := by
  rcases trackMemStep_cases cfg tl size rs s k with ⟨_, h⟩ | ⟨maxM, _, _, h⟩ | ⟨maxM, _, _, h⟩ <;> rw [h]
  · exact limitStep_shr cfg tl s.now _ s.store _
  · refine Shr.eraseKey_of k (List.sublist_append_left _ _) fun x hxk _ hxq => ?_
    exact (mem_erasePush.mp hxq).elim (List.mem_erase_of_ne hxk).mpr (absurd · hxk)
  · exact (memLoop_shr cfg tl size s.now maxM 0 _ rs s.store _).trans (limitStep_shr cfg tl s.now _ _ _)

theorem evictPhase_shr (now extra : Nat) (rs : List Nat) (m : Store K V) (q : List K) :
    Shr m q (evictPhase cfg tl size now extra rs m q).1 (evictPhase cfg tl size now extra rs m q).2 := by
  unfold evictPhase
  cases cfg.maxMem with
  | none => exact limitStep_shr cfg tl now _ m q
  | some maxM => exact (memLoop_shr cfg tl size now maxM extra _ rs m q).trans (limitStep_shr cfg tl now _ _ _)

theorem foldl_eraseKey_sublist (ks : List K) (m : Store K V) : (ks.foldl (fun m k => eraseKey k m) m).Sublist m := by
  induction ks generalizing m with
  | nil => exact List.Sublist.refl _
  | cons k ks ih => exact (ih (eraseKey k m)).trans (eraseKey_sublist k m)

theorem foldl_erase_sublist (ks : List K) (q : List K) : (ks.foldl (fun q k => q.erase k) q).Sublist q := by
  induction ks generalizing q with
  | nil => exact List.Sublist.refl _
  | cons k ks ih => exact (ih (q.erase k)).trans List.erase_sublist

theorem mem_foldl_erase_of_not_mem {ks q : List K} {x : K} (hx : x ∈ q) (hn : x ∉ ks) :
    x ∈ ks.foldl (fun q k => q.erase k) q := by
  induction ks generalizing q with
  | nil => exact hx
  | cons k ks ih =>
    simp only [List.mem_cons, not_or] at hn
    exact ih ((List.mem_erase_of_ne hn.1).mpr hx) hn.2

theorem invalidateWith_shr (p : K → Bool) (s : State K V) :
    Shr s.store s.queue (Cachelito.invalidateWith p s).store (Cachelito.invalidateWith p s).queue := by
  unfold Cachelito.invalidateWith
  refine ⟨List.filter_sublist, foldl_erase_sublist _ _, ?_⟩
  intro x hx hq
  simp only at hx ⊢
  rw [keys_filter_key (fun k => !p k)] at hx
  apply mem_foldl_erase_of_not_mem hq
  intro hh
  have h1 := (List.mem_filter.mp hx).2
  have h2 := (List.mem_filter.mp hh).2
  simp [h2] at h1

/-! ## §3 The micro-steps -/

theorem isAsync_of {cfg : Cfg} (hf : cfg.flavour = .async) : isAsync cfg = true := by
  simp [isAsync, hf]

theorem isAsync_false_of {cfg : Cfg} (hf : cfg.flavour ≠ .async) : isAsync cfg = false := by
  unfold isAsync; cases h : cfg.flavour <;> simp_all

/-- what a lookup that found an unexpired entry with value `v` does next -/
def hitRes (cfg : Cfg) (k : K) (v : V) : Res K V :=
  if isAsync cfg then
    if (cfg.limit.isSome || cfg.maxMem.isSome) && cfg.policy.refreshes then .more (.refresh k v)
    else .fin (.get k) (.val (some v))
  else if cfg.policy.refreshes then .more (.move k v)
  else if cfg.policy.bumps then .more (.bump k v)
  else .fin (.get k) (.val (some v))

theorem hitRes_cases (k : K) (v : V) :
    hitRes cfg k v = .fin (.get k) (.val (some v)) ∨ (isAsync cfg = true ∧ hitRes cfg k v = .more (.refresh k v)) ∨
    (isAsync cfg = false ∧ hitRes cfg k v = .more (.move k v)) ∨
    (isAsync cfg = false ∧ hitRes cfg k v = .more (.bump k v)) := by
  unfold hitRes
  split
  · rename_i ha
    split
    · exact Or.inr (Or.inl ⟨ha, rfl⟩)
    · exact Or.inl rfl
  · rename_i ha
    have ha : isAsync cfg = false := Bool.eq_false_iff.mpr ha
    split
    · exact Or.inr (Or.inr (Or.inl ⟨ha, rfl⟩))
    · split
      · exact Or.inr (Or.inr (Or.inr ⟨ha, rfl⟩))
      · exact Or.inl rfl

theorem first_get (s : State K V) (rs : List Nat) (k : K) :
    (lookup k s.store = none ∧
      first legacy cfg tl size s rs (.get k) = ({ s with missStat := s.missStat + 1 }, .fin (.get k) (.val none))) ∨
    (∃ e, lookup k s.store = some e ∧ expired cfg s.now e = true ∧
      first legacy cfg tl size s rs (.get k)
        = (s, .more (if legacy && isAsync cfg then .legacyDrop k else .expire k))) ∨
    (∃ e, lookup k s.store = some e ∧ expired cfg s.now e = false ∧
      first legacy cfg tl size s rs (.get k)
        = ({ s with store := if isAsync cfg && cfg.policy.bumps then bumpHits k s.store else s.store,
                    hitStat := s.hitStat + 1 }, hitRes cfg k e.val)) := by
  simp only [first, hitRes]
  cases lookup k s.store with
  | none => exact Or.inl ⟨rfl, rfl⟩
  | some e =>
    by_cases hx : expired cfg s.now e = true
    · exact Or.inr (Or.inl ⟨e, rfl, hx, if_pos hx⟩)
    · refine Or.inr (Or.inr ⟨e, rfl, Bool.eq_false_iff.mpr hx, (if_neg hx).trans ?_⟩)
      cases isAsync cfg
      · simp only [Bool.false_eq_true, if_false, Bool.false_and]
        split
        · rfl
        · split <;> rfl
      · simp only [if_true, Bool.true_and]
        split <;> rfl

theorem micro_none (legacy : Bool) (cfg : Cfg) (tl : Tlru S) (size : V → Nat) (s : State K V) (op : Op K V)
    (rs : List Nat) : micro legacy cfg tl size s op rs none = first legacy cfg tl size s rs op := rfl

/-- sync `[M.w: put]`: the store is written, the queue section is still to come -/
theorem first_insert_sync (legacy : Bool) {cfg : Cfg} (ha : isAsync cfg = false) (tl : Tlru S) (size : V → Nat)
    (s : State K V) (rs : List Nat) (k : K) (v : V) :
    first legacy cfg tl size s rs (.insert k v) =
      ({ s with store := put k ⟨v, stamp cfg s.now, 0⟩ s.store }, .more (.track k v (rs.headD 0))) := by
  simp only [first, ha, Bool.false_eq_true, if_false]

theorem first_insertMem_sync (legacy : Bool) {cfg : Cfg} (ha : isAsync cfg = false) (tl : Tlru S) (size : V → Nat)
    (s : State K V) (rs : List Nat) (k : K) (v : V) :
    first legacy cfg tl size s rs (.insertMem k v) =
      ({ s with store := put k ⟨v, stamp cfg s.now, 0⟩ s.store }, .more (.trackMem k v rs)) := by
  simp only [first, ha, Bool.false_eq_true, if_false]

/-- in-flight key left by a micro-step -/
def resKeys : Res K V → List K
  | .more p => ownKeys (some p)
  | .fin _ _ => []

/-- a read touches neither the queue nor the key set, and leaves no store in flight -/
theorem first_get_frame (legacy : Bool) (cfg : Cfg) (tl : Tlru S) (size : V → Nat) (s : State K V) (rs : List Nat)
    (k : K) :
    (first legacy cfg tl size s rs (.get k)).1.queue = s.queue ∧
    keys (first legacy cfg tl size s rs (.get k)).1.store = keys s.store ∧
    (first legacy cfg tl size s rs (.get k)).1.store.length = s.store.length ∧
    resKeys (first legacy cfg tl size s rs (.get k)).2 = [] := by
  rcases first_get legacy cfg tl size s rs k with ⟨_, hr⟩ | ⟨e, _, _, hr⟩ | ⟨e, _, _, hr⟩ <;> rw [hr]
  · exact ⟨rfl, rfl, rfl, rfl⟩
  · exact ⟨rfl, rfl, rfl, by split <;> rfl⟩
  · refine ⟨rfl, ?_, ?_, ?_⟩
    · show keys (if _ then _ else _) = _
      split
      · exact keys_bumpHits k s.store
      · rfl
    · show List.length (if _ then _ else _) = _
      split
      · exact length_modify _ _ _
      · rfl
    · rcases hitRes_cases cfg k e.val with h | ⟨_, h⟩ | ⟨_, h⟩ | ⟨_, h⟩ <;> rw [h] <;> rfl

theorem insert_stats (r : Nat) (s : State K V) (k : K) (v : V) :
    (Cachelito.insert cfg tl r s k v).hitStat = s.hitStat ∧ (Cachelito.insert cfg tl r s k v).missStat = s.missStat := by
  unfold Cachelito.insert
  cases cfg.flavour <;> simp

theorem insertMem_stats (rs : List Nat) (s : State K V) (k : K) (v : V) :
    (Cachelito.insertMem cfg tl size rs s k v).hitStat = s.hitStat ∧
    (Cachelito.insertMem cfg tl size rs s k v).missStat = s.missStat := by
  unfold Cachelito.insertMem
  cases cfg.maxMem with
  | none => cases cfg.flavour <;> exact ⟨rfl, rfl⟩
  | some maxM => cases cfg.flavour <;> simp only <;> split <;> exact ⟨rfl, rfl⟩

theorem op_get_or (op : Op K V) : (∃ k, op = .get k) ∨ ∀ k, op ≠ .get k := by cases op <;> simp

/-- the operation an operation-in-progress belongs to -/
def Pend.opOf : Pend K V → Op K V
  | .expire k => .get k
  | .refresh k _ => .get k
  | .move k _ => .get k
  | .bump k _ => .get k
  | .track k v _ => .insert k v
  | .trackMem k v _ => .insertMem k v
  | .purge p _ => .invalidateWith p
  | .legacyClearQueue => .clear
  | .legacyDrop k => .get k
  | .legacyRetain k => .get k

/-- continuations the engine (and code version) at hand can create -/
def Pend.okFor (legacy : Bool) (cfg : Cfg) : Pend K V → Prop
  | .expire _ => True
  | .refresh _ _ => isAsync cfg = true
  | .purge _ _ => isAsync cfg = true
  | .move _ _ => isAsync cfg = false
  | .bump _ _ => isAsync cfg = false
  | .track _ _ _ => isAsync cfg = false
  | .trackMem _ _ _ => isAsync cfg = false
  | .legacyClearQueue => legacy = true
  | .legacyDrop _ => legacy = true ∧ isAsync cfg = true
  | .legacyRetain _ => legacy = true ∧ isAsync cfg = true

/-- the local state of a thread fits the operation at the head of its program -/
def PendFits (legacy : Bool) (cfg : Cfg) (op : Op K V) : Option (Pend K V) → Prop
  | none => True
  | some p => p.okFor legacy cfg ∧ p.opOf = op

def ResFits (legacy : Bool) (cfg : Cfg) (op : Op K V) : Res K V → Prop
  | .more p => p.okFor legacy cfg ∧ p.opOf = op
  | .fin op' _ => op' = op

theorem first_other (s : State K V) (rs : List Nat) {op : Op K V} (hop : ∀ k, op ≠ .get k) :
    (first legacy cfg tl size s rs op).1.hitStat = s.hitStat ∧
    (first legacy cfg tl size s rs op).1.missStat = s.missStat ∧
    ((first legacy cfg tl size s rs op).2 = .fin op .unit ∨
     ∃ p, (first legacy cfg tl size s rs op).2 = .more p ∧ p.okFor legacy cfg ∧ p.opOf = op) := by
  cases op with
  | get k => exact absurd rfl (hop k)
  | insert k v =>
    simp only [first]
    split
    · exact ⟨(insert_stats cfg tl _ s k v).1, (insert_stats cfg tl _ s k v).2, Or.inl rfl⟩
    · rename_i ha; exact ⟨rfl, rfl, Or.inr ⟨_, rfl, Bool.eq_false_iff.mpr ha, rfl⟩⟩
  | insertMem k v =>
    simp only [first]
    split
    · exact ⟨(insertMem_stats cfg tl size rs s k v).1, (insertMem_stats cfg tl size rs s k v).2, Or.inl rfl⟩
    · rename_i ha; exact ⟨rfl, rfl, Or.inr ⟨_, rfl, Bool.eq_false_iff.mpr ha, rfl⟩⟩
  | clear =>
    simp only [first]
    split
    · rename_i hl; exact ⟨rfl, rfl, Or.inr ⟨_, rfl, hl, rfl⟩⟩
    · exact ⟨rfl, rfl, Or.inl rfl⟩
  | invalidateWith p =>
    simp only [first]
    split
    · rename_i ha; exact ⟨rfl, rfl, Or.inr ⟨_, rfl, ha, rfl⟩⟩
    · exact ⟨rfl, rfl, Or.inl rfl⟩
  | tick ms => exact ⟨rfl, rfl, Or.inl rfl⟩

/-- the continuation a local state stands for: the transcription of the engine that creates it.  The legacy
    branches are switched on here; `micro_some` restricts `micro` to this function by `Pend.okFor`, which admits
    a legacy local state only when `legacy = true`. -/
def cont (cfg : Cfg) (tl : Tlru S) (size : V → Nat) (s : State K V) (p : Pend K V) : State K V × Res K V :=
  match p with
  | .refresh .. | .purge .. | .legacyDrop _ | .legacyRetain _ => contAsync true cfg s p
  | _ => contSync true cfg tl size s p

theorem cont_move (s : State K V) (k : K) (v : V) :
    cont cfg tl size s (.move k v) = ({ s with queue := moveToEnd k s.queue },
      if cfg.policy.bumps then .more (.bump k v) else .fin (.get k) (.val (some v))) := by
  simp only [cont, contSync]; split <;> rfl

theorem micro_some (s : State K V) (op : Op K V) (rs : List Nat) (p : Pend K V) :
    (p.okFor legacy cfg ∧ micro legacy cfg tl size s op rs (some p) = cont cfg tl size s p) ∨
    (¬ p.okFor legacy cfg ∧ micro legacy cfg tl size s op rs (some p) = noop s) := by
  cases p <;> simp only [micro, contAsync, contSync, cont, Pend.okFor] <;>
    cases isAsync cfg <;> cases legacy <;> simp

theorem micro_some_of_okFor {legacy : Bool} {cfg : Cfg} (s : State K V)
    (op : Op K V) (rs : List Nat) {p : Pend K V} (hok : p.okFor legacy cfg) :
    micro legacy cfg tl size s op rs (some p) = cont cfg tl size s p :=
  (micro_some legacy cfg tl size s op rs p).elim (·.2) (fun h => absurd hok h.1)

/-! ### One sequential step = the micro-steps of its operation, run back to back -/

theorem insert_sync {cfg : Cfg} (hf : cfg.flavour ≠ .async) (tl : Tlru S) (r : Nat) (s : State K V) (k : K) (v : V) :
    Cachelito.insert cfg tl r s k v =
      { s with store := (limitStep cfg tl s.now r (Cachelito.put k ⟨v, stamp cfg s.now, 0⟩ s.store) (erasePush k s.queue)).1,
               queue := (limitStep cfg tl s.now r (Cachelito.put k ⟨v, stamp cfg s.now, 0⟩ s.store) (erasePush k s.queue)).2 } := by
  rw [insert_eq_storeVia, storeVia_sync hf]

theorem insertMem_sync {cfg : Cfg} (hf : cfg.flavour ≠ .async) (tl : Tlru S) (size : V → Nat) (rs : List Nat)
    (s : State K V) (k : K) (v : V) :
    Cachelito.insertMem cfg tl size rs s k v =
      trackMemStep cfg tl size rs { s with store := Cachelito.put k ⟨v, stamp cfg s.now, 0⟩ s.store } k := by
  have hsz : entrySize size k (Cachelito.put k ⟨v, stamp cfg s.now, 0⟩ s.store) = size v := by
    simp [entrySize, lookup_put_self]
  unfold Cachelito.insertMem trackMemStep
  simp only [hsz]
  cases h : cfg.flavour
  · cases cfg.maxMem <;> rfl
  · cases cfg.maxMem <;> rfl
  · exact absurd h hf

/-- the micro-steps of one operation, run back to back, reach `(s', o)`.  Three micro-steps always suffice: the
    longest chain is a sync hit under a policy that both refreshes and counts hits (ARC, TLRU): read, move to the
    back, bump.  The same 3 bounds the schedule length per operation in `roundRobin` and `single_thread_is_run`. -/
def StepsTo (cfg : Cfg) (tl : Tlru S) (size : V → Nat) (s : State K V) (op : Op K V) (rs : List Nat)
    (s' : State K V) (o : Out V) : Prop :=
  micro false cfg tl size s op rs none = (s', .fin op o) ∨
  (∃ s1 p1, micro false cfg tl size s op rs none = (s1, .more p1) ∧
      micro false cfg tl size s1 op rs (some p1) = (s', .fin op o)) ∨
  (∃ s1 p1 s2 p2, micro false cfg tl size s op rs none = (s1, .more p1) ∧
      micro false cfg tl size s1 op rs (some p1) = (s2, .more p2) ∧
      micro false cfg tl size s2 op rs (some p2) = (s', .fin op o))

theorem micro_expire (legacy : Bool) (cfg : Cfg) (tl : Tlru S) (size : V → Nat) (s : State K V) (op : Op K V)
    (rs : List Nat) (k : K) : micro legacy cfg tl size s op rs (some (.expire k)) = expireStep cfg s k := by
  simp only [micro]; split <;> rfl

theorem hitUpdate_sync {cfg : Cfg} (ha : isAsync cfg = false) (k : K) (m : Store K V) (q : List K) :
    hitUpdate cfg k m q =
      (if cfg.policy.bumps then bumpHits k m else m, if cfg.policy.refreshes then moveToEnd k q else q) := by
  unfold hitUpdate; unfold isAsync at ha
  cases hf : cfg.flavour
  · rfl
  · rfl
  · rw [hf] at ha; cases ha

theorem hitUpdate_async {cfg : Cfg} (ha : isAsync cfg = true) (k : K) (m : Store K V) (q : List K) :
    hitUpdate cfg k m q =
      (if cfg.policy.bumps then bumpHits k m else m,
       if (cfg.limit.isSome || cfg.maxMem.isSome) && cfg.policy.refreshes &&
            hasKey k (if cfg.policy.bumps then bumpHits k m else m) then retainPush k q else q) := by
  unfold hitUpdate; unfold isAsync at ha
  cases hf : cfg.flavour
  · rw [hf] at ha; cases ha
  · rw [hf] at ha; cases ha
  · rfl

theorem micro_chain_get (s : State K V) (k : K) (rs : List Nat) :
    StepsTo cfg tl size s (.get k) rs (step cfg tl size rs s (.get k)).1 (step cfg tl size rs s (.get k)).2 := by
  show StepsTo cfg tl size s (.get k) rs (Cachelito.get cfg s k).1 (.val (Cachelito.get cfg s k).2)
  unfold Cachelito.get
  rcases first_get false cfg tl size s rs k with ⟨hl, hr⟩ | ⟨e, hl, hx, hr⟩ | ⟨e, hl, hx, hr⟩ <;>
    rw [← micro_none] at hr
  · rw [hl]; exact Or.inl hr
  · simp only [hl, hx, if_true]
    exact Or.inr (Or.inl ⟨s, .expire k, hr, micro_expire false cfg tl size s _ rs k⟩)
  · -- a hit: `get` applies `hitUpdate` at once, the micro-steps apply its parts one by one
    simp only [hl, hx, Bool.false_eq_true, if_false]
    cases ha : isAsync cfg
    · -- sync: read; `move` if the policy refreshes; `bump` if it counts hits
      rw [hitUpdate_sync ha]
      simp only [ha, Bool.false_and, Bool.false_eq_true, if_false, hitRes] at hr
      cases hR : cfg.policy.refreshes <;> cases hB : cfg.policy.bumps <;>
        simp only [hR, hB, Bool.false_eq_true, if_false, if_true] at hr ⊢
      · exact Or.inl hr
      · exact Or.inr (Or.inl ⟨_, _, hr, by simp only [micro, ha, Bool.false_eq_true, if_false, contSync]⟩)
      · exact Or.inr (Or.inl ⟨_, _, hr, by simp only [micro, ha, hB, Bool.false_eq_true, if_false, contSync]⟩)
      · exact Or.inr (Or.inr ⟨_, _, _, _, hr,
          by simp only [micro, ha, hB, Bool.false_eq_true, if_false, if_true, contSync]; rfl,
          by simp only [micro, ha, Bool.false_eq_true, if_false, contSync]⟩)
    · -- async: read (with the hit bump); `refresh` if a bound is configured and the policy refreshes
      rw [hitUpdate_async ha]
      simp only [ha, Bool.true_and, if_true, hitRes] at hr
      cases hR : ((cfg.limit.isSome || cfg.maxMem.isSome) && cfg.policy.refreshes) <;>
        simp only [hR, Bool.false_and, Bool.true_and, Bool.false_eq_true, if_false, if_true] at hr ⊢
      · exact Or.inl hr
      · exact Or.inr (Or.inl ⟨_, _, hr, by simp only [micro, ha, if_true, contAsync]⟩)

theorem foldl_eraseKey_eq_filter (ks : List K) (m : Store K V) :
    ks.foldl (fun m k => eraseKey k m) m = m.filter (fun e => !ks.contains e.1) := by
  induction ks generalizing m with
  | nil => simp only [List.foldl_nil]; exact (List.filter_eq_self.mpr (by intro a _; simp)).symm
  | cons k ks ih =>
    simp only [List.foldl_cons]
    rw [ih, eraseKey, List.filter_filter]
    apply List.filter_congr
    intro e _
    by_cases hx : e.1 = k <;> simp [hx]

theorem purge_store_eq (p : K → Bool) (m : Store K V) :
    ((keys m).filter p).foldl (fun m k => eraseKey k m) m = m.filter (fun e => !p e.1) := by
  rw [foldl_eraseKey_eq_filter]
  apply List.filter_congr
  intro e he
  have hk : e.1 ∈ keys m := by simp only [keys, List.mem_map]; exact ⟨e, he, rfl⟩
  by_cases hp : p e.1 = true
  · simp [hp, hk]
  · simp [hp]

theorem micro_chain (s : State K V) (op : Op K V) (rs : List Nat) :
    StepsTo cfg tl size s op rs (step cfg tl size rs s op).1 (step cfg tl size rs s op).2 := by
  cases op with
  | get k => exact micro_chain_get cfg tl size s k rs
  | insert k v =>
    by_cases ha : isAsync cfg = true
    · left; simp [micro, first, ha, step]
    · have hf : cfg.flavour ≠ .async := by intro hf; exact ha (isAsync_of hf)
      right; left
      refine ⟨_, .track k v (rs.headD 0), by simp [micro, first, ha]; rfl, ?_⟩
      simp only [micro, ha, Bool.false_eq_true, if_false, contSync, step, insert_sync hf]
  | insertMem k v =>
    by_cases ha : isAsync cfg = true
    · left; simp [micro, first, ha, step]
    · have hf : cfg.flavour ≠ .async := by intro hf; exact ha (isAsync_of hf)
      right; left
      refine ⟨_, .trackMem k v rs, by simp [micro, first, ha]; rfl, ?_⟩
      simp only [micro, ha, Bool.false_eq_true, if_false, contSync, step, insertMem_sync hf]
  | clear => left; simp [micro, first, step]
  | invalidateWith p =>
    by_cases ha : isAsync cfg = true
    · right; left
      refine ⟨s, .purge p ((keys s.store).filter p), by simp [micro, first, ha], ?_⟩
      simp only [micro, ha, if_true, contAsync, step, Cachelito.invalidateWith, purge_store_eq]
    · left; simp [micro, first, ha, step]
  | tick ms => left; simp [micro, first, step]

theorem StepsTo.last {cfg : Cfg} {tl : Tlru S} {size : V → Nat} {s s' : State K V} {op : Op K V} {rs : List Nat}
    {o : Out V} {J : State K V → Option (Pend K V) → Prop} (h : StepsTo cfg tl size s op rs s' o) (h0 : J s none)
    (hstep : ∀ s1 pend s2 p, J s1 pend → micro false cfg tl size s1 op rs pend = (s2, .more p) → J s2 (some p)) :
    ∃ s1 pend, J s1 pend ∧ micro false cfg tl size s1 op rs pend = (s', .fin op o) := by
  rcases h with h1 | ⟨s1, p1, h1, h2⟩ | ⟨s1, p1, s2, p2, h1, h2, h3⟩
  · exact ⟨s, none, h0, h1⟩
  · exact ⟨s1, some p1, hstep _ _ _ _ h0 h1, h2⟩
  · exact ⟨s2, some p2, hstep _ _ _ _ (hstep _ _ _ _ h0 h1) h2, h3⟩

/-! ## §4 Values -/

/-- every stored pair is `(k, f k)` -/
def ValOK (f : K → V) (m : Store K V) : Prop := ∀ k e, (k, e) ∈ m → e.val = f k

/-- a store operation of the program writes the function's value for its key -/
def OpOK (f : K → V) : Op K V → Prop
  | .insert k v => v = f k
  | .insertMem k v => v = f k
  | _ => True

/-- a value carried by an operation in progress is the function's value for its key -/
def PendOK (f : K → V) : Pend K V → Prop
  | .refresh k v => v = f k
  | .move k v => v = f k
  | .bump k v => v = f k
  | .track k v _ => v = f k
  | .trackMem k v _ => v = f k
  | _ => True

/-- a finished lookup that returned a value returned the function's value for its key -/
def RecOK (f : K → V) (op : Op K V) (o : Out V) : Prop := ∀ k v, op = .get k → o = .val (some v) → v = f k

def ResOK (f : K → V) : Res K V → Prop
  | .more p => PendOK f p
  | .fin op o => RecOK f op o

theorem ValOK.nil (f : K → V) : ValOK f ([] : Store K V) := by intro k e h; cases h

theorem ValOK.sublist {f : K → V} {m m' : Store K V} (h : ValOK f m) (hs : m'.Sublist m) : ValOK f m' :=
  fun k e he => h k e (hs.subset he)

theorem ValOK.put {f : K → V} {m : Store K V} (h : ValOK f m) (k : K) (b hits : Nat) :
    ValOK f (put k ⟨f k, b, hits⟩ m) := by
  intro x e he
  unfold Cachelito.put at he
  rcases List.mem_append.mp he with h1 | h1
  · exact h x e ((eraseKey_sublist k m).subset h1)
  · simp only [List.mem_singleton, Prod.mk.injEq] at h1
    rw [h1.1, h1.2]

theorem ValOK.bumpHits {f : K → V} {m : Store K V} (h : ValOK f m) (k : K) : ValOK f (bumpHits k m) := by
  unfold Cachelito.bumpHits
  induction m with
  | nil => exact h
  | cons a m ih =>
    obtain ⟨y, e1⟩ := a
    have ha := h y e1 List.mem_cons_self
    have hm : ValOK f m := fun x e he => h x e (List.mem_cons_of_mem _ he)
    rw [modify_cons]
    split <;> intro x e he <;> rcases List.mem_cons.mp he with h1 | h1
    · cases h1; exact ha
    · exact hm x e h1
    · cases h1; exact ha
    · exact ih hm x e h1

/-- a store of `(k, f k)` in either engine, whatever the eviction phase `ev`, as long as `ev` only removes entries -/
theorem ValOK.storeVia {f : K → V} (cfg : Cfg) {ev : Store K V → List K → Store K V × List K}
    (hev : ∀ m q, (ev m q).1.Sublist m) (s : State K V) (k : K) (h : ValOK f s.store) :
    ValOK f (storeVia cfg ev s k (f k)).store := by
  unfold Cachelito.storeVia
  cases cfg.flavour <;> simp only
  · exact (h.put k _ _).sublist (hev _ _)
  · exact (h.put k _ _).sublist (hev _ _)
  · refine (h.sublist ((hev _ _).trans ?_)).put k _ _
    split
    · exact eraseKey_sublist k s.store
    · exact List.Sublist.refl _

theorem ValOK.insert {f : K → V} (cfg : Cfg) (tl : Tlru S) (r : Nat) (s : State K V) (k : K)
    (h : ValOK f s.store) : ValOK f (Cachelito.insert cfg tl r s k (f k)).store := by
  rw [insert_eq_storeVia]
  exact h.storeVia cfg (fun m q => (limitStep_shr cfg tl s.now r m q).store) s k

theorem ValOK.insertMem {f : K → V} (cfg : Cfg) (tl : Tlru S) (size : V → Nat) (rs : List Nat) (s : State K V) (k : K)
    (h : ValOK f s.store) : ValOK f (Cachelito.insertMem cfg tl size rs s k (f k)).store := by
  cases hov : oversize cfg size (f k) with
  | true =>
    rw [insertMem_oversize_frame hov]
    exact h.sublist (eraseKey_sublist k s.store)
  | false =>
    rw [insertMem_eq_storeVia hov]
    exact h.storeVia cfg (fun m q => (evictPhase_shr cfg tl size s.now _ rs m q).store) s k

theorem ValOK.invalidateWith {f : K → V} (p : K → Bool) (s : State K V) (h : ValOK f s.store) :
    ValOK f (Cachelito.invalidateWith p s).store := by
  unfold Cachelito.invalidateWith; exact h.sublist List.filter_sublist

theorem ValOK.removeBoth {f : K → V} (cfg : Cfg) (k : K) {m : Store K V} (q : List K) (h : ValOK f m) :
    ValOK f (removeBoth cfg k m q).1 := h.sublist (removeBoth_shr cfg k m q).store

theorem RecOK.hit {f : K → V} {k : K} {v : V} (h : v = f k) : RecOK f (.get k) (.val (some v)) := by
  intro k' v' hk ho; cases hk; cases ho; exact h

theorem RecOK.none (f : K → V) (op : Op K V) : RecOK f op (.val none) := fun _ _ _ ho => nomatch ho

theorem RecOK.unit (f : K → V) (op : Op K V) : RecOK f op .unit := fun _ _ _ ho => nomatch ho

theorem ResOK.hitRes {f : K → V} {k : K} {v : V} (h : v = f k) : ResOK f (hitRes cfg k v) := by
  rcases hitRes_cases cfg k v with hr | ⟨_, hr⟩ | ⟨_, hr⟩ | ⟨_, hr⟩ <;> rw [hr]
  · exact RecOK.hit h
  · exact h
  · exact h
  · exact h

/-- **Values, one micro-step** (fixed and legacy code alike): if every stored pair is `(k, f k)`, the
    current operation writes `f` of its key and the value carried by the operation in progress is `f` of
    its key, then the same holds after the micro-step, and a lookup finishing in this micro-step reports
    `f` of its key. -/
theorem micro_val {f : K → V} (s : State K V) (op : Op K V) (rs : List Nat) (pend : Option (Pend K V))
    (hs : ValOK f s.store) (hop : OpOK f op) (hp : ∀ p, pend = some p → PendOK f p) :
    ValOK f (micro legacy cfg tl size s op rs pend).1.store ∧ ResOK f (micro legacy cfg tl size s op rs pend).2 := by
  cases pend with
  | none =>
    cases op with
    | get k =>
      rcases first_get legacy cfg tl size s rs k with ⟨_, hr⟩ | ⟨e, _, _, hr⟩ | ⟨e, hl, _, hr⟩ <;>
        simp only [micro, hr]
      · exact ⟨hs, RecOK.none f _⟩
      · exact ⟨hs, by split <;> trivial⟩
      · refine ⟨?_, ResOK.hitRes cfg (hs k e (lookup_mem hl))⟩
        split
        · exact hs.bumpHits k
        · exact hs
    | insert k v =>
      cases (hop : v = f k)
      simp only [micro, first]
      split
      · exact ⟨hs.insert cfg tl _ s k, RecOK.unit f _⟩
      · exact ⟨hs.put k _ _, rfl⟩
    | insertMem k v =>
      cases (hop : v = f k)
      simp only [micro, first]
      split
      · exact ⟨hs.insertMem cfg tl size rs s k, RecOK.unit f _⟩
      · exact ⟨hs.put k _ _, rfl⟩
    | clear =>
      simp only [micro, first]
      split
      · exact ⟨ValOK.nil f, trivial⟩
      · exact ⟨ValOK.nil f, RecOK.unit f _⟩
    | invalidateWith p =>
      simp only [micro, first]
      split
      · exact ⟨hs, trivial⟩
      · exact ⟨hs.invalidateWith p s, RecOK.unit f _⟩
    | tick ms => exact ⟨hs, RecOK.unit f _⟩
  | some p =>
    have hpp := hp p rfl
    rcases micro_some legacy cfg tl size s op rs p with ⟨_, hr⟩ | ⟨_, hr⟩ <;> rw [hr]
    · cases p with
      | expire k => exact ⟨hs.removeBoth cfg k s.queue, RecOK.none f _⟩
      | refresh k v => exact ⟨hs, RecOK.hit hpp⟩
      | move k v => rw [cont_move]; exact ⟨hs, by split; exact hpp; exact RecOK.hit hpp⟩
      | bump k v => exact ⟨hs.bumpHits k, RecOK.hit hpp⟩
      | track k v r => exact ⟨hs.sublist (limitStep_shr cfg tl s.now r s.store _).store, RecOK.unit f _⟩
      | trackMem k v rs => exact ⟨hs.sublist (trackMemStep_shr cfg tl size rs s k).store, RecOK.unit f _⟩
      | purge p ks => exact ⟨hs.sublist (foldl_eraseKey_sublist ks s.store), RecOK.unit f _⟩
      | legacyClearQueue => exact ⟨hs, RecOK.unit f _⟩
      | legacyDrop k => exact ⟨hs.sublist (eraseKey_sublist k _), trivial⟩
      | legacyRetain k => exact ⟨hs, RecOK.none f _⟩
    · exact ⟨hs, RecOK.unit f _⟩

def ThreadOK (f : K → V) (t : Thread K V) : Prop :=
  (∀ x, x ∈ t.prog → OpOK f x.1) ∧ (∀ p, t.pend = some p → PendOK f p) ∧ (∀ r, r ∈ t.done → RecOK f r.1 r.2)

def ValInv (f : K → V) (c : CState K V) : Prop :=
  ValOK f c.shared.store ∧ ∀ t, t ∈ c.threads → ThreadOK f t

theorem cstepWith_val {f : K → V} {legacy : Bool} {cfg : Cfg} {tl : Tlru S} {size : V → Nat}
    (c : CState K V) (i : Nat) (c' : CState K V) (hv : ValInv f c)
    (h : cstepWith legacy cfg tl size c i = some c') : ValInv f c' := by
  obtain ⟨t, op, rs, ht, hop, hsh⟩ := cstepWith_shared h
  refine ⟨hsh ▸ (micro_val legacy cfg tl size c.shared op rs t.pend hv.1 ((hv.2 t ht).1 _ hop) (hv.2 t ht).2.1).1,
    cstepWith_forall h hv.2 fun t s' t' ht hts => ?_⟩
  obtain ⟨htp, htpend, htd⟩ := hv.2 t ht
  obtain ⟨op, rs, rest, hprog, hcase⟩ := tstep_some hts
  have hm := (micro_val legacy cfg tl size c.shared op rs t.pend hv.1
    (htp (op, rs) (hprog ▸ List.mem_cons_self)) htpend).2
  have hrest : ∀ x, x ∈ rest → OpOK f x.1 := fun x hx => htp x (hprog ▸ List.mem_cons_of_mem _ hx)
  rcases hcase with ⟨p, hr, rfl⟩ | ⟨op', o, hr, rfl⟩ <;> rw [hr] at hm
  · exact ⟨htp, fun p' hp' => Option.some.inj hp' ▸ hm, htd⟩
  · refine ⟨hrest, nofun, fun r hr' => ?_⟩
    rcases List.mem_append.mp hr' with h1 | h1
    · exact htd r h1
    · cases List.mem_singleton.mp h1; exact hm

theorem valInv_start {f : K → V} (s : State K V) (progs : List (List (Op K V × List Nat)))
    (hs : ValOK f s.store) (hp : ∀ prog, prog ∈ progs → ∀ x, x ∈ prog → OpOK f x.1) :
    ValInv f (CState.start s progs) :=
  ⟨hs, forall_start s fun prog hprog => ⟨hp prog hprog, fun p h => absurd h.symm (Option.some_ne_none p), fun _ h => (List.not_mem_nil h).elim⟩⟩

/-! ## §5 Async engine -/

theorem InvMQ.purge {m : Store K V} {q : List K} (h : InvMQ m q) (ks : List K) :
    InvMQ (ks.foldl (fun m k => eraseKey k m) m) (ks.foldl (fun q k => q.erase k) q) := by
  induction ks generalizing m q with
  | nil => exact h
  | cons k ks ih => exact ih (h.remove_erase k)

/-- **Async engine, fixed code: what a micro-step does to store and queue.**  A predicate kept by a hit
    bump, the removal of a key from both structures, the refresh of a stored key, the removal of a list of
    keys and the sequential engine's own step (the atomic operations) is kept by every micro-step; the remaining
    micro-steps (reads without a hit bump, the key collection of an invalidation, ticks) touch neither. -/
theorem micro_async_rec {cfg : Cfg} (hf : cfg.flavour = .async) (tl : Tlru S) (size : V → Nat) (s : State K V)
    (op : Op K V) (rs : List Nat) (pend : Option (Pend K V)) {J : Store K V → List K → Prop}
    (bump : ∀ k, J s.store s.queue → J (bumpHits k s.store) s.queue)
    (remove : ∀ k, J s.store s.queue → J (removeBoth cfg k s.store s.queue).1 (removeBoth cfg k s.store s.queue).2)
    (refresh : ∀ k, k ∈ keys s.store → J s.store s.queue → J s.store (retainPush k s.queue))
    (purge : ∀ ks : List K, J s.store s.queue →
      J (ks.foldl (fun m k => eraseKey k m) s.store) (ks.foldl (fun q k => q.erase k) s.queue))
    (seq : J s.store s.queue → J (step cfg tl size rs s op).1.store (step cfg tl size rs s op).1.queue)
    (h : J s.store s.queue) :
    J (micro false cfg tl size s op rs pend).1.store (micro false cfg tl size s op rs pend).1.queue := by
  have ha := isAsync_of hf
  cases pend with
  | none =>
    cases op with
    | get k =>
      rcases first_get false cfg tl size s rs k with ⟨_, hr⟩ | ⟨e, _, _, hr⟩ | ⟨e, _, _, hr⟩ <;>
        simp only [micro, hr]
      · exact h
      · exact h
      · split
        · exact bump k h
        · exact h
    | insert k v => simp only [micro, first, ha, if_true]; exact seq h
    | insertMem k v => simp only [micro, first, ha, if_true]; exact seq h
    | clear => exact seq h
    | invalidateWith p => simp only [micro, first, ha, if_true]; exact h
    | tick ms => exact h
  | some p =>
    simp only [micro, ha, if_true]
    cases p with
    | expire k => exact remove k h
    | refresh k v =>
      simp only [contAsync]
      split
      · rename_i hk; exact refresh k ((hasKey_iff k _).mp hk) h
      · exact h
    | purge p ks => exact purge ks h
    | _ => exact h

/-- **Async, one micro-step keeps the sequential invariant**: the queue is a duplicate-free enumeration
    of the stored keys after EVERY critical section of every operation. -/
theorem micro_async_inv (s : State K V)
    (op : Op K V) (rs : List Nat) (pend : Option (Pend K V)) (hf : cfg.flavour = .async) (h : Inv s) :
    Inv (micro false cfg tl size s op rs pend).1 :=
  micro_async_rec (J := InvMQ) hf tl size s op rs pend (fun k h => InvMQ.bumpHits h k) (fun k h => InvMQ.removeBoth h cfg k)
    (fun _ hk h => InvMQ.retainPush h hk) (fun ks h => InvMQ.purge h ks) (step_inv cfg tl size rs s op) h

theorem micro_async_bound (s : State K V)
    (op : Op K V) (rs : List Nat) (pend : Option (Pend K V)) (hf : cfg.flavour = .async)
    (n : Nat) (hl : cfg.limit = some n) (hn : 1 ≤ n) (h : Inv s) (hb : s.store.length ≤ n) :
    (micro false cfg tl size s op rs pend).1.store.length ≤ n :=
  micro_async_rec (J := fun m _ => m.length ≤ n) hf tl size s op rs pend
    (fun k hb => by rw [bumpHits, length_modify]; exact hb)
    (fun k hb => Nat.le_trans (C04.removeBoth_length_le cfg k _ _) hb) (fun k _ hb => hb)
    (fun ks hb => Nat.le_trans (foldl_eraseKey_sublist ks _).length_le hb)
    (C04.step_bound cfg tl size rs s op n hl hn h) hb

theorem micro_async_mem (s : State K V)
    (op : Op K V) (rs : List Nat) (pend : Option (Pend K V)) (hf : cfg.flavour = .async)
    (M : Nat) (hM : cfg.maxMem = some M) (hop : op.viaMem = true) (h : Inv s) (hb : totalMem size s.store ≤ M) :
    totalMem size (micro false cfg tl size s op rs pend).1.store ≤ M :=
  micro_async_rec (J := fun m _ => totalMem size m ≤ M) hf tl size s op rs pend
    (fun k hb => by rw [totalMem_bumpHits]; exact hb)
    (fun k hb => Nat.le_trans (totalMem_removeBoth_le size cfg k _ _) hb) (fun k _ hb => hb)
    (fun ks hb => Nat.le_trans (totalMem_sublist_le size (foldl_eraseKey_sublist ks _)) hb)
    (C05.step_bound cfg tl size rs s op M hM hop h) hb

/-! ## §6 Sync engine: the invariant with in-flight stores -/

/-- `P` = the keys of the stores in flight (written to the store, queue section not yet run).
    Store keys distinct, queue duplicate-free, and every stored key that is missing from the queue is
    the key of a store in flight.  Orphan queue keys (queued, not stored) are allowed. -/
structure SyncInv (m : Store K V) (q : List K) (P : List K) : Prop where
  keysNodup : (keys m).Nodup
  queueNodup : q.Nodup
  tracked : ∀ x, x ∈ keys m → x ∉ q → x ∈ P

theorem SyncInv.congr {m : Store K V} {q P P' : List K} (h : SyncInv m q P) (hp : ∀ x, x ∈ P → x ∈ P') :
    SyncInv m q P' := ⟨h.keysNodup, h.queueNodup, fun x hx hq => hp x (h.tracked x hx hq)⟩

theorem SyncInv.shr {m m' : Store K V} {q q' P : List K} (h : SyncInv m q P) (hs : Shr m q m' q') :
    SyncInv m' q' P :=
  ⟨(keys_sublist hs.store).nodup h.keysNodup, hs.queue.nodup h.queueNodup,
   fun x hx hq => h.tracked x (hs.keys_sub x hx) (fun hxq => hq (hs.keep x hx hxq))⟩

theorem SyncInv.of_inv {m : Store K V} {q : List K} (h : InvMQ m q) (P : List K) : SyncInv m q P :=
  ⟨h.1, h.2.1, fun x hx hq => absurd ((h.2.2 x).mpr hx) hq⟩

theorem SyncInv.put {m : Store K V} {q P : List K} (h : SyncInv m q P) (k : K) (e : Entry V) :
    SyncInv (Cachelito.put k e m) q (k :: P) := by
  refine ⟨nodup_keys_put h.keysNodup k e, h.queueNodup, ?_⟩
  intro x hx hq
  rw [keys_put] at hx
  rcases List.mem_append.mp hx with hx | hx
  · exact List.mem_cons_of_mem _ (h.tracked x (List.mem_filter.mp hx).1 hq)
  · simp only [List.mem_singleton] at hx; rw [hx]; exact List.mem_cons_self

theorem SyncInv.erasePush {m : Store K V} {q P : List K} {k : K} (h : SyncInv m q (k :: P)) :
    SyncInv m (Cachelito.erasePush k q) P := by
  refine ⟨h.keysNodup, nodup_erase_append h.queueNodup k, ?_⟩
  intro x hx hq
  rw [mem_erasePush] at hq
  have hxk : x ≠ k := fun hh => hq (Or.inr hh)
  have := h.tracked x hx (fun hh => hq (Or.inl hh))
  rcases List.mem_cons.mp this with h1 | h1
  · exact absurd h1 hxk
  · exact h1

theorem SyncInv.moveToEnd {m : Store K V} {q P : List K} (h : SyncInv m q P) (k : K) :
    SyncInv m (Cachelito.moveToEnd k q) P :=
  ⟨h.keysNodup, nodup_moveToEnd h.queueNodup, fun x hx hq => h.tracked x hx (fun hh => hq (mem_moveToEnd.mpr hh))⟩

theorem SyncInv.bumpHits {m : Store K V} {q P : List K} (h : SyncInv m q P) (k : K) :
    SyncInv (Cachelito.bumpHits k m) q P := by
  refine ⟨by rw [keys_bumpHits]; exact h.keysNodup, h.queueNodup, ?_⟩
  intro x hx; rw [keys_bumpHits] at hx; exact h.tracked x hx

/-- with no store in flight every stored key is queued -/
theorem SyncInv.queued {m : Store K V} {q : List K} (h : SyncInv m q []) : ∀ x, x ∈ keys m → x ∈ q :=
  fun x hx => Classical.byContradiction fun hn => nomatch h.tracked x hx hn

theorem SyncInv.nil (P : List K) : SyncInv ([] : Store K V) [] P :=
  ⟨List.nodup_nil, List.nodup_nil, fun x hx => by cases hx⟩

/-- **Sync engine, fixed code: a micro-step is one of six primitives on store and queue.**  A predicate
    `J store queue inflight` kept by a shrinking step, a hit bump, a move to the back, the store write of a
    store (its key joins the keys in flight) and the two queue sections (the key leaves them) is kept by
    every micro-step; the remaining micro-steps (reads, ticks) touch neither store nor queue nor the keys in
    flight.  `others` = in-flight keys of the other threads. -/
theorem micro_sync_rec {cfg : Cfg} (hf : cfg.flavour ≠ .async) (tl : Tlru S) (size : V → Nat) (s : State K V)
    (op : Op K V) (rs : List Nat) (pend : Option (Pend K V)) (others : List K)
    {J : Store K V → List K → List K → Prop}
    (shr : ∀ {m' q'}, Shr s.store s.queue m' q' → J s.store s.queue others → J m' q' others)
    (bump : ∀ k, J s.store s.queue others → J (bumpHits k s.store) s.queue others)
    (move : ∀ k, J s.store s.queue others → J s.store (moveToEnd k s.queue) others)
    (put : ∀ k v, op = .insert k v ∨ op = .insertMem k v → J s.store s.queue others →
      J (Cachelito.put k ⟨v, stamp cfg s.now, 0⟩ s.store) s.queue (k :: others))
    (track : ∀ k v r, pend = some (.track k v r) → J s.store s.queue (k :: others) →
      J (limitStep cfg tl s.now r s.store (erasePush k s.queue)).1
        (limitStep cfg tl s.now r s.store (erasePush k s.queue)).2 others)
    (trackMem : ∀ k v rs', pend = some (.trackMem k v rs') → J s.store s.queue (k :: others) →
      J (trackMemStep cfg tl size rs' s k).store (trackMemStep cfg tl size rs' s k).queue others)
    (h : J s.store s.queue (ownKeys pend ++ others)) :
    J (micro false cfg tl size s op rs pend).1.store (micro false cfg tl size s op rs pend).1.queue
      (resKeys (micro false cfg tl size s op rs pend).2 ++ others) := by
  have ha := isAsync_false_of hf
  cases pend with
  | none =>
    cases op with
    | get k =>
      rcases first_get false cfg tl size s rs k with ⟨_, hr⟩ | ⟨e, _, _, hr⟩ | ⟨e, _, _, hr⟩ <;>
        simp only [micro, hr]
      · exact h
      · exact h
      · simp only [ha, Bool.false_and, Bool.false_eq_true, if_false]
        rcases hitRes_cases cfg k e.val with hr | ⟨_, hr⟩ | ⟨_, hr⟩ | ⟨_, hr⟩ <;> rw [hr] <;> exact h
    | insert k v => simp only [micro, first, ha, Bool.false_eq_true, if_false]; exact put k v (Or.inl rfl) h
    | insertMem k v => simp only [micro, first, ha, Bool.false_eq_true, if_false]; exact put k v (Or.inr rfl) h
    | clear =>
      exact shr ⟨List.nil_sublist _, List.nil_sublist _, fun x hx => nomatch hx⟩ h
    | invalidateWith p =>
      simp only [micro, first, ha, Bool.false_eq_true, if_false]; exact shr (invalidateWith_shr p s) h
    | tick ms => exact h
  | some p =>
    simp only [micro, ha, Bool.false_eq_true, if_false]
    cases p with
    | expire k => exact shr (removeBoth_shr cfg k s.store s.queue) h
    | move k v =>
      simp only [contSync]
      split <;> exact move k h
    | bump k v => exact bump k h
    | track k v r => exact track k v r rfl h
    | trackMem k v rs => exact trackMem k v rs rfl h
    | _ => exact h

/-- **Sync, one micro-step keeps the in-flight invariant**; the stepping thread's own key joins the keys in flight
    with its store write and leaves them with its queue section. -/
theorem micro_sync_inv (s : State K V)
    (op : Op K V) (rs : List Nat) (pend : Option (Pend K V)) (hf : cfg.flavour ≠ .async) (others : List K)
    (h : SyncInv s.store s.queue (ownKeys pend ++ others)) :
    SyncInv (micro false cfg tl size s op rs pend).1.store (micro false cfg tl size s op rs pend).1.queue
      (resKeys (micro false cfg tl size s op rs pend).2 ++ others) :=
  micro_sync_rec hf tl size s op rs pend others (fun hs h => h.shr hs) (fun k h => h.bumpHits k)
    (fun k h => h.moveToEnd k) (fun k _ _ h => h.put k _)
    (fun _ _ r _ h => (SyncInv.erasePush h).shr (limitStep_shr cfg tl s.now r s.store _))
    (fun k _ rs' _ h => (SyncInv.erasePush h).shr (trackMemStep_shr cfg tl size rs' s k)) h

/-! ### The entry bound with stores in flight

`SyncBound` has no entry half for Random: there the entry bound follows from the slot half and
`SyncInv.length_le` (`sync_entries_le`, §7). -/

/-- policies whose over-limit step always removes a queue slot (FIFO / LRU pop the front, Random removes
    a position); LFU / ARC / TLRU remove nothing when no queued key is stored -/
def PopsSlot (cfg : Cfg) : Prop := cfg.policy = .fifo ∨ cfg.policy = .lru ∨ cfg.policy = .random

/-- the two halves of the sync entry bound, `P` = in-flight keys:
    * every policy but Random: at most `n + |P|` entries (each store in flight may hold one extra entry);
    * FIFO / LRU / Random: the queue never has more than `n` slots between two critical sections. -/
structure SyncBound (cfg : Cfg) (n : Nat) (m : Store K V) (q : List K) (P : List K) : Prop where
  entries : cfg.policy ≠ .random → m.length ≤ n + P.length
  slots : PopsSlot cfg → q.length ≤ n

theorem popStored_queue_lt (m : Store K V) {q : List K} (hq : q ≠ []) : (popStored m q).2.1.length < q.length := by
  induction q with
  | nil => exact absurd rfl hq
  | cons a q ih =>
    simp only [popStored]
    split
    · simp
    · cases q with
      | nil => simp [popStored]
      | cons b q => have := ih (by simp); simp only [List.length_cons] at this ⊢; omega

theorem evictRandom_queue_lt (r : Nat) (m : Store K V) {q : List K} (hq : q ≠ []) :
    (evictRandom r m q).2.1.length < q.length := by
  have hpos : 0 < q.length := List.length_pos_iff.mpr hq
  have hlt : r % q.length < q.length := Nat.mod_lt _ hpos
  unfold evictRandom
  rw [List.getElem?_eq_getElem hlt]
  simp only [List.length_eraseIdx_of_lt hlt]
  omega

theorem overLimit_sync {cfg : Cfg} (hf : cfg.flavour ≠ .async) (n : Nat) (m : Store K V) (q : List K) :
    overLimit cfg n m q = decide (q.length > n) := by
  unfold overLimit; cases h : cfg.flavour <;> simp_all

theorem limitStep_slots {cfg : Cfg} (hf : cfg.flavour ≠ .async) (tl : Tlru S) (now r : Nat) {n0 n : Nat}
    (hl : cfg.limit = some n0) (hn : n0 ≤ n) (hp : PopsSlot cfg) (m : Store K V) (q : List K)
    (hq : q.length ≤ n + 1) : (limitStep cfg tl now r m q).2.length ≤ n := by
  unfold limitStep
  rw [hl]
  simp only [overLimit_sync hf]
  by_cases ho : q.length > n0
  · simp only [ho, decide_true, if_true]
    have hne : q ≠ [] := by intro hh; rw [hh] at ho; simp at ho
    unfold evictLimit
    rcases hp with hp | hp | hp <;> rw [hp] <;> simp only
    · have := popStored_queue_lt m hne; omega
    · have := popStored_queue_lt m hne; omega
    · have := evictRandom_queue_lt r m hne; omega
  · simp only [ho, decide_false, if_false, Bool.false_eq_true]; omega

theorem popStored_strict {m : Store K V} (hn : (keys m).Nodup) {q : List K} (hex : ∃ x, x ∈ q ∧ x ∈ keys m) :
    (popStored m q).1.length + 1 = m.length := by
  induction q with
  | nil => obtain ⟨x, hx, _⟩ := hex; cases hx
  | cons a q ih =>
    simp only [popStored]
    by_cases ha : hasKey a m = true
    · simp only [ha, if_true]
      exact length_eraseKey_of_mem hn ((hasKey_iff a m).mp ha)
    · simp only [ha, if_false, Bool.false_eq_true]
      apply ih
      obtain ⟨x, hx, hxm⟩ := hex
      rcases List.mem_cons.mp hx with h | h
      · subst h; exact absurd ((hasKey_iff x m).mpr hxm) ha
      · exact ⟨x, h, hxm⟩

theorem removeBoth_store (k : K) (m : Store K V) (q : List K) : (removeBoth cfg k m q).1 = eraseKey k m := by
  unfold removeBoth; cases cfg.flavour <;> rfl

theorem evictScored_strict {cfg : Cfg} (now : Nat) {m : Store K V} (hn : (keys m).Nodup) {q : List K}
    (hp : cfg.policy = .lfu ∨ cfg.policy = .arc ∨ cfg.policy = .tlru) (hex : ∃ x, x ∈ q ∧ x ∈ keys m) :
    (evictScored cfg tl now m q).1.length + 1 = m.length := by
  unfold evictScored
  cases hv : victim cfg tl now m q with
  | none =>
    obtain ⟨x, hx, hxm⟩ := hex
    exact absurd hxm (victim_none hp hv x hx)
  | some k =>
    simp only [removeBoth_store]
    exact length_eraseKey_of_mem hn (victim_mem hv).2

theorem evictLimit_strict {cfg : Cfg} (now r : Nat) {m : Store K V} (hn : (keys m).Nodup) {q : List K}
    (hp : cfg.policy ≠ .random) (hex : ∃ x, x ∈ q ∧ x ∈ keys m) :
    (evictLimit cfg tl now r m q).1.length + 1 = m.length := by
  unfold evictLimit
  cases hpol : cfg.policy <;> simp only
  · exact popStored_strict hn hex
  · exact popStored_strict hn hex
  · exact evictScored_strict tl now hn (Or.inl hpol) hex
  · exact evictScored_strict tl now hn (Or.inr (Or.inl hpol)) hex
  · exact absurd hpol hp
  · exact evictScored_strict tl now hn (Or.inr (Or.inr hpol)) hex

theorem SyncInv.length_le {m : Store K V} {q P : List K} (h : SyncInv m q P) : m.length ≤ q.length + P.length := by
  have := h.keysNodup.length_le_of_subset (l₂ := q ++ P) fun x hx =>
    List.mem_append.mpr ((Classical.em (x ∈ q)).imp_right (h.tracked x hx))
  rwa [length_keys, List.length_append] at this

theorem SyncInv.exists_queued_of_lt {m : Store K V} {q P : List K} (h : SyncInv m q P) (hlt : P.length < m.length) :
    ∃ x, x ∈ q ∧ x ∈ keys m :=
  Classical.byContradiction fun hno => by
    have := h.keysNodup.length_le_of_subset (l₂ := P) fun x hx => h.tracked x hx fun hq => hno ⟨x, hq, hx⟩
    rw [length_keys] at this
    omega

/-- **The capacity argument.**  In the sync engine, under every policy but Random: if all untracked
    stored keys belong to the `|P|` stores in flight and the store holds at most `n + |P| + 1` entries,
    then after the entry-limit step it holds at most `n + |P|` entries — when the count is tight, more
    than `n` stored keys are queued, so the queue is over the limit AND contains a stored key, which the
    step finds and removes (it skips orphans / scans stored keys only).  `n0` is the configured limit, `n ≥ n0` the
    bound: the fine model counts a thread inside its split queue section on top of `n` (`FineMicro.bound`). -/
theorem limit_tight {cfg : Cfg} (hf : cfg.flavour ≠ .async) (tl : Tlru S) (now r : Nat) {n0 n : Nat}
    (hl : cfg.limit = some n0) (hn : n0 ≤ n) (hp : cfg.policy ≠ .random) {m : Store K V} {q P : List K}
    (h : SyncInv m q P) (hb : m.length ≤ n + P.length + 1) :
    (limitStep cfg tl now r m q).1.length ≤ n + P.length := by
  by_cases hle : m.length ≤ n + P.length
  · exact Nat.le_trans (limitStep_shr cfg tl now r m q).length_le hle
  · have hex := h.exists_queued_of_lt (by omega)
    have ho : q.length > n0 := by have := h.length_le; omega
    have := evictLimit_strict tl now r h.keysNodup hp hex
    simp only [limitStep, hl, overLimit_sync hf, ho, decide_true, if_true]
    omega

theorem SyncBound.shr {cfg : Cfg} {n : Nat} {m m' : Store K V} {q q' P : List K} (h : SyncBound cfg n m q P)
    (hs : Shr m q m' q') : SyncBound cfg n m' q' P :=
  ⟨fun hp => Nat.le_trans hs.length_le (h.entries hp), fun hp => Nat.le_trans hs.queue_length_le (h.slots hp)⟩

theorem entrySize_pos_mem {size : V → Nat} {k : K} {m : Store K V} {M : Nat} (h : entrySize size k m > M) :
    k ∈ keys m := by
  unfold entrySize at h
  cases hl : lookup k m with
  | none => rw [hl] at h; simp at h
  | some e => exact mem_keys_of_lookup hl

theorem SyncBound.limitStep {cfg : Cfg} (hf : cfg.flavour ≠ .async) (tl : Tlru S) (now r : Nat) {n0 n : Nat}
    (hl : cfg.limit = some n0) (hn : n0 ≤ n) {m : Store K V} {q P : List K} (h : SyncInv m q P)
    (hm : cfg.policy ≠ .random → m.length ≤ n + P.length + 1) (hq : PopsSlot cfg → q.length ≤ n + 1) :
    SyncBound cfg n (limitStep cfg tl now r m q).1 (limitStep cfg tl now r m q).2 P :=
  ⟨fun hp => limit_tight hf tl now r hl hn hp h (hm hp), fun hp => limitStep_slots hf tl now r hl hn hp m q (hq hp)⟩

/-- after the re-push of `k`, which then is no longer in flight, both halves hold with one to spare: what
    `SyncBound.limitStep` asks for -/
theorem SyncBound.slack_erasePush {cfg : Cfg} {n : Nat} {m : Store K V} {q P : List K} {k : K}
    (hb : SyncBound cfg n m q (k :: P)) :
    (cfg.policy ≠ .random → m.length ≤ n + P.length + 1) ∧
    (PopsSlot cfg → (Cachelito.erasePush k q).length ≤ n + 1) :=
  ⟨fun hp => hb.entries hp,
   fun hp => Nat.le_trans (length_erasePush_le k q) (Nat.succ_le_succ (hb.slots hp))⟩

theorem trackMemStep_bound {cfg : Cfg} (hf : cfg.flavour ≠ .async) (tl : Tlru S) (size : V → Nat) (rs : List Nat)
    (s : State K V) (k : K) {n0 n : Nat} (hl : cfg.limit = some n0) (hn : n0 ≤ n) {P : List K}
    (h : SyncInv s.store s.queue (k :: P)) (hb : SyncBound cfg n s.store s.queue (k :: P)) :
    SyncBound cfg n (trackMemStep cfg tl size rs s k).store (trackMemStep cfg tl size rs s k).queue P := by
  have h0 : SyncInv s.store (erasePush k s.queue) P := SyncInv.erasePush h
  obtain ⟨hm0, hq0⟩ := hb.slack_erasePush
  rcases trackMemStep_cases cfg tl size rs s k with ⟨_, h'⟩ | ⟨maxM, _, hov, h'⟩ | ⟨maxM, _, _, h'⟩ <;> rw [h']
  · exact SyncBound.limitStep hf tl s.now _ hl hn h0 hm0 hq0
  · refine ⟨fun hp => ?_, fun hp => Nat.le_trans (List.erase_sublist (a := k) (l := s.queue)).length_le (hb.slots hp)⟩
    have := length_eraseKey_of_mem h.keysNodup (entrySize_pos_mem hov)
    have := hm0 hp
    simp only; omega
  · have h1 := memLoop_shr cfg tl size s.now maxM 0 ((erasePush k s.queue).length + 1) rs s.store (erasePush k s.queue)
    exact SyncBound.limitStep hf tl s.now _ hl hn (h0.shr h1) (fun hp => Nat.le_trans h1.length_le (hm0 hp))
      (fun hp => Nat.le_trans h1.queue_length_le (hq0 hp))

/-- **Sync, one micro-step keeps the two-part entry bound** (given the in-flight invariant, which the capacity
    argument `limit_tight` needs). -/
theorem micro_sync_bound (s : State K V)
    (op : Op K V) (rs : List Nat) (pend : Option (Pend K V)) (hf : cfg.flavour ≠ .async) (others : List K)
    {n0 n : Nat} (hl : cfg.limit = some n0) (hn : n0 ≤ n)
    (h : SyncInv s.store s.queue (ownKeys pend ++ others))
    (hb : SyncBound cfg n s.store s.queue (ownKeys pend ++ others)) :
    SyncBound cfg n (micro false cfg tl size s op rs pend).1.store (micro false cfg tl size s op rs pend).1.queue
      (resKeys (micro false cfg tl size s op rs pend).2 ++ others) := by
  refine micro_sync_rec hf tl size s op rs pend others (fun hs hb => hb.shr hs)
    (fun k hb => ⟨fun hp => by rw [bumpHits, length_modify]; exact hb.entries hp, hb.slots⟩)
    (fun k hb => ⟨hb.entries, fun hp => by rw [length_moveToEnd]; exact hb.slots hp⟩)
    (fun k v _ hb => ⟨fun hp => Nat.le_trans (Hist.length_put_le k _ s.store) (Nat.succ_le_succ (hb.entries hp)),
      hb.slots⟩)
    (fun k v r hp hb => ?_) (fun k v rs' hp hb => ?_) hb
  · rw [hp] at h
    exact SyncBound.limitStep hf tl s.now r hl hn (SyncInv.erasePush h) hb.slack_erasePush.1 hb.slack_erasePush.2
  · rw [hp] at h
    exact trackMemStep_bound hf tl size rs' s k hl hn h hb

/-! ### Lifting to the system -/

theorem SyncBound.congr {cfg : Cfg} {n : Nat} {m : Store K V} {q P P' : List K} (h : SyncBound cfg n m q P)
    (hlen : P.length = P'.length) : SyncBound cfg n m q P' :=
  ⟨fun hp => hlen ▸ h.entries hp, h.slots⟩

/-- the in-flight invariant of the system; the keys in flight are those of the threads that are between the
    store write and the queue section of a store -/
def SyncSys (c : CState K V) : Prop := SyncInv c.shared.store c.shared.queue (pendKeys c.threads)

def SyncSysBound (cfg : Cfg) (n : Nat) (c : CState K V) : Prop :=
  SyncBound cfg n c.shared.store c.shared.queue (pendKeys c.threads)

theorem pendKeys_perm_mid (l1 l2 : List (Thread K V)) (t : Thread K V) :
    (pendKeys (l1 ++ t :: l2)).Perm (ownKeys t.pend ++ pendKeys (l1 ++ l2)) :=
  List.perm_middle.flatMap_right _

/-- **From one micro-step to a step of the system**, for a predicate `J store queue inflight`.  The keys in flight
    are collected thread by thread (`pendKeys`), so the stepping thread's own keys sit in the middle of the list:
    `hperm` lets `J` move them to the front, where `micro_sync_rec` wants them; `others` = the keys of all other
    threads, unchanged by the step. -/
theorem cstepWith_inflight {legacy : Bool} {cfg : Cfg} {tl : Tlru S} {size : V → Nat} {c c' : CState K V} {i : Nat}
    {J : Store K V → List K → List K → Prop} (hperm : ∀ {m q P P'}, P.Perm P' → J m q P → J m q P')
    (h : cstepWith legacy cfg tl size c i = some c') (hJ : J c.shared.store c.shared.queue (pendKeys c.threads))
    (hmicro : ∀ t op rs others, t ∈ c.threads → (op, rs) ∈ t.prog →
      (pendKeys c.threads).Perm (ownKeys t.pend ++ others) →
      J c.shared.store c.shared.queue (ownKeys t.pend ++ others) →
      J (micro legacy cfg tl size c.shared op rs t.pend).1.store (micro legacy cfg tl size c.shared op rs t.pend).1.queue
        (resKeys (micro legacy cfg tl size c.shared op rs t.pend).2 ++ others)) :
    J c'.shared.store c'.shared.queue (pendKeys c'.threads) := by
  obtain ⟨t, s', t', hi, hts, rfl⟩ := cstepWith_some h
  obtain ⟨op, rs, rest, hprog, hcase⟩ := tstep_some hts
  obtain ⟨l1, l2, hl, _, hset⟩ := split_of_getElem? hi
  have hP := pendKeys_perm_mid l1 l2 t
  rw [← hl] at hP
  have hm := hmicro t op rs _ (List.mem_of_getElem? hi) (hprog ▸ List.mem_cons_self) hP (hperm hP hJ)
  show J s'.store s'.queue (pendKeys (c.threads.set i t'))
  rw [hset t']
  refine hperm (pendKeys_perm_mid l1 l2 t').symm ?_
  rcases hcase with ⟨p, hr, rfl⟩ | ⟨op', o, hr, rfl⟩ <;> rw [hr] at hm <;> exact hm

/-- **Sync, one step of the system** keeps `SyncSys` and, with `limit = n`, `SyncSysBound`. -/
theorem cstep_sync {cfg : Cfg} {tl : Tlru S} {size : V → Nat} (hf : cfg.flavour ≠ .async)
    (c : CState K V) (i : Nat) (c' : CState K V) (hs : SyncSys c) (h : cstep cfg tl size c i = some c') :
    SyncSys c' ∧ ∀ n, cfg.limit = some n → SyncSysBound cfg n c → SyncSysBound cfg n c' :=
  ⟨cstepWith_inflight (J := SyncInv) (fun hp h => h.congr fun _ => hp.mem_iff.mp) h hs
    fun t op rs others _ _ _ => micro_sync_inv cfg tl size c.shared op rs t.pend hf others,
   fun n hlim hb => cstepWith_inflight (J := SyncBound cfg n) (fun hp h => h.congr hp.length_eq) h hb
    fun t op rs others _ _ hP => micro_sync_bound cfg tl size c.shared op rs t.pend hf others hlim (Nat.le_refl n)
      (hs.congr fun _ => hP.mem_iff.mp)⟩

theorem pendKeys_of_quiescent {c : CState K V} (hq : Quiescent c) : pendKeys c.threads = [] := by
  unfold pendKeys
  rw [List.flatMap_eq_nil_iff]
  intro t ht
  rw [hq t ht]; rfl

theorem pendKeys_start (s : State K V) (progs : List (List (Op K V × List Nat))) :
    pendKeys (CState.start s progs).threads = [] :=
  pendKeys_of_quiescent (forall_start s fun _ _ => rfl)

/-! ## §7 Sequential use from a state with orphan queue keys -/

/-- the consistency a quiescent sync cache is left in: store keys distinct, queue duplicate-free, every
    stored key queued (so it can be evicted, expired, invalidated); queue keys that are not stored
    ("orphans") are allowed.  Weaker than `Inv`. -/
def WeakInv (s : State K V) : Prop := SyncInv s.store s.queue []

/-- entry bound of a quiescent sync cache with `limit = n` -/
def WeakBound (cfg : Cfg) (n : Nat) (s : State K V) : Prop := SyncBound cfg n s.store s.queue []

theorem WeakInv.of_inv {s : State K V} (h : Inv s) : WeakInv s := SyncInv.of_inv h []

theorem step_of_micro {cfg : Cfg} (rs : List Nat) (s : State K V) (op : Op K V)
    {J : Store K V → List K → List K → Prop} {others : List K}
    (hmicro : ∀ s1 pend, J s1.store s1.queue (ownKeys pend ++ others) →
      J (micro false cfg tl size s1 op rs pend).1.store (micro false cfg tl size s1 op rs pend).1.queue
        (resKeys (micro false cfg tl size s1 op rs pend).2 ++ others))
    (h : J s.store s.queue others) :
    J (step cfg tl size rs s op).1.store (step cfg tl size rs s op).1.queue others := by
  obtain ⟨s1, pend, hJ, hlast⟩ := (micro_chain cfg tl size s op rs).last
    (J := fun s pend => J s.store s.queue (ownKeys pend ++ others)) h
    fun s1 pend s2 p hJ hm => by have := hmicro s1 pend hJ; rwa [hm] at this
  have := hmicro s1 pend hJ
  rwa [hlast] at this

/-- **Sequential step from a quiescent sync state**: every engine operation keeps the weak consistency
    (orphans allowed), under every policy. -/
theorem step_weak {cfg : Cfg} (hf : cfg.flavour ≠ .async) (tl : Tlru S) (size : V → Nat) (rs : List Nat)
    (s : State K V) (op : Op K V) (h : WeakInv s) : WeakInv (step cfg tl size rs s op).1 :=
  step_of_micro tl size rs s op (fun s1 pend => micro_sync_inv cfg tl size s1 op rs pend hf []) h

theorem step_weak_bound {cfg : Cfg} (hf : cfg.flavour ≠ .async) (tl : Tlru S) (size : V → Nat) (rs : List Nat)
    (s : State K V) (op : Op K V) (n : Nat) (hl : cfg.limit = some n) (h : WeakInv s) (hb : WeakBound cfg n s) :
    WeakBound cfg n (step cfg tl size rs s op).1 :=
  (step_of_micro (J := fun m q P => SyncInv m q P ∧ SyncBound cfg n m q P) tl size rs s op
    (fun s1 pend hJ => ⟨micro_sync_inv cfg tl size s1 op rs pend hf [] hJ.1,
      micro_sync_bound cfg tl size s1 op rs pend hf [] hl (Nat.le_refl n) hJ.1 hJ.2⟩) ⟨h, hb⟩).2

/-- what the in-flight invariant and the two-part bound give under EVERY policy (Random included):
    at most `n` entries plus one per store in flight -/
theorem sync_entries_le {cfg : Cfg} {n : Nat} {m : Store K V} {q P : List K} (h : SyncInv m q P)
    (hb : SyncBound cfg n m q P) : m.length ≤ n + P.length := by
  by_cases hp : cfg.policy = .random
  · have := hb.slots (Or.inr (Or.inr hp))
    have := h.length_le
    omega
  · exact hb.entries hp

theorem weak_length_le {cfg : Cfg} {n : Nat} {s : State K V} (h : WeakInv s) (hb : WeakBound cfg n s) :
    s.store.length ≤ n := by
  have := sync_entries_le h hb; simpa using this

theorem step_val {f : K → V} (rs : List Nat) (s : State K V) (op : Op K V) (hs : ValOK f s.store) (hop : OpOK f op) :
    ValOK f (step cfg tl size rs s op).1.store ∧ RecOK f op (step cfg tl size rs s op).2 := by
  obtain ⟨s1, pend, hJ, hlast⟩ := (micro_chain cfg tl size s op rs).last
    (J := fun s pend => ValOK f s.store ∧ ∀ p, pend = some p → PendOK f p) ⟨hs, nofun⟩
    fun s1 pend s2 p hJ hm => by
      have := micro_val false cfg tl size s1 op rs pend hJ.1 hop hJ.2
      rw [hm] at this
      exact ⟨this.1, fun p' hp' => Option.some.inj hp' ▸ this.2⟩
  have := micro_val false cfg tl size s1 op rs pend hJ.1 hop hJ.2
  rwa [hlast] at this

/-! ## §8 Sync engine: the memory bound with stores in flight -/

/-- outcome of one eviction attempt in ANY state: it succeeded and the queue got shorter, or it failed,
    changed no entry, and no queued key is stored -/
def EvCases (m : Store K V) (q : List K) (r : Store K V × List K × Bool) : Prop :=
  (r.2.2 = true ∧ r.2.1.length < q.length) ∨ (r.2.2 = false ∧ r.1 = m ∧ ∀ x, x ∈ q → x ∉ keys m)

theorem popStored_cases (m : Store K V) (q : List K) : EvCases m q (popStored m q) := by
  induction q with
  | nil => right; simp [popStored]
  | cons a q ih =>
    simp only [popStored]
    by_cases ha : hasKey a m = true
    · simp only [ha, if_true]; left; simp
    · simp only [ha, if_false, Bool.false_eq_true]
      rcases ih with ⟨h1, h2⟩ | ⟨h1, h2, h3⟩
      · left; exact ⟨h1, by simp only [List.length_cons]; omega⟩
      · right; refine ⟨h1, h2, ?_⟩
        intro x hx
        rcases List.mem_cons.mp hx with h | h
        · subst h; intro hh; exact ha ((hasKey_iff x m).mpr hh)
        · exact h3 x h

theorem popOne_cases (m : Store K V) (q : List K) : EvCases m q (popOne m q) := by
  cases q with
  | nil => right; simp [popOne]
  | cons a q => left; simp [popOne]

theorem evictRandom_cases (r : Nat) (m : Store K V) (q : List K) : EvCases m q (evictRandom r m q) := by
  cases q with
  | nil => right; simp [evictRandom]
  | cons a q =>
    left
    have hlt : r % (a :: q).length < (a :: q).length := Nat.mod_lt _ (by simp)
    unfold evictRandom
    rw [List.getElem?_eq_getElem hlt]
    simp only [List.length_eraseIdx_of_lt hlt]
    exact ⟨trivial, by simp⟩

theorem evictScored_cases {cfg : Cfg} (hf : cfg.flavour ≠ .async) (tl : Tlru S) (now : Nat) (m : Store K V) (q : List K)
    (hp : cfg.policy = .lfu ∨ cfg.policy = .arc ∨ cfg.policy = .tlru) :
    EvCases m q (evictScored cfg tl now m q) := by
  unfold evictScored
  cases hv : victim cfg tl now m q with
  | none => right; exact ⟨rfl, rfl, victim_none hp hv⟩
  | some k =>
    left
    refine ⟨rfl, ?_⟩
    have hk := (victim_mem hv).1
    have hq : (removeBoth cfg k m q).2 = q.erase k := by
      unfold removeBoth; cases h : cfg.flavour <;> simp_all
    simp only [hq, List.length_erase_of_mem hk]
    have := List.length_pos_of_mem hk
    omega

theorem evictMem_cases {cfg : Cfg} (hf : cfg.flavour ≠ .async) (tl : Tlru S) (now r : Nat) (m : Store K V) (q : List K) :
    EvCases m q (evictMem cfg tl now r m q) := by
  unfold evictMem
  cases hp : cfg.policy <;> simp only
  · cases cfg.flavour <;> simp only
    · exact popStored_cases m q
    · exact popOne_cases m q
    · exact popOne_cases m q
  · cases cfg.flavour <;> simp only
    · exact popStored_cases m q
    · exact popOne_cases m q
    · exact popOne_cases m q
  · exact evictScored_cases hf tl now m q (Or.inl hp)
  · exact evictScored_cases hf tl now m q (Or.inr (Or.inl hp))
  · exact evictRandom_cases r m q
  · exact evictScored_cases hf tl now m q (Or.inr (Or.inr hp))

/-- **Exit of the memory loop with orphans and in-flight stores around**: with enough fuel the loop stops
    because the footprint fits, or because no queued key is stored any more — then every entry left
    belongs to a store in flight. -/
theorem memLoop_exit {cfg : Cfg} (hf : cfg.flavour ≠ .async) (tl : Tlru S) (size : V → Nat) (now maxM extra : Nat)
    (fuel : Nat) (rs : List Nat) {m : Store K V} {q P : List K} (h : SyncInv m q P) (hfuel : q.length < fuel) :
    totalMem size (memLoop cfg tl size now maxM extra fuel rs m q).1 + extra ≤ maxM ∨
    ∀ x, x ∈ keys (memLoop cfg tl size now maxM extra fuel rs m q).1 → x ∈ P := by
  induction fuel generalizing rs m q with
  | zero => omega
  | succ fuel ih =>
    simp only [memLoop]
    split
    · left; assumption
    · have hs := evictMem_shr cfg tl now (rs.headD 0) m q
      have hc := evictMem_cases hf tl now (rs.headD 0) m q
      generalize evictMem cfg tl now (rs.headD 0) m q = r at hs hc
      obtain ⟨m', q', ev⟩ := r
      simp only
      rcases hc with ⟨h1, h2⟩ | ⟨h1, h2, h3⟩
      · simp only at h1 h2
        subst h1
        simp only [if_true]
        exact ih rs.tail (h.shr hs) (by omega)
      · simp only at h1 h2 h3
        subst h1
        simp only [Bool.false_eq_true, if_false]
        right
        intro x hx
        rw [h2] at hx
        exact h.tracked x hx (fun hq => h3 x hq hx)

theorem totalMem_eq_of_valOK {f : K → V} {m : Store K V} (h : ValOK f m) :
    totalMem size m = ((keys m).map (fun x => size (f x))).sum := by
  induction m with
  | nil => rfl
  | cons a m ih =>
    obtain ⟨k, e⟩ := a
    have hk : e.val = f k := h k e List.mem_cons_self
    have hm : ValOK f m := fun k' e' he => h k' e' (List.mem_cons_of_mem _ he)
    simp only [totalMem_cons, keys_cons, List.map_cons, List.sum_cons, ih hm, hk]

/-- memory invariant with stores in flight: the footprint exceeds `M` by at most the sizes of the values
    whose queue section (with its memory loop) has not run yet -/
def MemInv (size : V → Nat) (f : K → V) (M : Nat) (m : Store K V) (P : List K) : Prop :=
  totalMem size m ≤ M + (P.map (fun x => size (f x))).sum

/-- **The queue section of the sync `insert_with_memory` and the memory bound.**  `B` bounds the footprint of
    any part of the store whose keys are all in flight (`P`); if the store exceeds `M + B` by at most the
    entry of `k`, it holds at most `M + B` afterwards: an oversize entry is removed, else the loop stops because
    the footprint fits or because no queued key is stored any more.  `hb` speaks of the entry of `k` through
    `lookup`: another thread may have evicted it between the store write and this queue section. -/
theorem trackMemStep_mem {cfg : Cfg} (hf : cfg.flavour ≠ .async) (tl : Tlru S) (size : V → Nat) (rs : List Nat)
    (s : State K V) (k : K) (M : Nat) (hM : cfg.maxMem = some M) {P : List K} (B : Nat)
    (h : SyncInv s.store s.queue (k :: P))
    (hP : ∀ m' : Store K V, m'.Sublist s.store → (∀ x, x ∈ keys m' → x ∈ P) → totalMem size m' ≤ B)
    (hb : ∀ e, lookup k s.store = some e → totalMem size s.store ≤ M + size e.val + B) :
    totalMem size (trackMemStep cfg tl size rs s k).store ≤ M + B := by
  have h0 : SyncInv s.store (erasePush k s.queue) P := SyncInv.erasePush h
  have hc := trackMemStep_cases cfg tl size rs s k
  rw [hM] at hc
  rcases hc with ⟨hn, _⟩ | ⟨_, hM', hov, h'⟩ | ⟨_, hM', _, h'⟩
  · cases hn
  · cases hM'
    unfold entrySize at hov
    cases hl : lookup k s.store with
    | none => rw [hl] at hov; simp at hov
    | some e =>
      have := totalMem_eraseKey_of_lookup size h.keysNodup hl
      have := hb e hl
      rw [h']; simp only; omega
  · cases hM'
    have h1 := memLoop_shr cfg tl size s.now M 0 ((erasePush k s.queue).length + 1) rs s.store (erasePush k s.queue)
    have hex := memLoop_exit hf tl size s.now M 0 ((erasePush k s.queue).length + 1) rs h0 (Nat.lt_succ_self _)
    rw [h']
    simp only [loopTarget]
    generalize memLoop cfg tl size s.now M 0 ((erasePush k s.queue).length + 1) rs s.store (erasePush k s.queue) = r1 at h1 hex
    have h2 := limitStep_shr cfg tl s.now (r1.2.2.headD 0) r1.1 r1.2.1
    have hle := totalMem_sublist_le size h2.store
    rcases hex with hex | hex
    · exact Nat.le_trans hle (by omega)
    · exact Nat.le_trans (hP _ (h2.store.trans h1.store) fun x hx => hex x (h2.keys_sub x hx)) (Nat.le_add_left _ _)

/-- **Sync, one micro-step keeps the memory invariant with stores in flight** (all stores go through
    `insert_with_memory`, every value is `f` of its key). -/
theorem micro_sync_mem (s : State K V)
    (op : Op K V) (rs : List Nat) (pend : Option (Pend K V)) (hf : cfg.flavour ≠ .async) (others : List K)
    (f : K → V) (M : Nat) (hM : cfg.maxMem = some M) (hv : ValOK f s.store) (hop : OpOK f op)
    (hvia : op.viaMem = true) (hnt : ∀ k v r, pend ≠ some (.track k v r))
    (h : SyncInv s.store s.queue (ownKeys pend ++ others))
    (hb : MemInv size f M s.store (ownKeys pend ++ others)) :
    MemInv size f M (micro false cfg tl size s op rs pend).1.store
      (resKeys (micro false cfg tl size s op rs pend).2 ++ others) := by
  refine micro_sync_rec (J := fun m _ P => MemInv size f M m P) hf tl size s op rs pend others
    (fun hs hb => Nat.le_trans (totalMem_sublist_le size hs.store) hb)
    (fun k hb => by unfold MemInv; rw [totalMem_bumpHits]; exact hb) (fun k hb => hb)
    (fun k v hk hb => ?_) (fun k v r hp _ => absurd hp (hnt k v r)) (fun k v rs' hp hb => ?_) hb
  · have hvk : v = f k := by
      rcases hk with hk | hk <;> subst hk
      · cases hvia
      · exact hop
    unfold MemInv at hb ⊢
    have := totalMem_eraseKey_le size k s.store
    rw [totalMem_put, List.map_cons, List.sum_cons, hvk]
    simp only
    omega
  · rw [hp] at h
    refine trackMemStep_mem hf tl size rs' s k M hM _ h (fun m' hs hk => ?_) (fun e hl => ?_)
    · rw [totalMem_eq_of_valOK size (hv.sublist hs)]
      exact sum_map_le_of_nodup_subset _ ((keys_sublist hs).nodup h.keysNodup) hk
    · have := hv k e (lookup_mem hl)
      unfold MemInv at hb
      rw [List.map_cons, List.sum_cons] at hb
      rw [this]; omega

theorem micro_not_track (s : State K V)
    (op : Op K V) (rs : List Nat) (pend : Option (Pend K V)) (hvia : op.viaMem = true)
    (hnt : ∀ k v r, pend ≠ some (.track k v r)) :
    ∀ k v r, (micro legacy cfg tl size s op rs pend).2 ≠ .more (.track k v r) := by
  intro k0 v0 r0
  cases pend with
  | none =>
    rcases op_get_or op with ⟨k, rfl⟩ | hop
    · rcases first_get legacy cfg tl size s rs k with ⟨_, hr⟩ | ⟨e, _, _, hr⟩ | ⟨e, _, _, hr⟩ <;>
        simp only [micro, hr]
      · nofun
      · split <;> nofun
      · rcases hitRes_cases cfg k e.val with hr | ⟨_, hr⟩ | ⟨_, hr⟩ | ⟨_, hr⟩ <;> rw [hr] <;> nofun
    · obtain ⟨_, _, hr | ⟨p, hr, _, hpo⟩⟩ := first_other legacy cfg tl size s rs hop <;> simp only [micro, hr]
      · nofun
      · intro h; cases h; cases hpo; cases hvia
  | some p =>
    rcases micro_some legacy cfg tl size s op rs p with ⟨_, hr⟩ | ⟨_, hr⟩ <;> rw [hr]
    · cases p with
      | move k v => rw [cont_move]; split <;> nofun
      | _ => nofun
    · nofun

/-- the memory invariant of the system (kept by a step under `SyncSys`, `ValInv f` and `NoPlain`:
    `cstep_sync_mem`) -/
def MemSys (size : V → Nat) (f : K → V) (M : Nat) (c : CState K V) : Prop :=
  MemInv size f M c.shared.store (pendKeys c.threads)

/-- every store goes through `insert_with_memory` (as the generated code does when `max_memory` is set) -/
def NoPlain (c : CState K V) : Prop :=
  ∀ t, t ∈ c.threads → (∀ x, x ∈ t.prog → x.1.viaMem = true) ∧ ∀ k v r, t.pend ≠ some (.track k v r)

theorem MemInv.congr {size : V → Nat} {f : K → V} {M : Nat} {m : Store K V} {P P' : List K} (h : MemInv size f M m P)
    (hsum : (P.map (fun x => size (f x))).sum = (P'.map (fun x => size (f x))).sum) : MemInv size f M m P' := by
  unfold MemInv at h ⊢; omega

theorem cstep_noPlain {cfg : Cfg} {tl : Tlru S} {size : V → Nat} (c : CState K V) (i : Nat) (c' : CState K V)
    (hn : NoPlain c) (h : cstep cfg tl size c i = some c') : NoPlain c' := by
  refine cstepWith_forall h hn fun t s' t' ht hts => ?_
  obtain ⟨op, rs, rest, hprog, hcase⟩ := tstep_some hts
  have hnt := micro_not_track false cfg tl size c.shared op rs t.pend
    ((hn t ht).1 (op, rs) (hprog ▸ List.mem_cons_self)) (hn t ht).2
  rcases hcase with ⟨p, hr, rfl⟩ | ⟨op', o, hr, rfl⟩
  · exact ⟨(hn t ht).1, fun k v r hh => hnt k v r (by rw [hr, Option.some.inj hh])⟩
  · exact ⟨fun y hy => (hn t ht).1 y (hprog ▸ List.mem_cons_of_mem _ hy), nofun⟩

/-- **Sync, one step of the system** keeps the memory invariant `MemSys`, under `SyncSys`, `ValInv f` and `NoPlain`. -/
theorem cstep_sync_mem {cfg : Cfg} {tl : Tlru S} {size : V → Nat} (hf : cfg.flavour ≠ .async)
    (f : K → V) (M : Nat) (hM : cfg.maxMem = some M)
    (c : CState K V) (i : Nat) (c' : CState K V) (hs : SyncSys c) (hv : ValInv f c) (hn : NoPlain c)
    (hb : MemSys size f M c) (h : cstep cfg tl size c i = some c') : MemSys size f M c' :=
  cstepWith_inflight (J := fun m _ P => MemInv size f M m P) (fun hp h => h.congr (hp.map _).sum_nat) h hb
    fun t op rs others ht hop hP => micro_sync_mem cfg tl size c.shared op rs t.pend hf others f M hM hv.1
      ((hv.2 t ht).1 _ hop) ((hn t ht).1 _ hop) (hn t ht).2 (hs.congr fun _ => hP.mem_iff.mp)

theorem step_weak_mem {cfg : Cfg} (hf : cfg.flavour ≠ .async) (tl : Tlru S) (size : V → Nat) (rs : List Nat)
    (s : State K V) (op : Op K V) (M : Nat) (hM : cfg.maxMem = some M) (hvia : op.viaMem = true)
    (h : WeakInv s) (hb : totalMem size s.store ≤ M) : totalMem size (step cfg tl size rs s op).1.store ≤ M := by
  cases op with
  | get k => exact Nat.le_trans (totalMem_get_le size cfg s k) hb
  | insert k v => cases hvia
  | insertMem k v =>
    simp only [step]
    rw [insertMem_sync hf]
    refine trackMemStep_mem (P := []) hf tl size rs _ k M hM 0 (h.put k _) (fun m' _ hk => ?_) (fun e hl => ?_)
    · cases m' with
      | nil => exact Nat.le_refl 0
      | cons a m' => exact nomatch hk a.1 (by simp)
    · have := totalMem_eraseKey_le size k s.store
      rw [lookup_put_self] at hl
      cases hl
      simp only [totalMem_put]
      omega
  | clear => exact Nat.zero_le M
  | invalidateWith p => exact Nat.le_trans (totalMem_invalidateWith_le size p s) hb
  | tick ms => exact hb

/-! ## §9 Whole histories and whole schedules -/

theorem run_weak {cfg : Cfg} (hf : cfg.flavour ≠ .async) (tl : Tlru S) (size : V → Nat)
    (ops : List (Op K V × List Nat)) (s : State K V) (h : WeakInv s) :
    WeakInv (run cfg tl size s ops).1 ∧
    ∀ n, cfg.limit = some n → WeakBound cfg n s → WeakBound cfg n (run cfg tl size s ops).1 :=
  run_invariant (J := fun s' => WeakInv s' ∧ ∀ n, cfg.limit = some n → WeakBound cfg n s → WeakBound cfg n s')
    cfg tl size ops (fun s' op rs _ hJ => ⟨step_weak hf tl size rs s' op hJ.1,
      fun n hl hb => step_weak_bound hf tl size rs s' op n hl hJ.1 (hJ.2 n hl hb)⟩) s ⟨h, fun _ _ hb => hb⟩

theorem run_weak_mem {cfg : Cfg} (hf : cfg.flavour ≠ .async) (tl : Tlru S) (size : V → Nat) (M : Nat)
    (hM : cfg.maxMem = some M) (ops : List (Op K V × List Nat)) (hops : AllViaMem ops) (s : State K V)
    (h : WeakInv s) (hb : totalMem size s.store ≤ M) : totalMem size (run cfg tl size s ops).1.store ≤ M :=
  (run_invariant (J := fun s' => WeakInv s' ∧ totalMem size s'.store ≤ M) cfg tl size ops
    (fun s' op rs hm hJ => ⟨step_weak hf tl size rs s' op hJ.1,
      step_weak_mem hf tl size rs s' op M hM (hops _ hm) hJ.1 hJ.2⟩) s ⟨h, hb⟩).2

/-- values along a whole sequential history: the store stays `(k, f k)` and every lookup that returns
    a value returns `f` of its key -/
theorem run_val {f : K → V} (ops : List (Op K V × List Nat))
    (s : State K V) (hs : ValOK f s.store) (hops : ∀ x, x ∈ ops → OpOK f x.1) :
    ValOK f (run cfg tl size s ops).1.store ∧
    ∀ a o, (a, o) ∈ ops.zip (run cfg tl size s ops).2 → RecOK f a.1 o := by
  induction ops generalizing s with
  | nil => exact ⟨hs, by intro a o h; simp [run] at h⟩
  | cons a ops ih =>
    obtain ⟨op, rs⟩ := a
    simp only [run]
    have h1 := step_val cfg tl size rs s op hs (hops (op, rs) List.mem_cons_self)
    have h2 := ih _ h1.1 (fun x hx => hops x (List.mem_cons_of_mem _ hx))
    refine ⟨h2.1, ?_⟩
    intro a o hao
    simp only [List.zip_cons_cons, List.mem_cons, Prod.mk.injEq] at hao
    rcases hao with ⟨ha, ho⟩ | hao
    · rw [ha, ho]; exact h1.2
    · exact h2.2 a o hao

theorem run_bound_from (n : Nat) (hl : cfg.limit = some n) (hn : 1 ≤ n)
    (ops : List (Op K V × List Nat)) (s : State K V) (hi : Inv s) (hb : s.store.length ≤ n) :
    (run cfg tl size s ops).1.store.length ≤ n :=
  (run_invariant (J := fun s' => Inv s' ∧ s'.store.length ≤ n) cfg tl size ops
    (fun s' op rs _ hJ => ⟨step_inv cfg tl size rs s' op hJ.1, C04.step_bound cfg tl size rs s' op n hl hn hJ.1 hJ.2⟩)
    s ⟨hi, hb⟩).2

/-- the full operation list of a thread: what it has finished followed by what it still has to run -/
def fullOps (t : Thread K V) : List (Op K V) := t.done.map (·.1) ++ t.prog.map (·.1)

theorem micro_fits (s : State K V)
    (op : Op K V) (rs : List Nat) (pend : Option (Pend K V)) (hp : PendFits legacy cfg op pend) :
    ResFits legacy cfg op (micro legacy cfg tl size s op rs pend).2 := by
  cases pend with
  | none =>
    rcases op_get_or op with ⟨k, rfl⟩ | hop
    · rcases first_get legacy cfg tl size s rs k with ⟨_, hr⟩ | ⟨e, _, _, hr⟩ | ⟨e, _, _, hr⟩ <;>
        simp only [micro, hr]
      · exact rfl
      · split
        · rename_i hl; exact ⟨Bool.and_eq_true_iff.mp hl, rfl⟩
        · exact ⟨trivial, rfl⟩
      · rcases hitRes_cases cfg k e.val with hr | ⟨ha, hr⟩ | ⟨ha, hr⟩ | ⟨ha, hr⟩ <;> rw [hr]
        · exact rfl
        · exact ⟨ha, rfl⟩
        · exact ⟨ha, rfl⟩
        · exact ⟨ha, rfl⟩
    · obtain ⟨_, _, hr | ⟨p, hr, hok, hpo⟩⟩ := first_other legacy cfg tl size s rs hop <;> simp only [micro, hr]
      · exact rfl
      · exact ⟨hok, hpo⟩
  | some p =>
    obtain ⟨hok, rfl⟩ := hp
    rw [micro_some_of_okFor tl size s _ rs hok]
    cases p with
    | move k v => rw [cont_move]; split; exact ⟨hok, rfl⟩; exact rfl
    | legacyDrop k => exact ⟨hok, rfl⟩
    | _ => exact rfl

/-- thread-level well-formedness: an operation in progress is the one at the head of the program -/
def ThreadFits (legacy : Bool) (cfg : Cfg) (t : Thread K V) : Prop :=
  match t.prog with
  | [] => t.pend = none
  | (op, _) :: _ => PendFits legacy cfg op t.pend

def Fits (legacy : Bool) (cfg : Cfg) (c : CState K V) : Prop := ∀ t, t ∈ c.threads → ThreadFits legacy cfg t

/-- **Faithful bookkeeping**: a step keeps every thread's full operation list (finished ++ remaining)
    unchanged — the record a finished operation leaves is the record of the program's own operation —
    and keeps the local states fitting. -/
theorem cstepWith_fits {legacy : Bool} {cfg : Cfg} {tl : Tlru S} {size : V → Nat} (c : CState K V) (i : Nat)
    (c' : CState K V) (hfit : Fits legacy cfg c) (h : cstepWith legacy cfg tl size c i = some c') :
    Fits legacy cfg c' ∧ c'.threads.map fullOps = c.threads.map fullOps := by
  have hstep : ∀ t s' t', t ∈ c.threads → tstep legacy cfg tl size c.shared t = some (s', t') →
      ThreadFits legacy cfg t' ∧ fullOps t' = fullOps t := by
    intro t s' t' ht hts
    obtain ⟨op, rs, rest, hprog, hcase⟩ := tstep_some hts
    have hm := micro_fits legacy cfg tl size c.shared op rs t.pend
      (by have := hfit t ht; rwa [ThreadFits, hprog] at this)
    rcases hcase with ⟨p, hr, rfl⟩ | ⟨op', o, hr, rfl⟩ <;> rw [hr] at hm
    · exact ⟨by rw [ThreadFits, hprog]; exact hm, rfl⟩
    · refine ⟨by rw [ThreadFits]; cases rest <;> trivial, ?_⟩
      cases (hm : op' = op)
      simp only [fullOps, hprog, List.map_append, List.map_cons, List.map_nil, List.append_assoc,
        List.cons_append, List.nil_append]
  refine ⟨cstepWith_forall h hfit fun t s' t' ht hts => (hstep t s' t' ht hts).1, ?_⟩
  obtain ⟨t, s', t', hi, hts, rfl⟩ := cstepWith_some h
  obtain ⟨l1, l2, hl, _, hset⟩ := split_of_getElem? hi
  show (c.threads.set i t').map fullOps = c.threads.map fullOps
  rw [hset t', hl, List.map_append, List.map_append, List.map_cons, List.map_cons,
    (hstep t s' t' (List.mem_of_getElem? hi) hts).2]

theorem fits_start (s : State K V) (progs : List (List (Op K V × List Nat))) :
    Fits legacy cfg (CState.start s progs) :=
  forall_start s fun prog _ => by cases prog <;> trivial

theorem quiescent_of_allDone {legacy : Bool} {cfg : Cfg} {c : CState K V} (hw : Fits legacy cfg c) (hd : AllDone c) :
    Quiescent c := fun t ht => by have := hw t ht; rwa [ThreadFits, hd t ht] at this

theorem fullOps_start (s : State K V) (progs : List (List (Op K V × List Nat))) :
    (CState.start s progs).threads.map fullOps = progs.map (fun p => p.map (·.1)) := by
  simp only [CState.start, List.map_map]
  apply List.map_congr_left
  intro p _
  simp [fullOps, Thread.start]

theorem allDone_of_allDoneB {c : CState K V} (h : allDoneB c = true) : AllDone c := by
  intro t ht
  have := (List.all_eq_true.mp h) t ht
  exact List.isEmpty_iff.mp this

theorem quiescent_of_quiescentB {c : CState K V} (h : quiescentB c = true) : Quiescent c := by
  intro t ht
  have := (List.all_eq_true.mp h) t ht
  exact Option.isNone_iff_eq_none.mp this

theorem WeakBound.of_inv {cfg : Cfg} {n : Nat} {s : State K V} (h : Inv s) (hb : s.store.length ≤ n) :
    WeakBound cfg n s :=
  ⟨fun _ => by simpa using hb, fun _ => by rw [InvMQ.length_eq h]; exact hb⟩

/-! ## §10 One thread = the sequential model -/

theorem crun_single (s : State K V) (t : Thread K V) (n : Nat) :
    crun cfg tl size (List.replicate (n + 1) 0) ⟨s, [t]⟩ =
      match tstep false cfg tl size s t with
      | none => crun cfg tl size (List.replicate n 0) ⟨s, [t]⟩
      | some (s', t') => crun cfg tl size (List.replicate n 0) ⟨s', [t']⟩ := by
  simp only [crun, crunWith, List.replicate_succ, cstepWith, List.getElem?_cons_zero]
  cases tstep false cfg tl size s t <;> rfl

/-- **One thread = the sequential model.**  A system with a single thread that runs its whole program
    (any schedule naming it at least `3 · length` times) ends in exactly the state `Cachelito.run` computes,
    having reported exactly the outputs `Cachelito.run` computes — for both engines, every policy. -/
theorem single_thread_is_run (prog : List (Op K V × List Nat))
    (s : State K V) (d : List (Op K V × Out V)) (N : Nat) (hN : 3 * prog.length ≤ N) :
    crun cfg tl size (List.replicate N 0) ⟨s, [⟨prog, none, d⟩]⟩ =
      ⟨(run cfg tl size s prog).1, [⟨[], none, d ++ (prog.map (·.1)).zip (run cfg tl size s prog).2⟩]⟩ := by
  induction prog generalizing s d N with
  | nil =>
    simp only [run, List.map_nil, List.zip_nil_left, List.append_nil]
    induction N with
    | zero => rfl
    | succ n ih => rw [crun_single]; exact ih (Nat.zero_le _)
  | cons a rest ih =>
    obtain ⟨op, rs⟩ := a
    simp only [List.length_cons] at hN
    have hfin : ∀ n, 3 * rest.length ≤ n →
        crun cfg tl size (List.replicate n 0)
          ⟨(step cfg tl size rs s op).1, [⟨rest, none, d ++ [(op, (step cfg tl size rs s op).2)]⟩]⟩ =
        ⟨(run cfg tl size s ((op, rs) :: rest)).1,
          [⟨[], none, d ++ (((op, rs) :: rest).map (·.1)).zip (run cfg tl size s ((op, rs) :: rest)).2⟩]⟩ := by
      intro n hn
      rw [ih _ _ n hn]
      simp [run]
    rcases micro_chain cfg tl size s op rs with h1 | ⟨s1, p1, h1, h2⟩ | ⟨s1, p1, s2, p2, h1, h2, h3⟩
    · obtain ⟨n, rfl⟩ : ∃ n, N = n + 1 := ⟨N - 1, by omega⟩
      simp only [crun_single, tstep, h1]
      exact hfin n (by omega)
    · obtain ⟨n, rfl⟩ : ∃ n, N = n + 1 + 1 := ⟨N - 2, by omega⟩
      simp only [crun_single, tstep, h1, h2]
      exact hfin n (by omega)
    · obtain ⟨n, rfl⟩ : ∃ n, N = n + 1 + 1 + 1 := ⟨N - 3, by omega⟩
      simp only [crun_single, tstep, h1, h2, h3]
      exact hfin n (by omega)

end Cachelito.ConcData
