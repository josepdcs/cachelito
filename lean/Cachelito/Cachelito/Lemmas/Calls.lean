/-
  The generated wrapper (`callFn`) and the system of caches (`sysStep`, `sysRun`), as used by the sequential
  parts of C03, C14, C01(b) and C15 (core Lean only).

  The two paths of a call are those of `Lemmas/Wrapper.lean` (`Wrap.callFn_hit`, `Wrap.callFn_body`); the body
  path is given a name of its own here (`missOut`, `callFn_of_runsBody`) so that the second step of an async
  call (`Async.callFinish`, which `Lemmas/Async.lean` shows to be `missOut` by `rfl`) inherits what is proved
  about it.
  Entry predicates (`AllP`) need no invariant: every eviction helper only deletes (`⊆`), a store adds at most the
  new pair.  A system step is seen from ONE cache instance: a call that lands on it runs the wrapper on its state
  (`step_on`), anything else acts as `NonCallEffect` says (`step_off`); the theorems over histories are inductions
  over these two cases.

  What a single `sysStep` does to one instance or to the registration set is taken from `Lemmas/System.lean`
  (`SysLemmas`); `namespace Cachelito.Calls` keeps the names apart.
-/
import Cachelito.Lemmas.Hist
import Cachelito.Lemmas.System

set_option linter.unusedSectionVars false

namespace Cachelito.Calls
open Cachelito
variable {K V S : Type} [DecidableEq K]

/-! ## 1. Predicates on the entries of a store -/

/-- every stored entry `(k, e)` satisfies `P k e.val` -/
def AllP (P : K → V → Prop) (m : Store K V) : Prop := ∀ p ∈ m, P p.1 p.2.val

theorem AllP.nil (P : K → V → Prop) : AllP P ([] : Store K V) := by
  intro p hp; cases hp

theorem AllP.mono {P Q : K → V → Prop} (h : ∀ k v, P k v → Q k v) {m : Store K V} (hm : AllP P m) :
    AllP Q m := fun p hp => h _ _ (hm p hp)

theorem AllP.sub {P : K → V → Prop} {m m' : Store K V} (hs : m' ⊆ m) (hm : AllP P m) : AllP P m' :=
  fun p hp => hm p (hs hp)

theorem AllP.modify {P : K → V → Prop} {m : Store K V} (k : K) (f : Entry V → Entry V)
    (hf : ∀ e, (f e).val = e.val) (hm : AllP P m) : AllP P (modify k f m) := by
  induction m with
  | nil => exact hm
  | cons a m ih =>
    obtain ⟨x, e⟩ := a
    obtain ⟨ha, hm'⟩ := List.forall_mem_cons.mp hm
    rw [modify_cons]
    split
    · refine List.forall_mem_cons.mpr ⟨?_, hm'⟩
      show P x (f e).val
      rw [hf]; exact ha
    · exact List.forall_mem_cons.mpr ⟨ha, ih hm'⟩

theorem AllP.bumpHits {P : K → V → Prop} {m : Store K V} (k : K) (hm : AllP P m) : AllP P (bumpHits k m) :=
  AllP.modify k _ (fun _ => rfl) hm

/-! A store adds at most the new pair.  That the eviction phases only delete is `Hist.limitStep_rel`,
    `Hist.evictPhase_rel`, `Hist.asyncDrop_rel` at the relation `⊆`. -/

theorem eraseKey_sub (k : K) (m : Store K V) : eraseKey k m ⊆ m := List.filter_sublist.subset

theorem put_sub {m m' : Store K V} (h : m' ⊆ m) (k : K) (e : Entry V) : put k e m' ⊆ (k, e) :: m := by
  intro p hp
  rcases List.mem_append.mp hp with hp | hp
  · exact List.mem_cons_of_mem _ (h (eraseKey_sub k m' hp))
  · cases List.mem_singleton.mp hp; exact List.mem_cons_self

theorem AllP.put {P : K → V → Prop} {m : Store K V} (hm : AllP P m) {k : K} {e : Entry V} (hk : P k e.val) :
    AllP P (put k e m) :=
  AllP.sub (put_sub (List.Subset.refl m) k e) (List.forall_mem_cons.mpr ⟨hk, hm⟩)

theorem removeBoth_sub (cfg : Cfg) (k : K) (m : Store K V) (q : List K) : (removeBoth cfg k m q).1 ⊆ m := by
  rw [Hist.removeBoth_store]; exact eraseKey_sub k m

/-- both engine stores have the shape `storeVia`: whatever the eviction phase, as long as it only deletes, the
    store afterwards holds old entries and the new pair only -/
theorem storeVia_store_sub {cfg : Cfg} {ev : Store K V → List K → Store K V × List K}
    (hev : ∀ m q, (ev m q).1 ⊆ m) (s : State K V) (k : K) (v : V) :
    (storeVia cfg ev s k v).store ⊆ (k, ⟨v, stamp cfg s.now, 0⟩) :: s.store := by
  unfold storeVia
  split
  · exact put_sub (List.Subset.trans (hev _ _)
      (Hist.asyncDrop_rel (R := (· ⊆ ·)) List.Subset.refl eraseKey_sub s.store s.queue k)) k _
  · exact List.Subset.trans (hev _ _) (put_sub (List.Subset.refl _) k _)

theorem insert_store_sub (cfg : Cfg) (tl : Tlru S) (r : Nat) (s : State K V) (k : K) (v : V) :
    (insert cfg tl r s k v).store ⊆ (k, ⟨v, stamp cfg s.now, 0⟩) :: s.store := by
  rw [insert_eq_storeVia]
  exact storeVia_store_sub (Hist.limitStep_rel (R := (· ⊆ ·)) cfg tl List.Subset.refl eraseKey_sub s.now r) s k v

theorem insertMem_store_sub (cfg : Cfg) (tl : Tlru S) (size : V → Nat) (rs : List Nat) (s : State K V) (k : K)
    (v : V) : (insertMem cfg tl size rs s k v).store ⊆ (k, ⟨v, stamp cfg s.now, 0⟩) :: s.store := by
  cases hov : oversize cfg size v with
  | true => rw [Hist.insertMem_oversize_store hov]; exact List.subset_cons_of_subset _ (eraseKey_sub k s.store)
  | false =>
    rw [insertMem_eq_storeVia hov]
    exact storeVia_store_sub (fun m q => Hist.evictPhase_rel (R := (· ⊆ ·)) cfg tl size List.Subset.refl
      (fun _ _ _ => List.Subset.trans) eraseKey_sub s.now m q _ rs) s k v

theorem insert_allP {P : K → V → Prop} (cfg : Cfg) (tl : Tlru S) (r : Nat) (s : State K V) (k : K) (v : V)
    (h : AllP P s.store) (hk : P k v) : AllP P (insert cfg tl r s k v).store :=
  AllP.sub (insert_store_sub ..) (List.forall_mem_cons.mpr ⟨hk, h⟩)

theorem insertMem_allP {P : K → V → Prop} (cfg : Cfg) (tl : Tlru S) (size : V → Nat) (rs : List Nat)
    (s : State K V) (k : K) (v : V) (h : AllP P s.store) (hk : P k v) :
    AllP P (insertMem cfg tl size rs s k v).store :=
  AllP.sub (insertMem_store_sub ..) (List.forall_mem_cons.mpr ⟨hk, h⟩)

theorem clear_allP {P : K → V → Prop} (s : State K V) : AllP P (clear s).store := AllP.nil P

theorem invalidateWith_allP {P : K → V → Prop} (p : K → Bool) (s : State K V) (h : AllP P s.store) :
    AllP P (invalidateWith p s).store :=
  AllP.sub List.filter_sublist.subset h

/-! ## 2. The outcome of a lookup and the statistics counters -/

/-- did the lookup find an unexpired entry? -/
def found (cfg : Cfg) (s : State K V) (k : K) : Bool :=
  match lookup k s.store with
  | some e => !expired cfg s.now e
  | none => false

theorem found_iff (cfg : Cfg) (s : State K V) (k : K) :
    found cfg s k = true ↔ ∃ e, lookup k s.store = some e ∧ expired cfg s.now e = false := by
  unfold found
  cases lookup k s.store with
  | none => simp
  | some e => simp

/-- a lookup at most deletes entries or bumps a hit counter, and what it returns is the value of an entry -/
theorem get_allP {P : K → V → Prop} (cfg : Cfg) (s : State K V) (k : K) (h : AllP P s.store) :
    AllP P (get cfg s k).1.store ∧ ∀ v, (get cfg s k).2 = some v → P k v := by
  cases hl : lookup k s.store with
  | none => rw [get_miss hl]; exact ⟨h, nofun⟩
  | some e =>
    cases hx : expired cfg s.now e with
    | true => rw [get_expired hl hx]; exact ⟨AllP.sub (removeBoth_sub ..) h, nofun⟩
    | false =>
      rw [get_hit hl hx]
      refine ⟨?_, fun v hv => ?_⟩
      · show AllP P (hitUpdate cfg k s.store s.queue).1
        rw [hitUpdate_store]
        split
        · exact AllP.bumpHits k h
        · exact h
      · cases hv; exact h _ (lookup_mem hl)

/-- a lookup returns a value exactly if it found an unexpired entry -/
theorem get_isSome (cfg : Cfg) (s : State K V) (k : K) : (get cfg s k).2.isSome = found cfg s k := by
  unfold found
  cases hl : lookup k s.store with
  | none => rw [get_miss hl]; rfl
  | some e =>
    show _ = !expired cfg s.now e
    cases hx : expired cfg s.now e with
    | true => rw [get_expired hl hx]; rfl
    | false => rw [get_hit hl hx]; rfl

/-- `Hist.get_stats` in terms of `found`: one lookup counts one hit or one miss -/
theorem get_counters (cfg : Cfg) (s : State K V) (k : K) :
    (get cfg s k).1.hitStat = s.hitStat + (if found cfg s k then 1 else 0) ∧
    (get cfg s k).1.missStat = s.missStat + (if found cfg s k then 0 else 1) := by
  rw [← get_isSome]
  cases hg : (get cfg s k).2 with
  | none => exact (Hist.get_stats cfg s k).2 hg
  | some v => exact (Hist.get_stats cfg s k).1 (by rw [hg]; rfl)

/-! ## 3. The generated wrapper -/

/-- the miss path of `callFn`: run the body, consult `cache_if`, maybe store, return the fresh value -/
def missOut (spec : FnSpec) (tl : Tlru S) (size : V → Nat) (isOk : V → Bool) (rs : List Nat)
    (s1 : State K V) (c : CallIn K V) (pre : List (TraceEv K V)) : State K V × V × List (TraceEv K V) :=
  let r := c.bodyVal
  let accept := c.cacheIf c.key r
  let t1 := pre ++ [TraceEv.bodyRun] ++ (if spec.hasCacheIf then [TraceEv.predCalled c.key r accept] else [])
  if shouldStore spec isOk accept r then
    ((if spec.useMem then insertMem spec.cfg tl size rs s1 c.key r
      else insert spec.cfg tl (rs.headD 0) s1 c.key r), r, t1 ++ [TraceEv.stored c.key r, TraceEv.returned r false])
  else (s1, r, t1 ++ [TraceEv.returned r false])

/-- event classifiers used by the property statements -/
def isBodyRun : TraceEv K V → Bool
  | .bodyRun => true
  | _ => false

/-- the lookup of this call returned a value: the wrapper either consulted `invalidate_on` on it or
    returned it from the cache -/
def isHitEv : TraceEv K V → Bool
  | .checkCalled _ _ _ => true
  | .returned _ true => true
  | _ => false

/-- number of times the body ran during one call (0 or 1) -/
def bodyRuns (tr : List (TraceEv K V)) : Nat := tr.countP isBodyRun

/-- did the lookup of this call return a value? -/
def lookupHit (tr : List (TraceEv K V)) : Bool := tr.any isHitEv

theorem bodyRuns_append (a b : List (TraceEv K V)) : bodyRuns (a ++ b) = bodyRuns a + bodyRuns b :=
  List.countP_append

theorem lookupHit_append (a b : List (TraceEv K V)) : lookupHit (a ++ b) = (lookupHit a || lookupHit b) :=
  List.any_append

/-- the events the miss path appends: the body runs, `cache_if` is consulted if there is one, the result is
    handed to the engine if `st`, and returned -/
def missEvs (spec : FnSpec) (c : CallIn K V) (st : Bool) : List (TraceEv K V) :=
  TraceEv.bodyRun ::
    ((if spec.hasCacheIf then [TraceEv.predCalled c.key c.bodyVal (c.cacheIf c.key c.bodyVal)] else []) ++
     ((if st then [TraceEv.stored c.key c.bodyVal] else []) ++ [TraceEv.returned c.bodyVal false]))

theorem bodyRuns_missEvs (spec : FnSpec) (c : CallIn K V) (st : Bool) : bodyRuns (missEvs spec c st) = 1 := by
  unfold missEvs
  cases spec.hasCacheIf <;> cases st <;> rfl

theorem lookupHit_missEvs (spec : FnSpec) (c : CallIn K V) (st : Bool) : lookupHit (missEvs spec c st) = false := by
  unfold missEvs
  cases spec.hasCacheIf <;> cases st <;> rfl

section missOut
variable (spec : FnSpec) (tl : Tlru S) (size : V → Nat) (isOk : V → Bool) (rs : List Nat)
  (s1 : State K V) (c : CallIn K V) (pre : List (TraceEv K V))

/-- the miss path in one piece: the state is stored into or left alone, the body value is returned, and the
    trace is the prefix followed by `missEvs` -/
theorem missOut_eq :
    missOut spec tl size isOk rs s1 c pre =
      (if shouldStore spec isOk (c.cacheIf c.key c.bodyVal) c.bodyVal then
         (if spec.useMem then insertMem spec.cfg tl size rs s1 c.key c.bodyVal
          else insert spec.cfg tl (rs.headD 0) s1 c.key c.bodyVal)
       else s1,
       c.bodyVal, pre ++ missEvs spec c (shouldStore spec isOk (c.cacheIf c.key c.bodyVal) c.bodyVal)) := by
  unfold missOut missEvs
  cases h : shouldStore spec isOk (c.cacheIf c.key c.bodyVal) c.bodyVal <;> simp [h]

theorem missOut_val : (missOut spec tl size isOk rs s1 c pre).2.1 = c.bodyVal := by
  rw [missOut_eq]

theorem missOut_fst :
    (missOut spec tl size isOk rs s1 c pre).1 = s1 ∨
    (missOut spec tl size isOk rs s1 c pre).1 = insertMem spec.cfg tl size rs s1 c.key c.bodyVal ∨
    (missOut spec tl size isOk rs s1 c pre).1 = insert spec.cfg tl (rs.headD 0) s1 c.key c.bodyVal := by
  rw [missOut_eq]
  simp only
  split
  · split
    · exact Or.inr (Or.inl rfl)
    · exact Or.inr (Or.inr rfl)
  · exact Or.inl rfl

theorem missOut_lookupHit : lookupHit (missOut spec tl size isOk rs s1 c pre).2.2 = lookupHit pre := by
  rw [missOut_eq, lookupHit_append, lookupHit_missEvs, Bool.or_false]

theorem missOut_bodyRuns : bodyRuns (missOut spec tl size isOk rs s1 c pre).2.2 = bodyRuns pre + 1 := by
  rw [missOut_eq, bodyRuns_append, bodyRuns_missEvs]

theorem missOut_stats :
    (missOut spec tl size isOk rs s1 c pre).1.hitStat = s1.hitStat ∧
    (missOut spec tl size isOk rs s1 c pre).1.missStat = s1.missStat := by
  rcases missOut_fst spec tl size isOk rs s1 c pre with e | e | e <;> rw [e]
  · exact ⟨rfl, rfl⟩
  · exact (Hist.insertMem_frame spec.cfg tl size rs s1 c.key c.bodyVal).2
  · exact (Hist.insert_frame spec.cfg tl (rs.headD 0) s1 c.key c.bodyVal).2

end missOut

section callFn
variable (spec : FnSpec) (tl : Tlru S) (size : V → Nat) (isOk : V → Bool) (rs : List Nat)
  (s : State K V) (c : CallIn K V)

/-- a call that runs the body takes the miss path from the state the lookup left, its trace so far being the
    `invalidate_on` consultation (if the lookup returned a value that was judged stale) -/
theorem callFn_of_runsBody (h : Wrap.runsBody spec s c = true) :
    callFn spec tl size isOk rs s c =
      missOut spec tl size isOk rs (get spec.cfg s c.key).1 c (Wrap.checkPart spec s c) := by
  rw [Wrap.callFn_body spec tl size isOk rs s c h, missOut_eq]
  unfold Wrap.tailPart Wrap.predPart Wrap.storeOp Wrap.wouldStore missEvs
  cases shouldStore spec isOk (c.cacheIf c.key c.bodyVal) c.bodyVal <;> simp

theorem callFn_miss (hf : found spec.cfg s c.key = false) :
    callFn spec tl size isOk rs s c = missOut spec tl size isOk rs (get spec.cfg s c.key).1 c [] := by
  have hg : (get spec.cfg s c.key).2 = none := by
    have := get_isSome spec.cfg s c.key
    rwa [hf, Option.isSome_eq_false_iff, Option.isNone_iff_eq_none] at this
  rw [callFn_of_runsBody spec tl size isOk rs s c (Wrap.runsBody_of_none spec s c hg),
    Wrap.checkPart_of_none spec s c hg]

/-- `Wrap.callFn_of_get_some`, from the entry the lookup finds -/
theorem callFn_of_lookup_some {e : Entry V} (hl : lookup c.key s.store = some e)
    (hx : expired spec.cfg s.now e = false)
    (hs : spec.hasInvalidateOn = true → c.invalidateOn c.key e.val = false) :
    callFn spec tl size isOk rs s c = ((get spec.cfg s c.key).1, e.val,
      (if spec.hasInvalidateOn then [TraceEv.checkCalled c.key e.val false] else []) ++
        [TraceEv.returned e.val true]) :=
  Wrap.callFn_of_get_some spec tl size isOk rs s c (by rw [get_hit hl hx]) hs

/-- the wrapper keeps the store/queue invariant -/
theorem callFn_inv (spec : FnSpec) (tl : Tlru S) (size : V → Nat) (isOk : V → Bool) (rs : List Nat)
    (s : State K V) (c : CallIn K V) (h : Inv s) : Inv (callFn spec tl size isOk rs s c).1 :=
  Wrap.callFn_inv spec tl size isOk rs s c h

theorem callFn_stats :
    (callFn spec tl size isOk rs s c).1.hitStat = s.hitStat + (if found spec.cfg s c.key then 1 else 0) ∧
    (callFn spec tl size isOk rs s c).1.missStat = s.missStat + (if found spec.cfg s c.key then 0 else 1) ∧
    (callFn spec tl size isOk rs s c).1.now = s.now ∧
    lookupHit (callFn spec tl size isOk rs s c).2.2 = found spec.cfg s c.key := by
  obtain ⟨g1, g2⟩ := get_counters spec.cfg s c.key
  have g4 := get_isSome spec.cfg s c.key
  have hnow := Wrap.callFn_now spec tl size isOk rs s c
  cases hb : Wrap.runsBody spec s c with
  | false =>
    obtain ⟨cached, hg⟩ := Wrap.hit_of_not_runsBody hb
    rw [Wrap.callFn_hit spec tl size isOk rs s c hg hb] at hnow ⊢
    exact ⟨g1, g2, hnow, by rw [← g4, hg, lookupHit_append]; exact Bool.or_true _⟩
  | true =>
    -- the miss path counts nothing; `invalidate_on` was consulted exactly if the lookup returned a value
    have hp : lookupHit (Wrap.checkPart spec s c) = (get spec.cfg s c.key).2.isSome := by
      cases hg : (get spec.cfg s c.key).2 with
      | none => rw [Wrap.checkPart_of_none spec s c hg]; rfl
      | some v =>
        rw [Wrap.runsBody_of_some spec s c hg, Bool.and_eq_true] at hb
        rw [Wrap.checkPart_of_some spec s c hg hb.1]; rfl
    obtain ⟨h1, h2⟩ := missOut_stats spec tl size isOk rs (get spec.cfg s c.key).1 c (Wrap.checkPart spec s c)
    rw [callFn_of_runsBody spec tl size isOk rs s c hb] at hnow ⊢
    exact ⟨h1.trans g1, h2.trans g2, hnow, by rw [missOut_lookupHit, hp, g4]⟩

/-- **Provenance of values through one call.**  If every stored entry satisfies `P`, then after the call
    every stored entry satisfies `P` or is the pair this very call handed to the engine (`stored` event);
    a `stored k v` event always carries this call's key and body value; a value returned from the cache
    satisfies `P` for this call's key; and the returned value is the body value or such a cached value. -/
theorem callFn_prov {P : K → V → Prop} (spec : FnSpec) (tl : Tlru S) (size : V → Nat) (isOk : V → Bool)
    (rs : List Nat) (s : State K V) (c : CallIn K V) (h : AllP P s.store) :
    AllP (fun k v => P k v ∨ TraceEv.stored k v ∈ (callFn spec tl size isOk rs s c).2.2)
      (callFn spec tl size isOk rs s c).1.store ∧
    (∀ k v, TraceEv.stored k v ∈ (callFn spec tl size isOk rs s c).2.2 → k = c.key ∧ v = c.bodyVal) ∧
    (∀ v, TraceEv.returned v true ∈ (callFn spec tl size isOk rs s c).2.2 → P c.key v) ∧
    (∀ v b, TraceEv.returned v b ∈ (callFn spec tl size isOk rs s c).2.2 →
      v = (callFn spec tl size isOk rs s c).2.1) ∧
    ((callFn spec tl size isOk rs s c).2.1 = c.bodyVal ∨
      (P c.key (callFn spec tl size isOk rs s c).2.1 ∧
        TraceEv.returned (callFn spec tl size isOk rs s c).2.1 true ∈ (callFn spec tl size isOk rs s c).2.2)) := by
  obtain ⟨hg1, hg2⟩ := get_allP (P := P) spec.cfg s c.key h
  refine ⟨?_, fun k v hs => ((Wrap.stored_mem_iff spec tl size isOk rs s c k v).mp hs).2.2,
    fun v hr => hg2 v ((Wrap.served_mem_iff spec tl size isOk rs s c v).mp hr).2, ?_⟩
  · have hold := AllP.mono (Q := fun k v => P k v ∨ TraceEv.stored k v ∈ (callFn spec tl size isOk rs s c).2.2)
      (fun k v hk => Or.inl hk) hg1
    rw [Wrap.callFn_state]
    split
    · rename_i hbw
      have hnew := (Wrap.stored_mem_iff spec tl size isOk rs s c c.key c.bodyVal).mpr
        ⟨(Bool.and_eq_true _ _ ▸ hbw).1, (Bool.and_eq_true _ _ ▸ hbw).2, rfl, rfl⟩
      unfold Wrap.storeOp
      split
      · exact insertMem_allP _ _ _ _ _ _ _ hold (Or.inr hnew)
      · exact insert_allP _ _ _ _ _ _ hold (Or.inr hnew)
    · exact hold
  · cases hb : Wrap.runsBody spec s c with
    | false =>
      obtain ⟨cached, hg⟩ := Wrap.hit_of_not_runsBody hb
      rw [Wrap.callFn_hit spec tl size isOk rs s c hg hb]
      refine ⟨fun v b hr => ?_, Or.inr ⟨hg2 cached hg, List.mem_append_right _ List.mem_cons_self⟩⟩
      simp [Wrap.mem_checkPart] at hr
      exact hr.1
    | true =>
      rw [Wrap.callFn_body spec tl size isOk rs s c hb]
      refine ⟨fun v b hr => ?_, Or.inl rfl⟩
      simp [Wrap.mem_checkPart, Wrap.mem_predPart, Wrap.mem_tailPart] at hr
      exact hr.1

end callFn

/-! ### The plain configuration of C03: nothing ever removes or rejects an entry -/

/-- no entry limit, no TTL, no memory bound in effect, no `cache_if`, no `invalidate_on`, not a
    `Result` function; any flavour, policy and scope -/
structure Plain (spec : FnSpec) : Prop where
  limit : spec.cfg.limit = none
  ttl : spec.cfg.ttl = none
  mem : spec.useMem = false ∨ spec.cfg.maxMem = none
  noPred : spec.hasCacheIf = false
  noCheck : spec.hasInvalidateOn = false
  notResult : spec.isResult = false

theorem Plain.noPressure {spec : FnSpec} (hp : Plain spec) : Wrap.NoPressure spec :=
  ⟨⟨hp.limit, hp.mem.symm⟩, hp.ttl⟩

theorem put_of_not_mem {m : Store K V} {k : K} (hk : k ∉ keys m) (e : Entry V) : put k e m = m ++ [(k, e)] := by
  unfold Cachelito.put; rw [eraseKey_of_not_mem hk]

/-- one call in the plain configuration: a held key is served with the stored value; otherwise the body value is
    returned and stored at the back.  No other key or value changes. -/
theorem callFn_plain {spec : FnSpec} (hp : Plain spec) (tl : Tlru S) (size : V → Nat) (isOk : V → Bool)
    (rs : List Nat) (s : State K V) (c : CallIn K V) :
    (callFn spec tl size isOk rs s c).2 =
      (match lookup c.key s.store with
       | some e => (e.val, [TraceEv.returned e.val true])
       | none => (c.bodyVal, [TraceEv.bodyRun, TraceEv.stored c.key c.bodyVal, TraceEv.returned c.bodyVal false])) ∧
    keys (callFn spec tl size isOk rs s c).1.store =
      (match lookup c.key s.store with
       | some _ => keys s.store
       | none => keys s.store ++ [c.key]) ∧
    ∀ k', (lookup k' (callFn spec tl size isOk rs s c).1.store).map (·.val) =
      ((lookup k' s.store).map (·.val)).orElse fun _ => if c.key = k' then some c.bodyVal else none := by
  cases hl : lookup c.key s.store with
  | none =>
    have hw := Wrap.wouldStore_plain spec isOk c hp.notResult hp.noPred
    rw [Wrap.callFn_body spec tl size isOk rs s c (Wrap.runsBody_of_absent spec s c hl), hw, if_pos rfl,
      Wrap.checkPart_of_none spec s c (congrArg Prod.snd (get_miss hl)), Wrap.predPart_nopred spec c hp.noPred,
      Wrap.tailPart_stored spec isOk c hw, Wrap.storeOp_noevict spec hp.noPressure.1, get_miss hl,
      put_of_not_mem ((lookup_eq_none_iff _ _).mp hl)]
    refine ⟨rfl, keys_append _ _, fun k' => ?_⟩
    rw [lookup_append]
    cases lookup k' s.store with
    | some x => rfl
    | none => by_cases hkk : c.key = k' <;> simp [hkk, lookup]
  | some e =>
    have hx := Hist.expired_nottl spec.cfg hp.ttl s.now e
    rw [callFn_of_lookup_some spec tl size isOk rs s c hl hx (fun h => by rw [hp.noCheck] at h; cases h), get_hit hl hx,
      hitUpdate_store]
    simp only [hp.noCheck, Bool.false_eq_true, if_false, List.nil_append, true_and]
    refine ⟨?_, fun k' => ?_⟩
    · split
      · exact keys_bumpHits _ _
      · rfl
    · rw [lookup_hit_val]
      cases hk' : lookup k' s.store with
      | some x => rfl
      | none =>
        have hne : ¬ c.key = k' := fun hh => by rw [hh, hk'] at hl; cases hl
        simp [hne]

/-! ## 4. Cache instances of a system -/

-- what one step does to one instance is proved in `Lemmas/System.lean`; the lemmas used most from here on are
-- also available under this namespace
export Cachelito.SysLemmas (getCache_setCache getCache_call out_call called_call getCache_tick cacheIdOf_thread
  cacheIdOf_shared)

/-- the state of a cache instance that was never touched, at clock `n` -/
def initAt (n : Nat) : State K V := { (State.init : State K V) with now := n }

/-! ### One system step, seen from one cache instance -/

/-- is this operation a call? -/
def isCall : SysOp K V → Bool
  | .call _ _ _ => true
  | _ => false

/-- the six registry operations that clear or filter caches -/
def isInvalidation : SysOp K V → Bool
  | .invalidateByTag _ | .invalidateByEvent _ | .invalidateByDependency _ | .invalidateCache _
  | .invalidateWith _ _ | .invalidateAllWith _ => true
  | _ => false

theorem eq_call_of_isCall {op : SysOp K V} (h : isCall op = true) : ∃ fn th c, op = .call fn th c := by
  cases op with
  | call fn th c => exact ⟨fn, th, c, rfl⟩
  | _ => cases h

def ctr (s : State K V) : Nat × Nat := (s.hitStat, s.missStat)

/-- what an operation other than a call on instance `id` can do to the state `s` of `id`: leave it alone, advance
    its clock (`tick`), or — shared instances only — clear it or filter it by a key predicate (the six registry
    invalidations) or zero its counters (`statsReset`) -/
def NonCallEffect (op : SysOp K V) (id : CacheId) (s s' : State K V) : Prop :=
  s' = s ∨ (∃ ms, op = .tick ms ∧ s' = { s with now := s.now + ms }) ∨
  (id.thread = none ∧ isInvalidation op = true ∧ (s' = clear s ∨ ∃ p, s' = invalidateWith p s)) ∨
  (id.thread = none ∧ (∃ n, op = .statsReset n) ∧ s' = { s with hitStat := 0, missStat := 0 })

section NonCallEffect
variable {op : SysOp K V} {id : CacheId} {s s' : State K V} (h : NonCallEffect op id s s')
include h

theorem NonCallEffect.store_sub : s'.store ⊆ s.store := by
  rcases h with e | ⟨ms, _, e⟩ | ⟨_, _, e | ⟨p, e⟩⟩ | ⟨_, _, e⟩ <;> rw [e]
  · exact List.Subset.refl _
  · exact List.Subset.refl _
  · exact List.nil_subset _
  · exact List.filter_sublist.subset
  · exact List.Subset.refl _

theorem NonCallEffect.store_eq (hi : isInvalidation op = false) : s'.store = s.store ∧ s'.queue = s.queue := by
  rcases h with e | ⟨ms, _, e⟩ | ⟨_, h', _⟩ | ⟨_, _, e⟩
  · rw [e]; exact ⟨rfl, rfl⟩
  · rw [e]; exact ⟨rfl, rfl⟩
  · rw [hi] at h'; cases h'
  · rw [e]; exact ⟨rfl, rfl⟩

theorem NonCallEffect.ctr_eq (hr : ∀ n, op ≠ .statsReset n) : ctr s' = ctr s := by
  rcases h with e | ⟨ms, _, e⟩ | ⟨_, _, e | ⟨p, e⟩⟩ | ⟨_, ⟨n, hn⟩, _⟩
  · rw [e]
  · rw [e]; rfl
  · rw [e]; rfl
  · rw [e]; rfl
  · exact absurd hn (hr n)

theorem NonCallEffect.eq_of_thread (hid : id.thread ≠ none) (htk : ∀ ms, op ≠ .tick ms) : s' = s := by
  rcases h with e | ⟨ms, e, _⟩ | ⟨ht, _⟩ | ⟨ht, _⟩
  · exact e
  · exact absurd e (htk ms)
  · exact absurd ht hid
  · exact absurd ht hid

end NonCallEffect

section step
variable (fns : List FnSpec) (tls : Nat → Tlru S) (size : V → Nat) (isOk : V → Bool) (rs : List Nat)
  (sys : Sys K V)

theorem sysStep_call_none {fn : Nat} (th : Nat) (c : CallIn K V) (h : fns[fn]? = none) :
    sysStep fns tls size isOk rs sys (.call fn th c) = (sys, .noSuchFn) :=
  SysLemmas.sysStep_call_none fns tls size isOk rs sys fn th c h

/-- the target list of `statsGet` / `statsReset` / `invalidateWith`: registered functions of that name -/
def statTargets (name : String) : List Nat :=
  (List.range fns.length).filter (fun i =>
    isRegistered fns sys i && (match fns[i]? with | some spec => spec.name = name | none => false))

theorem statTargets_eq (name : String) :
    statTargets fns sys name = SysLemmas.regTargets fns sys (fun spec => spec.name = name) := rfl

theorem mem_statTargets (name : String) (j : Nat) :
    j ∈ statTargets fns sys name ↔
      ∃ spec, fns[j]? = some spec ∧ spec.threadScope = false ∧ sys.called.contains j = true ∧ spec.name = name := by
  simp only [statTargets_eq, SysLemmas.mem_regTargets, SysLemmas.IsRegTarget, List.contains_iff_mem, decide_eq_true_eq]

theorem sysStep_statsReset (name : String) :
    sysStep fns tls size isOk rs sys (.statsReset name) =
      ((statTargets fns sys name).foldl
        (fun sy i => sy.mapFn i (fun s => { s with hitStat := 0, missStat := 0 })) sys,
       .flag (!(statTargets fns sys name).isEmpty)) :=
  SysLemmas.sysStep_statsReset fns tls size isOk rs sys name

theorem sysStep_statsGet (name : String) :
    sysStep fns tls size isOk rs sys (.statsGet name) =
      (sys, .stats (match statTargets fns sys name with
        | i :: _ => some ((sys.getCache ⟨i, none⟩).hitStat, (sys.getCache ⟨i, none⟩).missStat)
        | [] => none)) :=
  SysLemmas.sysStep_statsGet_eq fns tls size isOk rs sys name

/-- resetting the statistics of `name`: exactly the shared instances of registered functions of that name
    get both counters zeroed; every other instance is untouched -/
theorem getCache_statsReset (name : String) (id : CacheId) :
    (sysStep fns tls size isOk rs sys (.statsReset name)).1.getCache id =
      if id.thread = none ∧ id.fn ∈ statTargets fns sys name then
        { sys.getCache id with hitStat := 0, missStat := 0 }
      else sys.getCache id := by
  rw [sysStep_statsReset, statTargets_eq]
  exact SysLemmas.getCache_foldl_mapFn (fun _ s => { s with hitStat := 0, missStat := 0 }) (fun _ _ => rfl)
    _ (SysLemmas.regTargets_nodup ..) sys id

/-- an operation other than a call registers nothing and acts on every instance as `NonCallEffect` says -/
theorem sysStep_noncall (op : SysOp K V) (hc : isCall op = false) :
    (sysStep fns tls size isOk rs sys op).1.called = sys.called ∧
    ∀ id, NonCallEffect op id (sys.getCache id) ((sysStep fns tls size isOk rs sys op).1.getCache id) := by
  refine ⟨SysLemmas.sysStep_called_of_not_call fns tls size isOk rs sys op (fun fn th c h => by rw [h] at hc; cases hc),
    fun id => ?_⟩
  by_cases h : SysLemmas.Addresses fns sys op id
  · -- addressed instances are shared ones; `SysLemmas` says what the fold over the targets does to them
    cases op with
    | call fn th c => cases hc
    | tick ms => exact h.elim
    | statsGet n => exact h.elim
    | invalidateByTag | invalidateByEvent | invalidateByDependency | invalidateCache =>
      exact Or.inr (Or.inr (Or.inl ⟨h.1, rfl, Or.inl ((SysLemmas.getCache_clearTargets fns sys _ id).1 h)⟩))
    | invalidateWith n p =>
      exact Or.inr (Or.inr (Or.inl ⟨h.1, rfl, Or.inr ⟨p,
        (SysLemmas.getCache_regTargets fns sys _ (SysLemmas.invalidateWith_fresh p) _ id).1 h⟩⟩))
    | invalidateAllWith p =>
      obtain ⟨spec, hs, _⟩ := h.2
      refine Or.inr (Or.inr (Or.inl ⟨h.1, rfl, Or.inr ⟨p spec.name, ?_⟩⟩))
      rw [SysLemmas.sysStep_invalidateAllWith, (SysLemmas.getCache_regAll fns sys p id).1 h]
      unfold SysLemmas.allWith; rw [hs]
    | statsReset n =>
      exact Or.inr (Or.inr (Or.inr ⟨h.1, ⟨n, rfl⟩,
        (SysLemmas.getCache_regTargets fns sys _ SysLemmas.statsReset_fresh _ id).1 h⟩))
  · rw [SysLemmas.sysStep_frame fns tls size isOk rs sys op id h]
    cases op with
    | tick ms => exact Or.inr (Or.inl ⟨ms, rfl, rfl⟩)
    | _ => exact Or.inl rfl

theorem stats_invalidation (op : SysOp K V) (hi : isInvalidation op = true) (id : CacheId) :
    ((sysStep fns tls size isOk rs sys op).1.getCache id).hitStat = (sys.getCache id).hitStat ∧
    ((sysStep fns tls size isOk rs sys op).1.getCache id).missStat = (sys.getCache id).missStat := by
  have hc : isCall op = false := by
    cases op with
    | call => cases hi
    | _ => rfl
  have h := ((sysStep_noncall fns tls size isOk rs sys op hc).2 id).ctr_eq (fun n h => by rw [h] at hi; cases hi)
  exact ⟨congrArg Prod.fst h, congrArg Prod.snd h⟩

/-- `SysLemmas.mem_called_sysStep` with membership spelled `contains`, as the statements about the counters
    have it -/
theorem called_step (op : SysOp K V) (j : Nat) :
    (sysStep fns tls size isOk rs sys op).1.called.contains j = true ↔
      sys.called.contains j = true ∨
      ∃ th c spec, op = .call j th c ∧ fns[j]? = some spec ∧ spec.threadScope = false := by
  rw [List.contains_iff_mem, List.contains_iff_mem]
  exact SysLemmas.mem_called_sysStep fns tls size isOk rs sys op j

end step

/-! ## 5. Histories -/

/-- the call input, if this operation is a call that lands on cache instance `id` -/
def callOn (fns : List FnSpec) (id : CacheId) : SysOp K V → Option (CallIn K V)
  | .call fn th c =>
    match fns[fn]? with
    | some spec => if cacheIdOf spec fn th = id then some c else none
    | none => none
  | _ => none

/-- the calls of a history that land on instance `id`, in order -/
def callsOn (fns : List FnSpec) (id : CacheId) (ops : List (SysOp K V × List Nat)) : List (CallIn K V) :=
  ops.filterMap (fun p => callOn fns id p.1)

/-- the keys called on instance `id` -/
def keysOn (fns : List FnSpec) (id : CacheId) (ops : List (SysOp K V × List Nat)) : List K :=
  (callsOn fns id ops).map (·.key)

/-- the body value of the first call with key `k` in a list of calls -/
def firstVal (hist : List (CallIn K V)) (k : K) : Option V :=
  (hist.find? (fun c => c.key = k)).map (·.bodyVal)

/-- all trace events of the calls that landed on instance `id`, in order (from the history and the
    outputs the model produced for it) -/
def tracesOn (fns : List FnSpec) (id : CacheId) :
    List (SysOp K V × List Nat) → List (SysOut K V) → List (TraceEv K V)
  | p :: ops, o :: outs =>
    (match callOn fns id p.1, o with
     | some _, .ret _ tr => tr
     | _, _ => []) ++ tracesOn fns id ops outs
  | _, _ => []

/-- number of body executions of calls on instance `id` -/
def runsOn (fns : List FnSpec) (id : CacheId) (ops : List (SysOp K V × List Nat)) (outs : List (SysOut K V)) : Nat :=
  bodyRuns (tracesOn fns id ops outs)

/-- duplicate-free list of the members of a list (first occurrences, in order) -/
def distinct : List K → List K
  | [] => []
  | a :: l => a :: (distinct l).filter (fun x => x ≠ a)

theorem mem_distinct (l : List K) (x : K) : x ∈ distinct l ↔ x ∈ l := by
  induction l with
  | nil => simp [distinct]
  | cons a l ih =>
    simp only [distinct, List.mem_cons, List.mem_filter, ih]
    by_cases h : x = a <;> simp [h]

theorem nodup_distinct (l : List K) : (distinct l).Nodup := by
  induction l with
  | nil => simp [distinct]
  | cons a l ih =>
    simp only [distinct, List.nodup_cons]
    exact ⟨by simp, List.Pairwise.filter _ ih⟩

theorem firstVal_none_iff (hist : List (CallIn K V)) (k : K) :
    firstVal hist k = none ↔ k ∉ hist.map (·.key) := by
  unfold firstVal
  simp only [Option.map_eq_none_iff, List.find?_eq_none, List.mem_map, not_exists, not_and]
  constructor
  · intro h c hc he; exact absurd (by simpa using he) (by simpa using h c hc)
  · intro h c hc; simpa using h c hc

theorem firstVal_append (hist : List (CallIn K V)) (c : CallIn K V) (rest : List (CallIn K V)) (k : K) :
    firstVal (hist ++ c :: rest) k =
      (firstVal hist k).orElse (fun _ => if c.key = k then some c.bodyVal else firstVal rest k) := by
  unfold firstVal
  rw [List.find?_append]
  cases hist.find? (fun c => c.key = k) with
  | some x => rfl
  | none => by_cases h : c.key = k <;> simp [h]

section sysRun
variable (fns : List FnSpec) (tls : Nat → Tlru S) (size : V → Nat) (isOk : V → Bool)

theorem sysRun_cons (sys : Sys K V) (op : SysOp K V) (rs : List Nat) (ops : List (SysOp K V × List Nat)) :
    sysRun fns tls size isOk sys ((op, rs) :: ops) =
      ((sysRun fns tls size isOk (sysStep fns tls size isOk rs sys op).1 ops).1,
       (sysStep fns tls size isOk rs sys op).2 ::
         (sysRun fns tls size isOk (sysStep fns tls size isOk rs sys op).1 ops).2) := rfl

/-- running a concatenation = running the parts in sequence -/
theorem sysRun_append (sys : Sys K V) (a b : List (SysOp K V × List Nat)) :
    sysRun fns tls size isOk sys (a ++ b) =
      ((sysRun fns tls size isOk (sysRun fns tls size isOk sys a).1 b).1,
       (sysRun fns tls size isOk sys a).2 ++ (sysRun fns tls size isOk (sysRun fns tls size isOk sys a).1 b).2) := by
  induction a generalizing sys with
  | nil => rfl
  | cons p a ih =>
    obtain ⟨op, rs⟩ := p
    rw [List.cons_append, sysRun_cons, sysRun_cons, ih]
    rfl

theorem sysRun_length (sys : Sys K V) (ops : List (SysOp K V × List Nat)) :
    (sysRun fns tls size isOk sys ops).2.length = ops.length := by
  induction ops generalizing sys with
  | nil => rfl
  | cons p ops ih =>
    obtain ⟨op, rs⟩ := p
    rw [sysRun_cons]; simp [ih]

theorem sysRun_out (sys : Sys K V) (ops : List (SysOp K V × List Nat)) (j : Nat) (op : SysOp K V) (rs : List Nat)
    (h : ops[j]? = some (op, rs)) :
    (sysRun fns tls size isOk sys ops).2[j]? =
      some (sysStep fns tls size isOk rs (sysRun fns tls size isOk sys (ops.take j)).1 op).2 := by
  induction ops generalizing sys j with
  | nil => simp at h
  | cons p ops ih =>
    obtain ⟨op', rs'⟩ := p
    cases j with
    | zero =>
      rw [List.getElem?_cons_zero] at h; cases h
      rw [sysRun_cons]; rfl
    | succ j =>
      rw [sysRun_cons, List.take_succ_cons, sysRun_cons]
      exact ih _ j h

end sysRun

/-! ### Which instance a call lands on -/

theorem callOn_some {fns : List FnSpec} {id : CacheId} {op : SysOp K V} {c : CallIn K V}
    (h : callOn fns id op = some c) :
    ∃ fn th spec, op = .call fn th c ∧ fns[fn]? = some spec ∧ cacheIdOf spec fn th = id := by
  cases op with
  | call fn th c' =>
    simp only [callOn] at h
    split at h
    · split at h
      · cases h; exact ⟨fn, th, _, rfl, ‹_›, ‹_›⟩
      · cases h
    · cases h
  | _ => cases h

theorem callOn_of_fn_ne {fns : List FnSpec} {id : CacheId} {fn : Nat} (h : fn ≠ id.fn) {th : Nat} {c : CallIn K V} :
    callOn fns id (.call fn th c) = none := by
  simp only [callOn]
  split
  · split
    · rename_i hid; exact absurd (congrArg CacheId.fn hid) h
    · rfl
  · rfl

theorem callOn_thread {fns : List FnSpec} {fn : Nat} {spec : FnSpec} (hspec : fns[fn]? = some spec)
    (hts : spec.threadScope = true) (t f th : Nat) (c : CallIn K V) :
    callOn fns ⟨fn, some t⟩ (.call f th c) = if f = fn ∧ th = t then some c else none := by
  by_cases hf : f = fn
  · subst hf
    simp only [callOn, hspec, cacheIdOf_thread hts, CacheId.mk.injEq, Option.some.injEq, true_and]
  · rw [callOn_of_fn_ne hf, if_neg (fun h => hf h.1)]

theorem callOn_shared {fns : List FnSpec} {fn : Nat} {spec : FnSpec} (hspec : fns[fn]? = some spec)
    (hts : spec.threadScope = false) (f th : Nat) (c : CallIn K V) :
    callOn fns ⟨fn, none⟩ (.call f th c) = if f = fn then some c else none := by
  by_cases hf : f = fn
  · subst hf
    simp only [callOn, hspec, cacheIdOf_shared hts, if_true]
  · rw [callOn_of_fn_ne hf, if_neg hf]

theorem mem_callsOn {fns : List FnSpec} {id : CacheId} {ops : List (SysOp K V × List Nat)} {c : CallIn K V}
    (h : c ∈ callsOn fns id ops) : ∃ p ∈ ops, ∃ th, p.1 = .call id.fn th c := by
  unfold callsOn at h
  obtain ⟨p, hp, hc⟩ := List.mem_filterMap.mp h
  obtain ⟨fn, th, spec, e1, _, e3⟩ := callOn_some hc
  refine ⟨p, hp, th, ?_⟩
  rw [e1, ← e3]; rfl

/-! ### Steps seen from one instance: calls that land on it, and everything else -/

section perInstance
variable (fns : List FnSpec) (tls : Nat → Tlru S) (size : V → Nat) (isOk : V → Bool) (rs : List Nat)
  (sys : Sys K V)

theorem step_on {id : CacheId} {op : SysOp K V} {c : CallIn K V} (h : callOn fns id op = some c) :
    ∃ spec, fns[id.fn]? = some spec ∧
      (sysStep fns tls size isOk rs sys op).1.getCache id =
        (callFn spec (tls id.fn) size isOk rs (sys.getCache id) c).1 ∧
      (sysStep fns tls size isOk rs sys op).2 =
        .ret (callFn spec (tls id.fn) size isOk rs (sys.getCache id) c).2.1
             (callFn spec (tls id.fn) size isOk rs (sys.getCache id) c).2.2 := by
  obtain ⟨fn, th, spec, e1, e2, e3⟩ := callOn_some h
  have hfn : id.fn = fn := by rw [← e3]; rfl
  subst e1
  refine ⟨spec, hfn ▸ e2, ?_, ?_⟩
  · rw [getCache_call fns tls size isOk rs sys th c e2, e3, if_pos rfl, hfn]
  · rw [out_call fns tls size isOk rs sys th c e2, e3, hfn]

theorem step_off_call {id : CacheId} {fn th : Nat} {c : CallIn K V} (h : callOn fns id (.call fn th c) = none) :
    (sysStep fns tls size isOk rs sys (.call fn th c)).1.getCache id = sys.getCache id := by
  refine SysLemmas.sysStep_frame fns tls size isOk rs sys _ id fun ⟨spec, hs, hid⟩ => ?_
  simp [callOn, hs, hid] at h

theorem step_off {id : CacheId} {op : SysOp K V} (h : callOn fns id op = none) :
    NonCallEffect op id (sys.getCache id) ((sysStep fns tls size isOk rs sys op).1.getCache id) := by
  cases hc : isCall op with
  | true =>
    obtain ⟨fn, th, c, rfl⟩ := eq_call_of_isCall hc
    exact Or.inl (step_off_call fns tls size isOk rs sys h)
  | false => exact (sysStep_noncall fns tls size isOk rs sys op hc).2 id

end perInstance

/-! ### C03: the plain configuration over whole histories -/

/-- store keys distinct, and the stored value of every key is the body value of the FIRST call with
    that key in `hist` (absent iff never called) -/
def PlainInv (hist : List (CallIn K V)) (m : Store K V) : Prop :=
  (keys m).Nodup ∧ ∀ k, (lookup k m).map (·.val) = firstVal hist k

theorem PlainInv.mem_iff {hist : List (CallIn K V)} {m : Store K V} (h : PlainInv hist m) (k : K) :
    k ∈ keys m ↔ k ∈ hist.map (·.key) := by
  apply Decidable.not_iff_not.mp
  rw [← lookup_eq_none_iff, ← firstVal_none_iff, ← h.2 k, Option.map_eq_none_iff]

theorem callFn_plainInv {spec : FnSpec} (hp : Plain spec) (tl : Tlru S) (size : V → Nat) (isOk : V → Bool)
    (rs : List Nat) (s : State K V) (c : CallIn K V) (hist : List (CallIn K V)) (h : PlainInv hist s.store) :
    PlainInv (hist ++ [c]) (callFn spec tl size isOk rs s c).1.store ∧
    bodyRuns (callFn spec tl size isOk rs s c).2.2 + (keys s.store).length =
      (keys (callFn spec tl size isOk rs s c).1.store).length ∧
    (callFn spec tl size isOk rs s c).2 =
      match firstVal hist c.key with
      | some v => (v, [TraceEv.returned v true])
      | none => (c.bodyVal, [TraceEv.bodyRun, TraceEv.stored c.key c.bodyVal, TraceEv.returned c.bodyVal false]) := by
  obtain ⟨h1, h2, h3⟩ := callFn_plain hp tl size isOk rs s c
  have hv : ∀ k', (lookup k' (callFn spec tl size isOk rs s c).1.store).map (·.val) = firstVal (hist ++ [c]) k' :=
    fun k' => by rw [h3 k', h.2 k', firstVal_append]; rfl
  have hk := h.2 c.key
  cases hl : lookup c.key s.store with
  | none =>
    rw [hl] at h1 h2 hk
    refine ⟨⟨?_, hv⟩, ?_, by rw [← hk]; exact h1⟩
    · rw [h2, List.nodup_append]
      refine ⟨h.1, by simp, fun a ha b hb => ?_⟩
      simp at hb; subst hb
      intro hab; subst hab; exact (lookup_eq_none_iff _ _).mp hl ha
    · rw [h1, h2]
      simp [bodyRuns, isBodyRun, List.countP_cons]; omega
  | some e =>
    rw [hl] at h1 h2 hk
    refine ⟨⟨by rw [h2]; exact h.1, hv⟩, ?_, by rw [← hk]; exact h1⟩
    rw [h1, h2]
    simp [bodyRuns, isBodyRun]

section plain
variable (fns : List FnSpec) (tls : Nat → Tlru S) (size : V → Nat) (isOk : V → Bool)

/-- **C03 over a history, from any state.**  In the plain configuration and without registry
    invalidations, the instance `id` always stores exactly the first body value of every key called on
    it, and every body execution adds exactly one key. -/
theorem plain_run {id : CacheId} {spec : FnSpec} (hspec : fns[id.fn]? = some spec) (hp : Plain spec)
    (ops : List (SysOp K V × List Nat)) (hno : ∀ p ∈ ops, isInvalidation p.1 = false)
    (sys : Sys K V) (hist : List (CallIn K V)) (hinv : PlainInv hist (sys.getCache id).store) :
    PlainInv (hist ++ callsOn fns id ops) ((sysRun fns tls size isOk sys ops).1.getCache id).store ∧
    runsOn fns id ops (sysRun fns tls size isOk sys ops).2 + (keys (sys.getCache id).store).length =
      (keys ((sysRun fns tls size isOk sys ops).1.getCache id).store).length := by
  induction ops generalizing sys hist with
  | nil => exact ⟨by rw [callsOn, List.filterMap_nil, List.append_nil]; exact hinv, Nat.zero_add _⟩
  | cons p ops ih =>
    obtain ⟨op, rs⟩ := p
    have hno' : ∀ p ∈ ops, isInvalidation p.1 = false := fun p hp => hno p (List.mem_cons_of_mem _ hp)
    have hop : isInvalidation op = false := hno (op, rs) List.mem_cons_self
    rw [sysRun_cons]
    cases hc : callOn fns id op with
    | some c =>
      obtain ⟨spec', hs', e1, e2⟩ := step_on fns tls size isOk rs sys hc
      rw [hspec] at hs'; cases hs'
      obtain ⟨g1, g2, _⟩ := callFn_plainInv hp (tls id.fn) size isOk rs (sys.getCache id) c hist hinv
      rw [← e1] at g1 g2
      obtain ⟨i1, i2⟩ := ih hno' _ (hist ++ [c]) g1
      have hcs : callsOn fns id ((op, rs) :: ops) = c :: callsOn fns id ops := by
        simp only [callsOn, List.filterMap_cons, hc]
      refine ⟨by rw [hcs, List.append_cons]; exact i1, ?_⟩
      · simp only [e2, runsOn, tracesOn, hc, bodyRuns_append]
        simp only [runsOn] at i2
        omega
    | none =>
      have hst := ((step_off fns tls size isOk rs sys hc).store_eq hop).1
      obtain ⟨i1, i2⟩ := ih hno' (sysStep fns tls size isOk rs sys op).1 hist (by rw [hst]; exact hinv)
      have hcs : callsOn fns id ((op, rs) :: ops) = callsOn fns id ops := by
        simp only [callsOn, List.filterMap_cons, hc]
      refine ⟨by rw [hcs]; exact i1, ?_⟩
      simp only [runsOn, tracesOn, hc, List.nil_append]
      rw [hst] at i2
      exact i2

theorem plain_run_init {id : CacheId} {spec : FnSpec} (hspec : fns[id.fn]? = some spec) (hp : Plain spec)
    (ops : List (SysOp K V × List Nat)) (hno : ∀ p ∈ ops, isInvalidation p.1 = false) :
    PlainInv (callsOn fns id ops) ((sysRun fns tls size isOk (Sys.init : Sys K V) ops).1.getCache id).store ∧
    runsOn fns id ops (sysRun fns tls size isOk (Sys.init : Sys K V) ops).2 =
      (keys ((sysRun fns tls size isOk (Sys.init : Sys K V) ops).1.getCache id).store).length := by
  have h := plain_run fns tls size isOk hspec hp ops hno Sys.init [] ⟨List.nodup_nil, fun _ => rfl⟩
  rw [List.nil_append] at h
  exact h

/-- in the plain configuration the output of a call is determined by the calls made before on its instance:
    the first body value for its key if there is one, else a body run that is stored -/
theorem plain_call_out {fn : Nat} {spec : FnSpec} (hspec : fns[fn]? = some spec) (hp : Plain spec)
    (pre : List (SysOp K V × List Nat)) (hno : ∀ p ∈ pre, isInvalidation p.1 = false)
    (th : Nat) (c : CallIn K V) (rs : List Nat) :
    (sysStep fns tls size isOk rs (sysRun fns tls size isOk (Sys.init : Sys K V) pre).1 (.call fn th c)).2 =
      match firstVal (callsOn fns (cacheIdOf spec fn th) pre) c.key with
      | some v => .ret v [TraceEv.returned v true]
      | none => .ret c.bodyVal [TraceEv.bodyRun, TraceEv.stored c.key c.bodyVal, TraceEv.returned c.bodyVal false] := by
  have h := (plain_run_init fns tls size isOk (id := cacheIdOf spec fn th) hspec hp pre hno).1
  rw [out_call fns tls size isOk rs _ th c hspec, (callFn_plainInv hp (tls fn) size isOk rs _ c _ h).2.2]
  cases firstVal (callsOn fns (cacheIdOf spec fn th) pre) c.key <;> rfl

end plain

/-- in the empty system every instance is untouched -/
theorem getCache_init (id : CacheId) : (Sys.init : Sys K V).getCache id = initAt 0 := rfl

theorem keysOn_append (fns : List FnSpec) (id : CacheId) (a b : List (SysOp K V × List Nat)) :
    keysOn fns id (a ++ b) = keysOn fns id a ++ keysOn fns id b := by
  simp [keysOn, callsOn, List.filterMap_append]

/-! ### C14: the instance of one thread depends on that thread's calls (and the clock) only -/

/-- operations that can touch instance `⟨fn, some t⟩` of a thread-scope function: calls of `fn` by
    thread `t`, and clock ticks -/
def isLocalOp (fn t : Nat) : SysOp K V → Bool
  | .call f th _ => f = fn && th = t
  | .tick _ => true
  | _ => false

/-- the sub-history of thread `t`'s calls to `fn`, with the ticks kept in place -/
def proj (fn t : Nat) (ops : List (SysOp K V × List Nat)) : List (SysOp K V × List Nat) :=
  ops.filter (fun p => isLocalOp fn t p.1)

/-- the outputs of the operations kept by `proj` -/
def projOuts (fn t : Nat) : List (SysOp K V × List Nat) → List (SysOut K V) → List (SysOut K V)
  | p :: ops, o :: outs => if isLocalOp fn t p.1 then o :: projOuts fn t ops outs else projOuts fn t ops outs
  | _, _ => []

section thread
variable (fns : List FnSpec) (tls : Nat → Tlru S) (size : V → Nat) (isOk : V → Bool)

theorem nonlocal_frame {fn t : Nat} {spec : FnSpec} (hspec : fns[fn]? = some spec) (hts : spec.threadScope = true)
    (rs : List Nat) (sys : Sys K V) (op : SysOp K V) (hl : isLocalOp fn t op = false) :
    (sysStep fns tls size isOk rs sys op).1.getCache ⟨fn, some t⟩ = sys.getCache ⟨fn, some t⟩ := by
  have hoff : callOn fns ⟨fn, some t⟩ op = none := by
    cases op with
    | call f th c =>
      rw [callOn_thread hspec hts, if_neg]
      simpa [isLocalOp] using hl
    | _ => rfl
  exact (step_off fns tls size isOk rs sys hoff).eq_of_thread (by simp) (fun ms h => by rw [h] at hl; cases hl)

/-- **Projection.**  Running a whole history and running only thread `t`'s calls to the thread-scope
    function `fn` (plus the ticks) produce the same state of instance `⟨fn, some t⟩` and the same outputs
    for those calls — from any two systems that agree on that instance. -/
theorem thread_proj {fn t : Nat} {spec : FnSpec} (hspec : fns[fn]? = some spec) (hts : spec.threadScope = true)
    (ops : List (SysOp K V × List Nat)) (sys1 sys2 : Sys K V)
    (h : sys1.getCache ⟨fn, some t⟩ = sys2.getCache ⟨fn, some t⟩) :
    (sysRun fns tls size isOk sys1 ops).1.getCache ⟨fn, some t⟩ =
      (sysRun fns tls size isOk sys2 (proj fn t ops)).1.getCache ⟨fn, some t⟩ ∧
    projOuts fn t ops (sysRun fns tls size isOk sys1 ops).2 = (sysRun fns tls size isOk sys2 (proj fn t ops)).2 := by
  induction ops generalizing sys1 sys2 with
  | nil => exact ⟨h, rfl⟩
  | cons p ops ih =>
    obtain ⟨op, rs⟩ := p
    rw [sysRun_cons]
    cases hl : isLocalOp fn t op with
    | true =>
      have hstep : (sysStep fns tls size isOk rs sys1 op).1.getCache ⟨fn, some t⟩ =
            (sysStep fns tls size isOk rs sys2 op).1.getCache ⟨fn, some t⟩ ∧
          (sysStep fns tls size isOk rs sys1 op).2 = (sysStep fns tls size isOk rs sys2 op).2 := by
        cases op with
        | call f th c =>
          simp only [isLocalOp, Bool.and_eq_true, decide_eq_true_eq] at hl
          obtain ⟨hf, hth⟩ := hl
          subst hf; subst hth
          rw [getCache_call fns tls size isOk rs sys1 th c hspec, getCache_call fns tls size isOk rs sys2 th c hspec,
            out_call fns tls size isOk rs sys1 th c hspec, out_call fns tls size isOk rs sys2 th c hspec,
            cacheIdOf_thread hts, if_pos rfl, if_pos rfl, h]
          exact ⟨rfl, rfl⟩
        | tick ms => rw [getCache_tick, getCache_tick, h]; exact ⟨rfl, rfl⟩
        | _ => cases hl
      rw [show proj fn t ((op, rs) :: ops) = (op, rs) :: proj fn t ops by
        simp only [proj, List.filter_cons, hl, if_true], sysRun_cons]
      obtain ⟨i1, i2⟩ := ih _ _ hstep.1
      refine ⟨i1, ?_⟩
      simp only [projOuts, hl, if_true]
      rw [i2, hstep.2]
    | false =>
      rw [show proj fn t ((op, rs) :: ops) = proj fn t ops by
        simp only [proj, List.filter_cons, hl, Bool.false_eq_true, if_false]]
      obtain ⟨i1, i2⟩ := ih _ sys2 ((nonlocal_frame fns tls size isOk hspec hts rs sys1 op hl).trans h)
      refine ⟨i1, ?_⟩
      simp only [projOuts, hl, Bool.false_eq_true, if_false]
      exact i2

end thread

/-! ### C01(b): provenance of every stored and every served value, for all configurations -/

section provenance
variable (fns : List FnSpec) (tls : Nat → Tlru S) (size : V → Nat) (isOk : V → Bool)

/-- one step, seen from instance `id`: entries satisfy `P0` or carry the key and body value of this very step,
    which then was a call on `id` -/
theorem step_prov (id : CacheId) (rs : List Nat) (sys : Sys K V) (op : SysOp K V) (P0 : K → V → Prop)
    (h0 : AllP P0 (sys.getCache id).store) :
    AllP (fun k v => P0 k v ∨ ∃ c, callOn fns id op = some c ∧ c.key = k ∧ c.bodyVal = v)
      ((sysStep fns tls size isOk rs sys op).1.getCache id).store := by
  cases hc : callOn fns id op with
  | some c =>
    obtain ⟨spec, _, e1, _⟩ := step_on fns tls size isOk rs sys hc
    obtain ⟨g1, g2, _⟩ := callFn_prov spec (tls id.fn) size isOk rs (sys.getCache id) c h0
    rw [e1]
    exact AllP.mono (fun k v hk => hk.imp_right fun hs => ⟨c, rfl, (g2 k v hs).1.symm, (g2 k v hs).2.symm⟩) g1
  | none =>
    exact AllP.mono (fun k v hk => Or.inl hk) (AllP.sub (step_off fns tls size isOk rs sys hc).store_sub h0)

/-- **Provenance over a history.**  Every entry of instance `id` after a history either descends from an
    entry present at the start (`P0`) or carries the key and the body value of some call ON THAT INSTANCE —
    whatever the configurations, predicates, evictions, expirations and invalidations. -/
theorem run_prov (id : CacheId) (ops : List (SysOp K V × List Nat)) (sys : Sys K V) (P0 : K → V → Prop)
    (h0 : AllP P0 (sys.getCache id).store) :
    AllP (fun k v => P0 k v ∨ ∃ c ∈ callsOn fns id ops, c.key = k ∧ c.bodyVal = v)
      ((sysRun fns tls size isOk sys ops).1.getCache id).store := by
  induction ops generalizing sys P0 with
  | nil => exact AllP.mono (fun k v hk => Or.inl hk) h0
  | cons p ops ih =>
    obtain ⟨op, rs⟩ := p
    rw [sysRun_cons]
    refine AllP.mono ?_ (ih _ _ (step_prov fns tls size isOk id rs sys op P0 h0))
    rintro k v ((hk | ⟨c, hc, hkv⟩) | ⟨c, hc, hkv⟩)
    · exact Or.inl hk
    · exact Or.inr ⟨c, List.mem_filterMap.mpr ⟨_, List.mem_cons_self, hc⟩, hkv⟩
    · obtain ⟨p, hp, hpc⟩ := List.mem_filterMap.mp hc
      exact Or.inr ⟨c, List.mem_filterMap.mpr ⟨p, List.mem_cons_of_mem _ hp, hpc⟩, hkv⟩

theorem run_prov_init (id : CacheId) (ops : List (SysOp K V × List Nat)) :
    AllP (fun k v => ∃ c ∈ callsOn fns id ops, c.key = k ∧ c.bodyVal = v)
      ((sysRun fns tls size isOk (Sys.init : Sys K V) ops).1.getCache id).store :=
  AllP.mono (fun _ _ hk => hk.resolve_left not_false) (run_prov fns tls size isOk id ops Sys.init (fun _ _ => False) (AllP.nil _))

end provenance

/-! ### C15 (sequential): the counters of a shared cache -/

/-- expected effect of one operation (with the output the model gave) on the counters `(hits, misses)`
    of function `i` whose cache name is `name`: a call of `i` counts one lookup — a hit iff the trace shows
    that the lookup returned a value; `statsReset name` zeroes; nothing else matters -/
def statUpd (i : Nat) (name : String) (acc : Nat × Nat) (op : SysOp K V) (out : SysOut K V) : Nat × Nat :=
  match op, out with
  | .call fn _ _, .ret _ tr =>
    if fn = i then (if lookupHit tr then (acc.1 + 1, acc.2) else (acc.1, acc.2 + 1)) else acc
  | .statsReset n, _ => if n = name then (0, 0) else acc
  | _, _ => acc

/-- `(hits, misses)` of function `i` expected after a history, computed from the history and its outputs
    only: lookups counted since the last `statsReset name` -/
def statsSince (i : Nat) (name : String) : Nat × Nat → List (SysOp K V × List Nat) → List (SysOut K V) → Nat × Nat
  | acc, p :: ops, o :: outs => statsSince i name (statUpd i name acc p.1 o) ops outs
  | acc, _, _ => acc

/-- number of calls of function `i` since the last `statsReset name` -/
def callsSince (i : Nat) (name : String) : Nat → List (SysOp K V × List Nat) → Nat
  | n, [] => n
  | n, p :: ops =>
    callsSince i name
      (match p.1 with
       | .call fn _ _ => if fn = i then n + 1 else n
       | .statsReset nm => if nm = name then 0 else n
       | _ => n) ops

/-- cache names of shared (global-scope / async) functions are pairwise distinct -/
def DistinctNames (fns : List FnSpec) : Prop :=
  ∀ (i j : Nat) (si sj : FnSpec), fns[i]? = some si → fns[j]? = some sj → si.threadScope = false → sj.threadScope = false →
    si.name = sj.name → i = j

/-- function `j` was called somewhere in the history -/
def calledIn (j : Nat) (ops : List (SysOp K V × List Nat)) : Prop :=
  ∃ p ∈ ops, ∃ th c, p.1 = SysOp.call j th c

section stats
variable (fns : List FnSpec) (tls : Nat → Tlru S) (size : V → Nat) (isOk : V → Bool)

theorem statUpd_call_ne {i fn : Nat} (h : fn ≠ i) (name : String) (acc : Nat × Nat) (th : Nat) (c : CallIn K V)
    (out : SysOut K V) : statUpd i name acc (.call fn th c) out = acc := by
  cases out with
  | ret v tr => exact if_neg h
  | _ => rfl

theorem statUpd_other {op : SysOp K V} (hc : isCall op = false) (hr : ∀ n, op ≠ .statsReset n) (i : Nat)
    (name : String) (acc : Nat × Nat) (out : SysOut K V) : statUpd i name acc op out = acc := by
  cases op with
  | call => cases hc
  | statsReset n => exact absurd rfl (hr n)
  | _ => rfl

theorem stats_step {i : Nat} {spec : FnSpec} (hspec : fns[i]? = some spec) (hts : spec.threadScope = false)
    (rs : List Nat) (sys : Sys K V) (op : SysOp K V)
    (hreg : sys.called.contains i = false → ctr (sys.getCache ⟨i, none⟩) = (0, 0)) :
    ctr ((sysStep fns tls size isOk rs sys op).1.getCache ⟨i, none⟩) =
      statUpd i spec.name (ctr (sys.getCache ⟨i, none⟩)) op (sysStep fns tls size isOk rs sys op).2 ∧
    ((sysStep fns tls size isOk rs sys op).1.called.contains i = false →
      ctr ((sysStep fns tls size isOk rs sys op).1.getCache ⟨i, none⟩) = (0, 0)) := by
  -- a function not registered after the step was not registered before it
  have hmono : (sysStep fns tls size isOk rs sys op).1.called.contains i = false → sys.called.contains i = false := by
    intro h
    cases hb : sys.called.contains i with
    | false => rfl
    | true => rw [(called_step fns tls size isOk rs sys op i).mpr (Or.inl hb)] at h; cases h
  cases hc : isCall op with
  | true =>
    obtain ⟨fn, th, c, rfl⟩ := eq_call_of_isCall hc
    by_cases hfn : fn = i
    · subst hfn
      obtain ⟨g1, g2, _, g4⟩ := callFn_stats spec (tls fn) size isOk rs (sys.getCache ⟨fn, none⟩) c
      refine ⟨?_, fun hcon => ?_⟩
      · rw [getCache_call fns tls size isOk rs sys th c hspec, out_call fns tls size isOk rs sys th c hspec,
          cacheIdOf_shared hts, if_pos rfl]
        simp only [statUpd, if_true, g4, ctr, g1, g2]
        cases found spec.cfg (sys.getCache ⟨fn, none⟩) c.key <;> rfl
      · rw [(called_step fns tls size isOk rs sys _ fn).mpr (Or.inr ⟨th, c, spec, rfl, hspec, hts⟩)] at hcon
        cases hcon
    · rw [step_off_call fns tls size isOk rs sys (callOn_of_fn_ne (id := ⟨i, none⟩) hfn), statUpd_call_ne hfn]
      exact ⟨rfl, fun hcon => hreg (hmono hcon)⟩
  | false =>
    by_cases hr : ∃ n, op = .statsReset n
    · obtain ⟨n, rfl⟩ := hr
      rw [(sysStep_noncall fns tls size isOk rs sys _ rfl).1, getCache_statsReset]
      have hmem := mem_statTargets fns sys n i
      by_cases hn : n = spec.name
      · subst hn
        cases hcon : sys.called.contains i with
        | true =>
          rw [if_pos ⟨rfl, hmem.mpr ⟨spec, hspec, hts, hcon, rfl⟩⟩]
          exact ⟨by simp [statUpd, ctr], nofun⟩
        | false =>
          -- not registered, so the reset skips `i` while `statUpd` zeroes: the counters must be zero already
          have hnin : i ∉ statTargets fns sys spec.name := by
            intro h; obtain ⟨_, _, _, h3, _⟩ := hmem.mp h; rw [hcon] at h3; cases h3
          rw [if_neg (fun h => hnin h.2), hreg hcon]
          exact ⟨by simp [statUpd], fun _ => rfl⟩
      · have hnin : i ∉ statTargets fns sys n := by
          intro h
          obtain ⟨spec', h1, _, _, h4⟩ := hmem.mp h
          rw [hspec] at h1; cases h1; exact hn h4.symm
        rw [if_neg (fun h => hnin h.2)]
        exact ⟨by simp [statUpd, hn], hreg⟩
    · rw [((sysStep_noncall fns tls size isOk rs sys op hc).2 _).ctr_eq (fun n h => hr ⟨n, h⟩),
        statUpd_other hc (fun n h => hr ⟨n, h⟩)]
      exact ⟨rfl, fun hcon => hreg (hmono hcon)⟩

/-- **Counters over a history, from any state.**  The counters of the shared function `i` after a history
    are exactly `statsSince`, i.e. one count per call of `i` since the last reset of its name, a hit for
    every call whose lookup returned a value. -/
theorem stats_run {i : Nat} {spec : FnSpec} (hspec : fns[i]? = some spec) (hts : spec.threadScope = false)
    (ops : List (SysOp K V × List Nat)) (sys : Sys K V)
    (hreg : sys.called.contains i = false → ctr (sys.getCache ⟨i, none⟩) = (0, 0)) :
    ctr ((sysRun fns tls size isOk sys ops).1.getCache ⟨i, none⟩) =
      statsSince i spec.name (ctr (sys.getCache ⟨i, none⟩)) ops (sysRun fns tls size isOk sys ops).2 ∧
    ((sysRun fns tls size isOk sys ops).1.called.contains i = false →
      ctr ((sysRun fns tls size isOk sys ops).1.getCache ⟨i, none⟩) = (0, 0)) := by
  induction ops generalizing sys with
  | nil => exact ⟨rfl, hreg⟩
  | cons p ops ih =>
    obtain ⟨op, rs⟩ := p
    rw [sysRun_cons]
    obtain ⟨h1, h2⟩ := stats_step fns tls size isOk hspec hts rs sys op hreg
    obtain ⟨i1, i2⟩ := ih _ h2
    refine ⟨?_, i2⟩
    rw [i1, h1]; rfl

theorem statsSince_total {i : Nat} {spec : FnSpec} (hspec : fns[i]? = some spec)
    (ops : List (SysOp K V × List Nat)) (sys : Sys K V) (acc : Nat × Nat) (n : Nat) (h : acc.1 + acc.2 = n) :
    (statsSince i spec.name acc ops (sysRun fns tls size isOk sys ops).2).1 +
      (statsSince i spec.name acc ops (sysRun fns tls size isOk sys ops).2).2 = callsSince i spec.name n ops := by
  induction ops generalizing sys acc n with
  | nil => exact h
  | cons p ops ih =>
    obtain ⟨op, rs⟩ := p
    rw [sysRun_cons]
    simp only [statsSince, callsSince]
    apply ih
    cases op with
    | call fn th c =>
      by_cases hfn : fn = i
      · subst hfn
        rw [out_call fns tls size isOk rs sys th c hspec]
        simp only [statUpd, if_true]
        split <;> simp only <;> omega
      · rw [statUpd_call_ne hfn]; exact h.trans (if_neg hfn).symm
    | statsReset nm =>
      simp only [statUpd]
      by_cases hnm : nm = spec.name
      · simp only [hnm, if_true]
      · simp only [hnm, if_false]; exact h
    | _ => exact h

theorem called_run (j : Nat) (ops : List (SysOp K V × List Nat)) (sys : Sys K V) :
    (sysRun fns tls size isOk sys ops).1.called.contains j = true ↔
      sys.called.contains j = true ∨
      (∃ spec, fns[j]? = some spec ∧ spec.threadScope = false ∧ calledIn j ops) := by
  rw [List.contains_iff_mem, List.contains_iff_mem, SysLemmas.mem_called_sysRun]
  refine or_congr Iff.rfl ⟨?_, ?_⟩
  · rintro ⟨th, c, rs, spec, h1, h2, h3⟩
    exact ⟨spec, h2, h3, _, h1, th, c, rfl⟩
  · rintro ⟨spec, h2, h3, p, hp, th, c, e⟩
    exact ⟨th, c, p.2, spec, by rw [← e]; exact hp, h2, h3⟩

end stats

theorem distinctNames_of_nodup {fns : List FnSpec} (h : (fns.map (·.name)).Nodup) : DistinctNames fns :=
  fun _ _ _ _ hi hj _ _ hn => SysLemmas.index_unique_of_name h hi hj hn

theorem eq_singleton_of_nodup {l : List Nat} {i : Nat} (hn : l.Nodup) (hall : ∀ x ∈ l, x = i) (hi : i ∈ l) :
    l = [i] := by
  cases l with
  | nil => cases hi
  | cons a t =>
    have ha := (List.nodup_cons.mp hn).1
    rw [hall a List.mem_cons_self] at ha ⊢
    cases t with
    | nil => rfl
    | cons b t =>
      exact absurd (List.mem_cons.mpr (Or.inl (hall b (List.mem_cons_of_mem _ List.mem_cons_self)).symm)) ha

theorem statTargets_registered {fns : List FnSpec} (hd : DistinctNames fns) (sys : Sys K V) {i : Nat} {spec : FnSpec}
    (hspec : fns[i]? = some spec) (hts : spec.threadScope = false) (hcon : sys.called.contains i = true) :
    statTargets fns sys spec.name = [i] := by
  apply eq_singleton_of_nodup (SysLemmas.regTargets_nodup fns sys _)
  · intro x hx
    obtain ⟨spec', h1, h2, _, h4⟩ := (mem_statTargets fns sys spec.name x).mp hx
    exact hd x i spec' spec h1 hspec h2 hts h4
  · exact (mem_statTargets fns sys spec.name i).mpr ⟨spec, hspec, hts, hcon, rfl⟩

/-- no registered shared function of that name: no target -/
theorem statTargets_none {fns : List FnSpec} (sys : Sys K V) (name : String)
    (h : ¬ ∃ j spec, fns[j]? = some spec ∧ spec.threadScope = false ∧ sys.called.contains j = true ∧ spec.name = name) :
    statTargets fns sys name = [] := by
  cases hl : statTargets fns sys name with
  | nil => rfl
  | cons a t =>
    have ha : a ∈ statTargets fns sys name := by rw [hl]; exact List.mem_cons_self
    obtain ⟨spec, h1, h2, h3, h4⟩ := (mem_statTargets fns sys name a).mp ha
    exact absurd ⟨a, spec, h1, h2, h3, h4⟩ h

end Cachelito.Calls
