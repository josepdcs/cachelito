/-
  Lemmas about the three-phase async call (`Cachelito/Async.lean`): `callLookup`, `callFinish`, pending
  calls, `aStep`, `aRun`.  Used by `Props/C20.lean`.

    1. the two phases on one cache: `callFn` factors through them; what each phase can do to a store
    2. `aStep` case by case (`lookupOnly`, `register`); what a step does to one cache instance
       (`aStep_getCache`); histories (`aRun_invariant`)
    3. writing the shared instance twice: what makes begin + resume an ordinary call
    4. pending records never influence anything but their own resume: `forget`
    5. completed calls: `completedBy`, `completions`, where a pending record comes from
    6. `SysInv` and the entry bound through every `aStep`
    7. locks: a thread parked between two complete operations holds nothing, and the other threads finish

  `Cachelito/Async.lean` is the executable model.  The notions of the C20 statements that are not part of it —
  `register`, `lookupOnly` (§2), `forget`, `mentions` (§4), `completedBy`, `completions` (§5),
  `Locks.ParkedAfterLookup` (§7) — are defined here, each in front of the lemmas about it.
-/
import Cachelito.Async
import Cachelito.Lemmas.System
import Cachelito.Lemmas.Calls
import Cachelito.Lemmas.Wrapper
import Cachelito.Lemmas.Conc

namespace Cachelito.AsyncLemmas
open Cachelito Cachelito.SysLemmas
variable {K V S : Type} [DecidableEq K]

section lists
omit [DecidableEq K]

theorem find_filter_self_none (l : List (PendingCall K V)) (id : Nat) :
    (l.filter (fun q => q.id ≠ id)).find? (fun p => p.id = id) = none := by
  rw [List.find?_eq_none]
  intro x hx
  have := (List.mem_filter.mp hx).2
  simpa using this

theorem find_filter_other (l : List (PendingCall K V)) {id i : Nat} (h : i ≠ id) :
    (l.filter (fun q => q.id ≠ id)).find? (fun p => p.id = i) = l.find? (fun p => p.id = i) := by
  rw [List.find?_filter]
  congr 1
  funext x
  by_cases hx : x.id = i <;> simp [hx, h]

theorem filter_filter_comm (l : List (PendingCall K V)) (i j : Nat) :
    (l.filter (fun q => q.id ≠ i)).filter (fun q => q.id ≠ j) =
      (l.filter (fun q => q.id ≠ j)).filter (fun q => q.id ≠ i) := by
  simp only [List.filter_filter]
  congr 1
  funext q
  exact Bool.and_comm _ _

theorem filter_ne_idem (l : List (CacheId × State K V)) (id : CacheId) (s : State K V) :
    ((id, s) :: l.filter (fun p => p.1 ≠ id)).filter (fun p => p.1 ≠ id) = l.filter (fun p => p.1 ≠ id) := by
  rw [List.filter_cons]
  simp only [ne_eq, not_true_eq_false, decide_false, Bool.false_eq_true, if_false, List.filter_filter, Bool.and_self]

end lists

/-! ## 1. The two phases on one cache -/

section phases
variable (spec : FnSpec) (tl : Tlru S) (size : V → Nat) (isOk : V → Bool) (rs : List Nat)
  (s : State K V) (c : CallIn K V)

theorem callLookup_fst : (callLookup spec s c).1 = (get spec.cfg s c.key).1 := by
  unfold callLookup
  generalize get spec.cfg s c.key = g
  obtain ⟨s1, _ | cached⟩ := g
  · rfl
  · simp only
    cases spec.hasInvalidateOn
    · rfl
    · cases c.invalidateOn c.key cached <;> rfl

theorem callFn_factor :
    callFn spec tl size isOk rs s c =
      match callLookup spec s c with
      | (s1, .inl (v, tr)) => (s1, v, tr)
      | (s1, .inr pre) => callFinish spec tl size isOk rs s1 c pre := by
  unfold callFn callLookup callFinish
  generalize get spec.cfg s c.key = g
  obtain ⟨s1, _ | cached⟩ := g
  · rfl
  · simp only
    cases spec.hasInvalidateOn
    · rfl
    · cases c.invalidateOn c.key cached <;> rfl

/-- `callFn_factor` with the `match` read as a disjunction -/
theorem callFn_of_lookup :
    (∃ v tr, (callLookup spec s c).2 = .inl (v, tr) ∧
      callFn spec tl size isOk rs s c = ((callLookup spec s c).1, v, tr)) ∨
    ∃ pre, (callLookup spec s c).2 = .inr pre ∧
      callFn spec tl size isOk rs s c = callFinish spec tl size isOk rs (callLookup spec s c).1 c pre := by
  rw [callFn_factor]
  generalize callLookup spec s c = r
  obtain ⟨s1, ⟨v, tr⟩ | pre⟩ := r
  · exact .inl ⟨v, tr, rfl, rfl⟩
  · exact .inr ⟨pre, rfl, rfl⟩

theorem callLookup_sub_val {x : K} {e' : Entry V} (h : lookup x (callLookup spec s c).1.store = some e') :
    ∃ e, lookup x s.store = some e ∧ e.val = e'.val := by
  rw [callLookup_fst] at h
  exact Wrap.get_sub_val spec.cfg s c.key h

theorem callLookup_absent (x : K) (h : lookup x s.store = none) :
    lookup x (callLookup spec s c).1.store = none := by
  rw [callLookup_fst]; exact Wrap.get_absent spec.cfg s c.key x h

theorem callLookup_length_le : (callLookup spec s c).1.store.length ≤ s.store.length := by
  rw [callLookup_fst]; exact C04.get_length_le _ _ _

variable (pre : List (TraceEv K V))

/-- `callFinish` is, word for word, the `miss` branch of `callFn` (hence `callFn_factor`); `Lemmas/Calls.lean`
    knows that branch as `Calls.missOut`, and its lemmas are used through this equation. -/
theorem callFinish_eq_missOut :
    callFinish spec tl size isOk rs s c pre = Calls.missOut spec tl size isOk rs s c pre := rfl

theorem callFinish_fst :
    (callFinish spec tl size isOk rs s c pre).1 =
      if shouldStore spec isOk (c.cacheIf c.key c.bodyVal) c.bodyVal
      then Wrap.storeOp spec tl size rs s c.key c.bodyVal else s := by
  rw [callFinish_eq_missOut, Calls.missOut_eq]; rfl

theorem callFinish_val : (callFinish spec tl size isOk rs s c pre).2.1 = c.bodyVal :=
  Calls.missOut_val spec tl size isOk rs s c pre

theorem callFinish_trace : ∃ tr, (callFinish spec tl size isOk rs s c pre).2.2 = pre ++ TraceEv.bodyRun :: tr := by
  rw [callFinish_eq_missOut, Calls.missOut_eq]; exact ⟨_, rfl⟩

theorem callFinish_rejected (hst : shouldStore spec isOk (c.cacheIf c.key c.bodyVal) c.bodyVal = false) :
    (callFinish spec tl size isOk rs s c pre).1 = s := by
  rw [callFinish_fst, hst]; rfl

theorem callFinish_oversize (hst : shouldStore spec isOk (c.cacheIf c.key c.bodyVal) c.bodyVal = true)
    (hu : spec.useMem = true) (ho : oversize spec.cfg size c.bodyVal = true) :
    lookup c.key (callFinish spec tl size isOk rs s c pre).1.store = none := by
  rw [callFinish_fst, hst, if_pos rfl]
  unfold Wrap.storeOp
  rw [if_pos hu]
  exact Wrap.insertMem_oversize spec.cfg tl size rs s c.key c.bodyVal ho

variable {spec tl size isOk rs s c pre}

theorem callLookup_allP {P : K → V → Prop} (h : Calls.AllP P s.store) :
    Calls.AllP P (callLookup spec s c).1.store := by
  rw [callLookup_fst]; exact (Calls.get_allP spec.cfg s c.key h).1

theorem callLookup_inv (h : Inv s) : Inv (callLookup spec s c).1 := by
  rw [callLookup_fst]; exact get_inv _ _ _ h

/-- the finish phase leaves the state alone or is one engine store of `(key, bodyVal)` -/
theorem callFinish_cases {R : State K V → Prop} (h0 : R s)
    (hm : R (insertMem spec.cfg tl size rs s c.key c.bodyVal))
    (hi : R (insert spec.cfg tl (rs.headD 0) s c.key c.bodyVal)) :
    R (callFinish spec tl size isOk rs s c pre).1 := by
  rcases Calls.missOut_fst spec tl size isOk rs s c pre with e | e | e <;>
    rw [callFinish_eq_missOut, e] <;> assumption

theorem callFinish_inv (h : Inv s) : Inv (callFinish spec tl size isOk rs s c pre).1 :=
  callFinish_cases h (insertMem_inv _ _ _ _ _ _ _ h) (insert_inv _ _ _ _ _ _ h)

theorem callFinish_bound (n : Nat) (hl : spec.cfg.limit = some n) (hn : 1 ≤ n) (hi : Inv s)
    (hb : s.store.length ≤ n) : (callFinish spec tl size isOk rs s c pre).1.store.length ≤ n :=
  callFinish_cases (R := fun s => s.store.length ≤ n) hb
    (C04.insertMem_bound spec.cfg tl size rs s c.key c.bodyVal n hl hn hi hb)
    (by rw [C04.insert_length spec.cfg tl _ s c.key c.bodyVal n hl hn hi hb]; exact Nat.min_le_left _ _)

theorem callFn_bound (n : Nat) (hl : spec.cfg.limit = some n) (hn : 1 ≤ n) (hi : Inv s)
    (hb : s.store.length ≤ n) : (callFn spec tl size isOk rs s c).1.store.length ≤ n := by
  have h2 := Nat.le_trans (callLookup_length_le spec s c) hb
  rcases callFn_of_lookup spec tl size isOk rs s c with ⟨v, tr, _, e⟩ | ⟨pre, _, e⟩ <;> rw [e]
  · exact h2
  · exact callFinish_bound n hl hn (callLookup_inv hi) h2

theorem callFinish_allP {P : K → V → Prop} (h : Calls.AllP P s.store) (hk : P c.key c.bodyVal) :
    Calls.AllP P (callFinish spec tl size isOk rs s c pre).1.store :=
  callFinish_cases (R := fun s => Calls.AllP P s.store) h
    (Calls.insertMem_allP _ _ _ _ _ _ _ h hk) (Calls.insert_allP _ _ _ _ _ _ h hk)

end phases

theorem callLookup_now (spec : FnSpec) (s : State K V) (c : CallIn K V) : (callLookup spec s c).1.now = s.now := by
  rw [callLookup_fst]; exact Wrap.get_now _ _ _

/-- a value the lookup phase serves from the cache was stored under the call's key -/
theorem callLookup_inl_val {P : K → V → Prop} (spec : FnSpec) (s : State K V) (c : CallIn K V)
    (h : Calls.AllP P s.store) {v : V} {tr : List (TraceEv K V)}
    (hr : (callLookup spec s c).2 = .inl (v, tr)) : P c.key v := by
  have hg := (Calls.get_allP (P := P) spec.cfg s c.key h).2
  unfold callLookup at hr
  generalize get spec.cfg s c.key = g at hg hr
  obtain ⟨s1, _ | cached⟩ := g
  · cases hr
  · have hP := hg cached rfl
    simp only at hr
    revert hr
    cases spec.hasInvalidateOn
    · intro hr; cases hr; exact hP
    · cases c.invalidateOn c.key cached
      · intro hr; cases hr; exact hP
      · intro hr; cases hr

theorem callFinish_lookup_self (spec : FnSpec) (hf : spec.cfg.flavour = .async) (tl : Tlru S) (size : V → Nat)
    (isOk : V → Bool) (rs : List Nat) (s : State K V) (c : CallIn K V) (pre : List (TraceEv K V))
    (hst : shouldStore spec isOk (c.cacheIf c.key c.bodyVal) c.bodyVal = true)
    (hno : spec.useMem = true → oversize spec.cfg size c.bodyVal = false) :
    lookup c.key (callFinish spec tl size isOk rs s c pre).1.store =
      some ⟨c.bodyVal, stamp spec.cfg s.now, 0⟩ := by
  rw [callFinish_fst, hst, if_pos rfl]
  exact Wrap.storeOp_async_self spec hf tl size rs s c.key c.bodyVal hno

/-! ## 2. The system-level state change of the three async steps -/

/-- first-call registration of a global / async function -/
def register (sys : Sys K V) (fn : Nat) : Sys K V :=
  if sys.called.contains fn then sys else { sys with called := fn :: sys.called }

/-- **Only the lookup phase**: the state change of `callBegin` without the pending record — registration
    and `callLookup` on the shared instance of function `fn`. -/
def lookupOnly (fns : List FnSpec) (sys : Sys K V) (fn : Nat) (c : CallIn K V) : Sys K V :=
  match fns[fn]? with
  | none => sys
  | some spec => register (sys.setCache ⟨fn, none⟩ (callLookup spec (sys.getCache ⟨fn, none⟩) c).1) fn

theorem getCache_register (sys : Sys K V) (fn : Nat) (id : CacheId) :
    (register sys fn).getCache id = sys.getCache id := by
  unfold register; split
  · rfl
  · exact getCache_congr rfl rfl id

omit [DecidableEq K] in
@[simp] theorem register_now (sys : Sys K V) (fn : Nat) : (register sys fn).now = sys.now := by
  unfold register; split <;> rfl

set_option linter.unusedSectionVars false in
/-- the registration set after `register`: what it was, plus `fn` -/
theorem mem_register_called (sys : Sys K V) (fn i : Nat) :
    i ∈ (register sys fn).called ↔ i ∈ sys.called ∨ i = fn := by
  unfold register
  split
  · rename_i h
    have hfn : fn ∈ sys.called := by simpa using h
    exact ⟨Or.inl, fun h' => h'.elim id (· ▸ hfn)⟩
  · exact List.mem_cons.trans Or.comm

theorem getCache_lookupOnly {fns : List FnSpec} {fn : Nat} {spec : FnSpec} (hs : fns[fn]? = some spec)
    (sys : Sys K V) (c : CallIn K V) (id : CacheId) :
    (lookupOnly fns sys fn c).getCache id =
      if id = ⟨fn, none⟩ then (callLookup spec (sys.getCache ⟨fn, none⟩) c).1 else sys.getCache id := by
  simp only [lookupOnly, hs, getCache_register, Calls.getCache_setCache]

theorem lookupOnly_none {fns : List FnSpec} {fn : Nat} (hs : fns[fn]? = none) (sys : Sys K V) (c : CallIn K V) :
    lookupOnly fns sys fn c = sys := by
  unfold lookupOnly; rw [hs]

theorem lookupOnly_now (fns : List FnSpec) (sys : Sys K V) (fn : Nat) (c : CallIn K V) :
    (lookupOnly fns sys fn c).now = sys.now := by
  unfold lookupOnly
  cases fns[fn]? with
  | none => rfl
  | some spec => simp only [register_now]; rfl

section steps
variable (fns : List FnSpec) (tls : Nat → Tlru S) (size : V → Nat) (isOk : V → Bool) (rs : List Nat) (a : ASys K V)

theorem aStep_base (op : SysOp K V) :
    aStep fns tls size isOk rs a (.base op) =
      (⟨(sysStep fns tls size isOk rs a.sys op).1, a.pending⟩, .base (sysStep fns tls size isOk rs a.sys op).2) :=
  rfl

theorem aStep_begin_none (id : Nat) {fn : Nat} (c : CallIn K V) (hs : fns[fn]? = none) :
    aStep fns tls size isOk rs a (.callBegin id fn c) = (a, .noSuchCall) := by
  rw [aStep, hs]

theorem aStep_begin_some (id : Nat) {fn : Nat} {spec : FnSpec} (c : CallIn K V) (hs : fns[fn]? = some spec) :
    aStep fns tls size isOk rs a (.callBegin id fn c) =
      match (callLookup spec (a.sys.getCache ⟨fn, none⟩) c).2 with
      | .inl (v, tr) => (⟨lookupOnly fns a.sys fn c, a.pending⟩, .ret v tr)
      | .inr pre => (⟨lookupOnly fns a.sys fn c, ⟨id, fn, c, pre⟩ :: a.pending⟩, .suspended pre) := by
  simp only [aStep, hs, lookupOnly, register]
  generalize callLookup spec (a.sys.getCache ⟨fn, none⟩) c = r
  obtain ⟨s1, y | pre⟩ := r <;> rfl

/-- `callBegin` performs the lookup phase on the system and looks at the pending list only to put the new
    record in front of it -/
theorem aStep_begin_cases (sys : Sys K V) (id fn : Nat) (c : CallIn K V) :
    (∃ o, ∀ l, aStep fns tls size isOk rs ⟨sys, l⟩ (.callBegin id fn c) = (⟨lookupOnly fns sys fn c, l⟩, o)) ∨
    ∃ pre, ∀ l, aStep fns tls size isOk rs ⟨sys, l⟩ (.callBegin id fn c) =
      (⟨lookupOnly fns sys fn c, ⟨id, fn, c, pre⟩ :: l⟩, .suspended pre) := by
  cases hs : fns[fn]? with
  | none =>
    exact .inl ⟨.noSuchCall, fun l => by rw [aStep_begin_none fns tls size isOk rs _ id c hs, lookupOnly_none hs]⟩
  | some spec =>
    cases hr : (callLookup spec (sys.getCache ⟨fn, none⟩) c).2 with
    | inl x =>
      exact .inl ⟨.ret x.1 x.2, fun l => by rw [aStep_begin_some fns tls size isOk rs _ id c hs]; simp only [hr]⟩
    | inr pre =>
      exact .inr ⟨pre, fun l => by rw [aStep_begin_some fns tls size isOk rs _ id c hs]; simp only [hr]⟩

theorem aStep_begin_sys (id fn : Nat) (c : CallIn K V) :
    (aStep fns tls size isOk rs a (.callBegin id fn c)).1.sys = lookupOnly fns a.sys fn c := by
  rcases aStep_begin_cases fns tls size isOk rs a.sys id fn c with ⟨o, e⟩ | ⟨pre, e⟩ <;> rw [e a.pending]

theorem aStep_resume_none (id : Nat) (hp : a.pending.find? (fun p => p.id = id) = none) :
    aStep fns tls size isOk rs a (.callResume id) = (a, .noSuchCall) := by
  rw [aStep, hp]

theorem aStep_resume_some (id : Nat) {p : PendingCall K V} {spec : FnSpec}
    (hp : a.pending.find? (fun p => p.id = id) = some p) (hs : fns[p.fn]? = some spec) :
    aStep fns tls size isOk rs a (.callResume id) =
      (⟨a.sys.setCache ⟨p.fn, none⟩
          (callFinish spec (tls p.fn) size isOk rs (a.sys.getCache ⟨p.fn, none⟩) p.c p.pre).1,
        a.pending.filter (fun q => q.id ≠ id)⟩,
       .ret (callFinish spec (tls p.fn) size isOk rs (a.sys.getCache ⟨p.fn, none⟩) p.c p.pre).2.1
            (callFinish spec (tls p.fn) size isOk rs (a.sys.getCache ⟨p.fn, none⟩) p.c p.pre).2.2) := by
  simp only [aStep, hp, hs]

theorem aStep_resume_noFn (id : Nat) {p : PendingCall K V}
    (hp : a.pending.find? (fun p => p.id = id) = some p) (hs : fns[p.fn]? = none) :
    aStep fns tls size isOk rs a (.callResume id) = (a, .noSuchCall) := by
  simp only [aStep, hp, hs]

theorem aStep_drop (id : Nat) :
    aStep fns tls size isOk rs a (.callDrop id) = (⟨a.sys, a.pending.filter (fun q => q.id ≠ id)⟩, .unit) :=
  rfl

/-- what a step does to one cache instance: what `sysStep` does, nothing, the lookup phase or the finish phase -/
theorem aStep_getCache (op : AOp K V) (id : CacheId) :
    (∃ sop, op = .base sop ∧ (aStep fns tls size isOk rs a op).1.sys = (sysStep fns tls size isOk rs a.sys sop).1) ∨
    (aStep fns tls size isOk rs a op).1.sys.getCache id = a.sys.getCache id ∨
    (∃ i fn c spec, op = .callBegin i fn c ∧ fns[fn]? = some spec ∧ id = ⟨fn, none⟩ ∧
      (aStep fns tls size isOk rs a op).1.sys.getCache id = (callLookup spec (a.sys.getCache id) c).1) ∨
    ∃ i p spec, op = .callResume i ∧ a.pending.find? (fun p => p.id = i) = some p ∧ fns[p.fn]? = some spec ∧
      id = ⟨p.fn, none⟩ ∧ (aStep fns tls size isOk rs a op).1.sys.getCache id =
        (callFinish spec (tls p.fn) size isOk rs (a.sys.getCache id) p.c p.pre).1 := by
  cases op with
  | base sop => exact Or.inl ⟨sop, rfl, rfl⟩
  | callBegin i fn c =>
    rw [aStep_begin_sys]
    cases hs : fns[fn]? with
    | none => rw [lookupOnly_none hs]; exact Or.inr (Or.inl rfl)
    | some spec =>
      rw [getCache_lookupOnly hs]
      by_cases hid : id = ⟨fn, none⟩
      · subst hid
        rw [if_pos rfl]
        exact Or.inr (Or.inr (Or.inl ⟨i, fn, c, spec, rfl, hs, rfl, rfl⟩))
      · rw [if_neg hid]; exact Or.inr (Or.inl rfl)
  | callResume i =>
    cases hp : a.pending.find? (fun p => p.id = i) with
    | none => rw [aStep_resume_none fns tls size isOk rs a i hp]; exact Or.inr (Or.inl rfl)
    | some p =>
      cases hs : fns[p.fn]? with
      | none => rw [aStep_resume_noFn fns tls size isOk rs a i hp hs]; exact Or.inr (Or.inl rfl)
      | some spec =>
        rw [aStep_resume_some fns tls size isOk rs a i hp hs]
        by_cases hid : id = ⟨p.fn, none⟩
        · subst hid
          exact Or.inr (Or.inr (Or.inr ⟨i, p, spec, rfl, hp, hs, rfl, getCache_setCache_same _ _ _⟩))
        · exact Or.inr (Or.inl (getCache_setCache_ne _ _ hid))
  | callDrop i => exact Or.inr (Or.inl rfl)

theorem aRun_append (x y : List (AOp K V × List Nat)) :
    aRun fns tls size isOk a (x ++ y) =
      ((aRun fns tls size isOk (aRun fns tls size isOk a x).1 y).1,
       (aRun fns tls size isOk a x).2 ++ (aRun fns tls size isOk (aRun fns tls size isOk a x).1 y).2) := by
  induction x generalizing a with
  | nil => rfl
  | cons p x ih =>
    obtain ⟨op, rs⟩ := p
    simp only [List.cons_append, aRun, ih, List.cons_append]

theorem aRun_cons (a : ASys K V) (op : AOp K V) (rs : List Nat) (ops : List (AOp K V × List Nat)) :
    aRun fns tls size isOk a ((op, rs) :: ops) =
      ((aRun fns tls size isOk (aStep fns tls size isOk rs a op).1 ops).1,
       (aStep fns tls size isOk rs a op).2 :: (aRun fns tls size isOk (aStep fns tls size isOk rs a op).1 ops).2) := rfl

theorem aRun_invariant {P : ASys K V → Prop} (hstep : ∀ rs a op, P a → P (aStep fns tls size isOk rs a op).1)
    (a : ASys K V) (ops : List (AOp K V × List Nat)) (h : P a) : P (aRun fns tls size isOk a ops).1 := by
  induction ops generalizing a with
  | nil => exact h
  | cons x ops ih =>
    obtain ⟨op, rs⟩ := x
    exact ih _ (hstep rs a op h)

theorem aRun_base (h : List (SysOp K V × List Nat)) :
    aRun fns tls size isOk a (h.map (fun x => (AOp.base x.1, x.2))) =
      (⟨(sysRun fns tls size isOk a.sys h).1, a.pending⟩, (sysRun fns tls size isOk a.sys h).2.map AOut.base) := by
  induction h generalizing a with
  | nil => rfl
  | cons x h ih =>
    obtain ⟨op, rs⟩ := x
    simp only [List.map_cons, aRun_cons, aStep_base, ih, sysRun, List.map_cons]

/-! ## 3. Writing the shared instance twice -/

theorem setCache_lookupOnly {fns : List FnSpec} {fn : Nat} {spec : FnSpec} (hs : fns[fn]? = some spec)
    (sys : Sys K V) (c : CallIn K V) (s2 : State K V) :
    (lookupOnly fns sys fn c).setCache ⟨fn, none⟩ s2 = register (sys.setCache ⟨fn, none⟩ s2) fn := by
  simp only [lookupOnly, hs, register]
  have hc : ∀ s, (sys.setCache ⟨fn, none⟩ s).called = sys.called := fun _ => rfl
  rw [hc, hc]
  split <;> (unfold Sys.setCache; simp only [filter_ne_idem])

theorem sysStep_call_shared (sys : Sys K V) {fn : Nat} {spec : FnSpec} (t : Nat) (c : CallIn K V)
    (hs : fns[fn]? = some spec) (hts : spec.threadScope = false) :
    sysStep fns tls size isOk rs sys (.call fn t c) =
      (register (sys.setCache ⟨fn, none⟩ (callFn spec (tls fn) size isOk rs (sys.getCache ⟨fn, none⟩) c).1) fn,
       .ret (callFn spec (tls fn) size isOk rs (sys.getCache ⟨fn, none⟩) c).2.1
            (callFn spec (tls fn) size isOk rs (sys.getCache ⟨fn, none⟩) c).2.2) := by
  simp only [sysStep, hs, cacheIdOf, hts, Bool.false_eq_true, if_false, Bool.false_or, register]

/-! ## 4. Pending records influence nothing but their own resume -/

/-- erase every pending record parked under `id` -/
def forget (id : Nat) (a : ASys K V) : ASys K V := ⟨a.sys, a.pending.filter (fun q => q.id ≠ id)⟩

/-- does the operation name the call id `id`? -/
def mentions (id : Nat) : AOp K V → Bool
  | .base _ => false
  | .callBegin i _ _ => i == id
  | .callResume i => i == id
  | .callDrop i => i == id

section
set_option linter.unusedSectionVars false

@[simp] theorem forget_sys (id : Nat) (a : ASys K V) : (forget id a).sys = a.sys := rfl

theorem forget_forget (id : Nat) (a : ASys K V) : forget id (forget id a) = forget id a := by
  simp only [forget, List.filter_filter, Bool.and_self]

/-- forgetting an id nobody is parked under changes nothing -/
theorem forget_of_fresh (id : Nat) (a : ASys K V) (h : ∀ p ∈ a.pending, p.id ≠ id) : forget id a = a := by
  unfold forget
  have : a.pending.filter (fun q => q.id ≠ id) = a.pending := by
    rw [List.filter_eq_self]; intro p hp; simpa using h p hp
  rw [this]

end

theorem aStep_forget (id : Nat) (op : AOp K V) (h : mentions id op = false) :
    aStep fns tls size isOk rs (forget id a) op =
      (forget id (aStep fns tls size isOk rs a op).1, (aStep fns tls size isOk rs a op).2) := by
  cases op with
  | base sop => simp only [aStep_base]; rfl
  | callBegin i fn c =>
    have hi : i ≠ id := by simpa [mentions] using h
    rcases aStep_begin_cases fns tls size isOk rs a.sys i fn c with ⟨o, e⟩ | ⟨pre, e⟩ <;>
      rw [forget, e, e a.pending]
    · rfl
    · simp only [forget]
      rw [List.filter_cons_of_pos (by simpa using hi)]
  | callResume i =>
    have hfind : (forget id a).pending.find? (fun p => p.id = i) = a.pending.find? (fun p => p.id = i) :=
      find_filter_other a.pending (by simpa [mentions] using h)
    simp only [aStep, hfind]
    split
    · rfl
    · split
      · rfl
      · simp only [forget, filter_filter_comm a.pending id i]
  | callDrop i => simp only [aStep_drop, forget, filter_filter_comm a.pending id i]

theorem aRun_forget (id : Nat) (ops : List (AOp K V × List Nat))
    (h : ∀ x ∈ ops, mentions id x.1 = false) :
    aRun fns tls size isOk (forget id a) ops =
      (forget id (aRun fns tls size isOk a ops).1, (aRun fns tls size isOk a ops).2) := by
  induction ops generalizing a with
  | nil => rfl
  | cons x ops ih =>
    obtain ⟨op, rs⟩ := x
    rw [aRun_cons, aRun_cons, aStep_forget fns tls size isOk rs a id op (h (op, rs) List.mem_cons_self)]
    simp only
    rw [ih _ (fun y hy => h y (List.mem_cons_of_mem _ hy))]

theorem forget_begin (id fn : Nat) (c : CallIn K V) :
    forget id (aStep fns tls size isOk rs a (.callBegin id fn c)).1 =
      ⟨lookupOnly fns a.sys fn c, a.pending.filter (fun q => q.id ≠ id)⟩ := by
  rcases aStep_begin_cases fns tls size isOk rs a.sys id fn c with ⟨o, e⟩ | ⟨pre, e⟩ <;> rw [e a.pending]
  · rfl
  · simp only [forget]
    rw [List.filter_cons_of_neg (by simp)]

theorem callLookup_congr (spec : FnSpec) (s : State K V) {c c' : CallIn K V}
    (hk : c.key = c'.key) (hio : c.invalidateOn = c'.invalidateOn) : callLookup spec s c = callLookup spec s c' := by
  simp only [callLookup, hk, hio]

theorem lookupOnly_congr (sys : Sys K V) (fn : Nat) {c c' : CallIn K V}
    (hk : c.key = c'.key) (hio : c.invalidateOn = c'.invalidateOn) :
    lookupOnly fns sys fn c = lookupOnly fns sys fn c' := by
  unfold lookupOnly
  cases fns[fn]? with
  | none => rfl
  | some spec => simp only [callLookup_congr spec _ hk hio]

theorem aStep_begin_out_congr (id fn : Nat) {c c' : CallIn K V}
    (hk : c.key = c'.key) (hio : c.invalidateOn = c'.invalidateOn) :
    (aStep fns tls size isOk rs a (.callBegin id fn c)).2 = (aStep fns tls size isOk rs a (.callBegin id fn c')).2 := by
  cases hs : fns[fn]? with
  | none => rw [aStep_begin_none fns tls size isOk rs a id c hs, aStep_begin_none fns tls size isOk rs a id c' hs]
  | some spec =>
    rw [aStep_begin_some fns tls size isOk rs a id c hs, aStep_begin_some fns tls size isOk rs a id c' hs,
      callLookup_congr spec _ hk hio]
    cases (callLookup spec (a.sys.getCache ⟨fn, none⟩) c').2 <;> simp only

/-! ## 5. Completed calls -/

/-- the call an operation COMPLETES (hands a body value to the engine), if any: an ordinary call of an
    existing function, or the resume of a call that is parked at that moment.  `callBegin` and `callDrop`
    complete nothing. -/
def completedBy (fns : List FnSpec) (a : ASys K V) : AOp K V → Option (CacheId × K × V)
  | .base (.call fn th c) =>
    (match fns[fn]? with
     | some spec => some (cacheIdOf spec fn th, c.key, c.bodyVal)
     | none => none)
  | .callResume i =>
    (match a.pending.find? (fun p => p.id = i) with
     | some p => (match fns[p.fn]? with
                  | some _ => some (⟨p.fn, none⟩, p.c.key, p.c.bodyVal)
                  | none => none)
     | none => none)
  | _ => none

/-- the completed calls of a history: cache instance, key, body value -/
def completions (fns : List FnSpec) (tls : Nat → Tlru S) (size : V → Nat) (isOk : V → Bool) :
    ASys K V → List (AOp K V × List Nat) → List (CacheId × K × V)
  | _, [] => []
  | a, (op, rs) :: ops =>
    (completedBy fns a op).toList ++ completions fns tls size isOk (aStep fns tls size isOk rs a op).1 ops

omit [DecidableEq K] in
/-- `completedBy` read backwards -/
theorem completedBy_eq_some {op : AOp K V} {x : CacheId × K × V} (h : completedBy fns a op = some x) :
    (∃ fn th c spec, op = .base (.call fn th c) ∧ fns[fn]? = some spec ∧
      x = (cacheIdOf spec fn th, c.key, c.bodyVal)) ∨
    ∃ i p, op = .callResume i ∧ a.pending.find? (fun p => p.id = i) = some p ∧
      x = (⟨p.fn, none⟩, p.c.key, p.c.bodyVal) := by
  unfold completedBy at h
  split at h
  next fn th c =>
    split at h
    next spec hs => exact .inl ⟨fn, th, c, spec, rfl, hs, (Option.some.inj h).symm⟩
    next => cases h
  next i =>
    split at h
    next p hp =>
      split at h
      next spec hs => exact .inr ⟨i, p, rfl, hp, (Option.some.inj h).symm⟩
      next => cases h
    next => cases h
  next => cases h

theorem pending_step (op : AOp K V) (p : PendingCall K V)
    (hp : p ∈ (aStep fns tls size isOk rs a op).1.pending) :
    p ∈ a.pending ∨ op = .callBegin p.id p.fn p.c := by
  cases op with
  | base sop => exact Or.inl hp
  | callDrop i => exact Or.inl (List.mem_filter.mp hp).1
  | callBegin i fn c =>
    rcases aStep_begin_cases fns tls size isOk rs a.sys i fn c with ⟨o, e⟩ | ⟨pre, e⟩ <;> rw [e a.pending] at hp
    · exact Or.inl hp
    · rcases List.mem_cons.mp hp with rfl | hp
      · exact Or.inr rfl
      · exact Or.inl hp
  | callResume i =>
    rw [aStep] at hp
    split at hp
    · exact Or.inl hp
    · split at hp
      · exact Or.inl hp
      · exact Or.inl (List.mem_filter.mp hp).1

/-! ## 6. The invariant and the entry bound through every step -/

theorem aStep_inv (op : AOp K V) (h : SysInv a.sys) :
    SysInv (aStep fns tls size isOk rs a op).1.sys := by
  intro id
  rcases aStep_getCache fns tls size isOk rs a op id with
    ⟨sop, rfl, e⟩ | e | ⟨i, fn, c, spec, rfl, hs, rfl, e⟩ | ⟨i, p, spec, rfl, hp, hs, rfl, e⟩ <;> rw [e]
  · exact sysStep_inv fns tls size isOk rs a.sys sop h id
  · exact h id
  · exact callLookup_inv (h _)
  · exact callFinish_inv (h _)

theorem aRun_inv (ops : List (AOp K V × List Nat)) (h : SysInv a.sys) :
    SysInv (aRun fns tls size isOk a ops).1.sys :=
  aRun_invariant fns tls size isOk (P := fun a => SysInv a.sys) (aStep_inv fns tls size isOk) a ops h

theorem sysStep_bound (sys : Sys K V) (op : SysOp K V) (id : CacheId) {spec : FnSpec} (n : Nat)
    (hs : fns[id.fn]? = some spec) (hl : spec.cfg.limit = some n) (hn : 1 ≤ n)
    (hi : Inv (sys.getCache id)) (hb : (sys.getCache id).store.length ≤ n) :
    ((sysStep fns tls size isOk rs sys op).1.getCache id).store.length ≤ n := by
  rcases sysStep_shape fns tls size isOk rs sys op id with e | e | ⟨p, e⟩ | e | ⟨fn, th, c, spec', e1, e2, e3, e⟩
  · rw [e]; exact hb
  · rw [e]; simp [clear]
  · rw [e]; exact Nat.le_trans (C04.invalidateWith_length_le p _) hb
  · rw [e]; exact hb
  · rw [e]
    have hfn : id.fn = fn := by rw [e3]; rfl
    rw [hfn, e2] at hs
    cases hs
    exact callFn_bound n hl hn hi hb

theorem aStep_bound (op : AOp K V) (id : CacheId) {spec : FnSpec} (n : Nat)
    (hs : fns[id.fn]? = some spec) (hl : spec.cfg.limit = some n) (hn : 1 ≤ n)
    (hi : Inv (a.sys.getCache id)) (hb : (a.sys.getCache id).store.length ≤ n) :
    ((aStep fns tls size isOk rs a op).1.sys.getCache id).store.length ≤ n := by
  rcases aStep_getCache fns tls size isOk rs a op id with
    ⟨sop, rfl, e⟩ | e | ⟨i, fn, c, spec', rfl, hs', rfl, e⟩ | ⟨i, p, spec', rfl, hp, hs', rfl, e⟩ <;> rw [e]
  · exact sysStep_bound fns tls size isOk rs a.sys sop id n hs hl hn hi hb
  · exact hb
  · exact Nat.le_trans (callLookup_length_le spec' _ c) hb
  · cases hs.symm.trans hs'
    exact callFinish_bound n hl hn hi hb

theorem aRun_bound (ops : List (AOp K V × List Nat)) (id : CacheId) {spec : FnSpec} (n : Nat)
    (hs : fns[id.fn]? = some spec) (hl : spec.cfg.limit = some n) (hn : 1 ≤ n)
    (hi : SysInv a.sys) (hb : (a.sys.getCache id).store.length ≤ n) :
    ((aRun fns tls size isOk a ops).1.sys.getCache id).store.length ≤ n :=
  (aRun_invariant fns tls size isOk (P := fun a => SysInv a.sys ∧ (a.sys.getCache id).store.length ≤ n)
    (fun rs a op h => ⟨aStep_inv fns tls size isOk rs a op h.1,
      aStep_bound fns tls size isOk rs a op id n hs hl hn (h.1 id) h.2⟩) a ops ⟨hi, hb⟩).2

end steps

/-! ## 7. Locks: a thread parked between two complete operations, and the others -/

namespace Locks
open Cachelito.Conc

/-! the first three entries of `Table.asyncOps` -/

theorem asyncGet_wf (full : Bool) (c : Nat) : (Table.asyncGet full c).wf [] = true :=
  List.all_eq_true.1 (Table.asyncOps_wf full c) (_, Table.asyncGet full c) List.mem_cons_self
theorem asyncInsert_wf (full : Bool) (c : Nat) : (Table.asyncInsert full c).wf [] = true :=
  List.all_eq_true.1 (Table.asyncOps_wf full c) (_, Table.asyncInsert full c) (.tail _ List.mem_cons_self)
theorem asyncInsertMem_wf (full : Bool) (c : Nat) : (Table.asyncInsertMem full c).wf [] = true :=
  List.all_eq_true.1 (Table.asyncOps_wf full c) (_, Table.asyncInsertMem full c)
    (.tail _ (.tail _ List.mem_cons_self))

/-- every thread of `s` stands somewhere on its event list `paths[i]` and holds exactly what the events it
    has performed so far leave held -/
def Tracks (paths : List (List Ev)) (s : Conc.State) : Prop :=
  ∀ (i : ThreadId) (th : Conc.Thread), s[i]? = some th →
    ∃ done, paths[i]? = some (done ++ th.todo) ∧ th.held = heldAfterAll [] done

theorem tracks_init (paths : List (List Ev)) : Tracks paths (Conc.State.init paths) := by
  intro i th hi
  simp only [Conc.State.init, List.getElem?_map, Option.map_eq_some_iff] at hi
  obtain ⟨p, hp, rfl⟩ := hi
  exact ⟨[], by simpa using hp, rfl⟩

theorem tracks_stepWith {E : Conc.State → ThreadId → Bool} {paths : List (List Ev)} {s s' : Conc.State}
    {i : ThreadId} (h : Tracks paths s) (hs : stepWith E s i = some s') : Tracks paths s' := by
  obtain ⟨_, th, hi, rfl⟩ := stepWith_eq_set hs
  intro j tj hj
  by_cases hij : i = j
  · subst hij
    have hlt : i < s.length := (List.getElem?_eq_some_iff.1 hi).1
    rw [List.getElem?_set_self hlt] at hj
    cases hj
    obtain ⟨done, hd1, hd2⟩ := h i th hi
    unfold Thread.advance
    split
    · exact ⟨done, hd1, hd2⟩
    · rename_i e p hp
      rw [hp] at hd1
      refine ⟨done ++ [e], by simpa using hd1, ?_⟩
      rw [hd2, heldAfterAll, heldAfterAll, List.foldl_append]; rfl
  · rw [List.getElem?_set_ne hij] at hj
    exact h j tj hj

theorem tracks_reach {E : Conc.State → ThreadId → Bool} {paths : List (List Ev)} {s : Conc.State}
    (hr : ReachWith E (Conc.State.init paths) s) : Tracks paths s := by
  generalize hs0 : Conc.State.init paths = s0 at hr
  induction hr with
  | refl => subst hs0; exact tracks_init paths
  | step _ hs ih => exact tracks_stepWith ih hs

/-- what `Tracks` is for: a thread whose performed events `pre` leave nothing held holds nothing -/
theorem parked_holds_nothing {E : Conc.State → ThreadId → Bool} {paths : List (List Ev)} {s : Conc.State}
    (hr : ReachWith E (Conc.State.init paths) s) {i : ThreadId} {th : Conc.Thread} {pre : List Ev}
    (hi : s[i]? = some th) (hpath : paths[i]? = some (pre ++ th.todo)) (hbal : heldAfterAll [] pre = []) :
    th.held = [] := by
  obtain ⟨done, hd1, hd2⟩ := tracks_reach hr i th hi
  have : pre = done := List.append_cancel_right (Option.some.inj (hpath.symm.trans hd1))
  rw [hd2, ← this, hbal]

/-- in particular a thread standing between two operations: what it has performed is a complete run of
    rank-respecting operations -/
theorem parked_between_ops_holds_nothing {E : Conc.State → ThreadId → Bool} {paths : List (List Ev)}
    {s : Conc.State} (hr : ReachWith E (Conc.State.init paths) s) {i : ThreadId} {th : Conc.Thread}
    {ops : List Skel} {pre : List Ev} (hi : s[i]? = some th) (hw : ∀ o ∈ ops, o.wf [] = true)
    (hpre : Runs (Skel.seqs ops) pre) (hpath : paths[i]? = some (pre ++ th.todo)) : th.held = [] :=
  parked_holds_nothing hr hi hpath
    (heldAfterAll_of_wfFrom (runs_wfFrom_nil (by rw [wf_seqs, List.all_eq_true]; exact hw) hpre))

/-- Thread `i` of state `s` is parked at the await of an async call: its event list is `pre ++ (what it still
    has to do)`, where `pre` is a complete run of some rank-respecting operations `before` followed by the
    lookup phase `AsyncGlobalCache::get` of an async cache `c` — and nothing of the finish phase yet.
    (In terms of `Cachelito/Async.lean`: the thread has performed `callBegin` and not yet `callResume`; the
    first-call registration that `callBegin` also performs has the skeleton `Table.firstCall` and belongs to
    `before`.) -/
def ParkedAfterLookup (full : Bool) (paths : List (List Ev)) (s : Conc.State) (i : ThreadId) : Prop :=
  ∃ (th : Conc.Thread) (before : List Skel) (c : Nat) (pre : List Ev), s[i]? = some th ∧
    (∀ o ∈ before, o.wf [] = true) ∧ Runs (Skel.seqs (before ++ [Table.asyncGet full c])) pre ∧
    paths[i]? = some (pre ++ th.todo)

/-- With the threads of `susp` never scheduled and holding nothing, the others can be run to completion: a schedule
    that names no thread of `susp`, is enabled at every step, finishes every other thread, and leaves the threads
    of `susp` as they are.  (Take the thread `progress_suspended` offers, as long as there is one.) -/
theorem others_finish {s : Conc.State} (hwf : AllWf s) (susp : ThreadId → Prop)
    (hs : ∀ (i : ThreadId) (th : Conc.Thread), s[i]? = some th → susp i → th.held = []) :
    ∃ (sched : List ThreadId) (s' : Conc.State), (∀ i ∈ sched, ¬ susp i) ∧ runSchedule sched s = some s' ∧
      (∀ (i : ThreadId) (th : Conc.Thread), s'[i]? = some th → ¬ susp i → th.todo = []) ∧
      (∀ i, susp i → s'[i]? = s[i]?) := by
  generalize hn : remaining s = n
  induction n using Nat.strongRecOn generalizing s with
  | _ n ih =>
  by_cases hun : ∃ (i : ThreadId) (th : Conc.Thread), s[i]? = some th ∧ ¬ susp i ∧ th.todo ≠ []
  · obtain ⟨i, hsi, hen⟩ := progress_suspended hwf susp hs hun
    obtain ⟨s1, hs1⟩ := stepWith_some_of_enabled workConserving_enabledB hen
    have hrem := remaining_stepWith workConserving_enabledB hs1
    obtain ⟨_, thi, hthi, hset⟩ := stepWith_eq_set hs1
    have hframe : ∀ j, j ≠ i → s1[j]? = s[j]? := fun j hj => by
      rw [hset, List.getElem?_set_ne (fun e => hj e.symm)]
    obtain ⟨sched, s', h1, h2, h3, h4⟩ := ih (remaining s1) (by omega) (hwf.stepWith hs1)
      (fun j th hj hsj => hs j th (by rw [← hframe j (fun e => hsi (e ▸ hsj))]; exact hj) hsj) rfl
    refine ⟨i :: sched, s', List.forall_mem_cons.2 ⟨hsi, h1⟩, runScheduleWith_cons.2 ⟨s1, hs1, h2⟩, h3,
      fun j hj => ?_⟩
    rw [h4 j hj, hframe j (fun e => hsi (e ▸ hj))]
  · exact ⟨[], s, by simp, rfl,
      fun i th hi hsi => Classical.byContradiction fun hne => hun ⟨i, th, hi, hsi, hne⟩, fun _ _ => rfl⟩

theorem all_finish {s : Conc.State} (hwf : AllWf s) :
    ∃ (sched : List ThreadId) (s' : Conc.State), runSchedule sched s = some s' ∧ allFinished s' = true := by
  obtain ⟨sched, s', _, h2, h3, _⟩ := others_finish hwf (fun _ => False) (fun _ _ _ h => h.elim)
  refine ⟨sched, s', h2, List.all_eq_true.2 fun th hth => ?_⟩
  obtain ⟨i, hi⟩ := List.getElem?_of_mem hth
  simp [Thread.finished, h3 i th hi id]

end Locks

end Cachelito.AsyncLemmas
