/-
  History-level helpers (core Lean only): what a history says about the clock and about the latest
  store of a key, how every engine operation transforms the *entries* of the store (removals only
  delete, a store leaves a sub-store of `put k fresh`, hits keep value and birth — none of which needs
  the bookkeeping invariant), the counters and the clock, and the two invariants built on that:

  * `TInv`  — every stored birth is the `stamp` of some clock reading not in the future;
  * `HInv`  — every stored entry carries the value and the (stamped) clock reading of the LATEST
              store of its key in the history.

  All of that lives in the namespace `Cachelito.Hist`, with what a lookup does to the hit counters, fresh entries
  not being expired and the re-store of a held key in a sync engine.  Two sections follow it, each in the namespace
  of the files whose statements use its vocabulary: `SysLemmas` — stores that cannot overflow commute with a later
  conditional invalidation (`dropKeys_run_commute`, C13); `C04` — the number of entries: `sizeWith`, the length of
  the store after each operation, the entry limit through one step (`C04.step_bound`).
-/
import Cachelito.Lemmas.Inv

set_option linter.unusedSectionVars false

namespace Cachelito.Hist
open Cachelito
variable {K V S : Type} [DecidableEq K]
variable (cfg : Cfg) (tl : Tlru S) (size : V → Nat)

/-! ### Pure functions of a history -/

/-- the clock advance of one operation -/
def tickOf : Op K V → Nat
  | .tick ms => ms
  | _ => 0

/-- clock reading after a history started at clock 0 -/
def clockOf (h : List (Op K V × List Nat)) : Nat := (h.map (fun p => tickOf p.1)).sum

/-- the value an operation stores under `k`, if it is a store for `k` -/
def storesOf (k : K) : Op K V → Option V
  | .insert k' v => if k' = k then some v else none
  | .insertMem k' v => if k' = k then some v else none
  | _ => none

/-- latest store of `k` in a history given latest-first: value and clock reading at that store -/
def lastStoreRev (k : K) : List (Op K V × List Nat) → Option (V × Nat)
  | [] => none
  | p :: older =>
    match storesOf k p.1 with
    | some v => some (v, clockOf older)
    | none => lastStoreRev k older

/-- latest `insert k ·` / `insertMem k ·` of a history (oldest first): value and clock reading -/
def lastStore (h : List (Op K V × List Nat)) (k : K) : Option (V × Nat) := lastStoreRev k h.reverse

/-- the value of the latest store of `k` in the history -/
def lastStored (h : List (Op K V × List Nat)) (k : K) : Option V := (lastStore h k).map (·.1)

/-- the clock reading (ms) at the latest store of `k` in the history -/
def lastStoredAt (h : List (Op K V × List Nat)) (k : K) : Option Nat := (lastStore h k).map (·.2)

theorem clockOf_nil : clockOf ([] : List (Op K V × List Nat)) = 0 := rfl

theorem clockOf_append (a b : List (Op K V × List Nat)) : clockOf (a ++ b) = clockOf a + clockOf b := by
  simp [clockOf, List.sum_append]

theorem clockOf_snoc (a : List (Op K V × List Nat)) (op : Op K V) (rs : List Nat) :
    clockOf (a ++ [(op, rs)]) = clockOf a + tickOf op := by
  simp [clockOf, List.sum_append]

theorem clockOf_reverse (a : List (Op K V × List Nat)) : clockOf a.reverse = clockOf a := by
  unfold clockOf
  rw [List.map_reverse, List.sum_reverse]

theorem clockOf_take_le (a : List (Op K V × List Nat)) (i : Nat) : clockOf (a.take i) ≤ clockOf a := by
  have := clockOf_append (a.take i) (a.drop i)
  rw [List.take_append_drop] at this
  rw [this]; exact Nat.le_add_right _ _

/-- appending one operation: a store for `k` becomes the latest one, anything else changes nothing -/
theorem lastStore_snoc (h : List (Op K V × List Nat)) (op : Op K V) (rs : List Nat) (k : K) :
    lastStore (h ++ [(op, rs)]) k =
      match storesOf k op with
      | some v => some (v, clockOf h)
      | none => lastStore h k := by
  unfold lastStore
  rw [List.reverse_append]
  simp only [List.reverse_cons, List.reverse_nil, List.nil_append, List.singleton_append, lastStoreRev,
    clockOf_reverse]

theorem storesOf_eq_some_iff (k : K) (op : Op K V) (v : V) :
    storesOf k op = some v ↔ op = .insert k v ∨ op = .insertMem k v := by
  cases op <;> simp [storesOf]

theorem lastStoreRev_of_split (k : K) (newer older : List (Op K V × List Nat)) (op : Op K V) (rs : List Nat) (v : V)
    (h2 : storesOf k op = some v) (h3 : ∀ p ∈ newer, storesOf k p.1 = none) :
    lastStoreRev k (newer ++ (op, rs) :: older) = some (v, clockOf older) := by
  induction newer with
  | nil => rw [List.nil_append, lastStoreRev, h2]
  | cons n ns ih =>
    rw [List.cons_append, lastStoreRev, h3 n List.mem_cons_self]
    exact ih fun p hp => h3 p (List.mem_cons_of_mem _ hp)

theorem lastStoreRev_split (k : K) (l : List (Op K V × List Nat)) (v : V) (t : Nat)
    (hl : lastStoreRev k l = some (v, t)) :
    ∃ newer older op rs, l = newer ++ (op, rs) :: older ∧ storesOf k op = some v ∧
      (∀ p ∈ newer, storesOf k p.1 = none) ∧ t = clockOf older := by
  induction l with
  | nil => cases hl
  | cons p l ih =>
    rw [lastStoreRev] at hl
    cases hs : storesOf k p.1 with
    | some v' =>
      rw [hs] at hl
      cases hl
      exact ⟨[], l, p.1, p.2, rfl, hs, (fun _ h => nomatch h), rfl⟩
    | none =>
      rw [hs] at hl
      obtain ⟨newer, older, op, rs, h1, h2, h3, h4⟩ := ih hl
      refine ⟨p :: newer, older, op, rs, by rw [h1]; rfl, h2, ?_, h4⟩
      intro p' hp
      rcases List.mem_cons.mp hp with hp | hp
      · rw [hp]; exact hs
      · exact h3 p' hp

/-- **meaning of `lastStore`**: `lastStore h k = some (v, t)` iff the history splits as
    `pre ++ store :: post` where `store` is `insert k v` or `insertMem k v`, no operation of `post`
    stores under `k`, and `t` is the clock reading after `pre` -/
theorem lastStore_eq_some_iff (h : List (Op K V × List Nat)) (k : K) (v : V) (t : Nat) :
    lastStore h k = some (v, t) ↔
      ∃ pre post op rs, h = pre ++ (op, rs) :: post ∧ (op = .insert k v ∨ op = .insertMem k v) ∧
        (∀ p ∈ post, storesOf k p.1 = none) ∧ t = clockOf pre := by
  unfold lastStore
  constructor
  · intro hl
    obtain ⟨newer, older, op, rs, h1, h2, h3, h4⟩ := lastStoreRev_split k _ v t hl
    refine ⟨older.reverse, newer.reverse, op, rs, ?_, (storesOf_eq_some_iff k op v).mp h2,
      fun p hp => h3 p (List.mem_reverse.mp hp), by rw [clockOf_reverse]; exact h4⟩
    rw [← List.reverse_reverse h, h1, List.reverse_append, List.reverse_cons, List.append_assoc]; rfl
  · rintro ⟨pre, post, op, rs, h1, h2, h3, h4⟩
    rw [h1, List.reverse_append, List.reverse_cons, List.append_assoc, h4, ← clockOf_reverse pre]
    exact lastStoreRev_of_split k _ _ op rs v ((storesOf_eq_some_iff k op v).mpr h2)
      fun p hp => h3 p (List.mem_reverse.mp hp)

theorem lastStored_eq_some_iff (h : List (Op K V × List Nat)) (k : K) (v : V) :
    lastStored h k = some v ↔ ∃ t, lastStore h k = some (v, t) := by
  unfold lastStored
  cases lastStore h k with
  | none => exact ⟨(fun h => nomatch h), fun ⟨_, h⟩ => nomatch h⟩
  | some r => exact ⟨fun h => ⟨r.2, congrArg some (Prod.ext (Option.some.inj h) rfl)⟩,
      fun ⟨_, h⟩ => congrArg (fun o => o.map (·.1)) h⟩

/-- the latest store of a key happened at a clock reading not after the end of the history -/
theorem lastStore_time_le (h : List (Op K V × List Nat)) (k : K) (v : V) (t : Nat)
    (hl : lastStore h k = some (v, t)) : t ≤ clockOf h := by
  obtain ⟨pre, post, op, rs, h1, _, _, h4⟩ := (lastStore_eq_some_iff h k v t).mp hl
  rw [h1, h4, clockOf_append]; exact Nat.le_add_right _ _

/-! ### `run`: prefixes and single outputs -/

theorem run_length (cfg : Cfg) (tl : Tlru S) (size : V → Nat) (s : State K V) (ops : List (Op K V × List Nat)) :
    (run cfg tl size s ops).2.length = ops.length :=
  Cachelito.run_length cfg tl size s ops

/-- the `i`-th output of a run is the output of the `i`-th operation executed in the state reached by
    the first `i` operations -/
theorem run_out_at (s : State K V) (ops : List (Op K V × List Nat))
    (i : Nat) (op : Op K V) (rs : List Nat) (hi : ops[i]? = some (op, rs)) :
    (run cfg tl size s ops).2[i]? = some (step cfg tl size rs (run cfg tl size s (ops.take i)).1 op).2 := by
  induction ops generalizing s i with
  | nil => cases hi
  | cons x ops ih =>
    obtain ⟨op', rs'⟩ := x
    rw [run_cons]
    cases i with
    | zero =>
      rw [List.getElem?_cons_zero] at hi
      cases hi
      rfl
    | succ i =>
      rw [List.getElem?_cons_succ] at hi
      rw [List.getElem?_cons_succ, List.take_succ_cons, run_cons]
      exact ih _ i hi

/-- the state after `i+1` operations is one `step` away from the state after `i` operations -/
theorem run_take_succ (s : State K V) (ops : List (Op K V × List Nat))
    (i : Nat) (op : Op K V) (rs : List Nat) (hi : ops[i]? = some (op, rs)) :
    (run cfg tl size s (ops.take (i + 1))).1 = (step cfg tl size rs (run cfg tl size s (ops.take i)).1 op).1 := by
  rw [List.take_add_one, hi, run_append]; rfl

/-! ### Sub-stores -/

/-- `m'` holds only entries of `m`, unchanged -/
def Sub (m' m : Store K V) : Prop := ∀ k e, lookup k m' = some e → lookup k m = some e

/-- `m'` holds only entries of `m` with the same value and birth (hit counters may differ) -/
def SubVB (m' m : Store K V) : Prop :=
  ∀ k e', lookup k m' = some e' → ∃ e, lookup k m = some e ∧ e'.val = e.val ∧ e'.birth = e.birth

theorem Sub.refl (m : Store K V) : Sub m m := fun _ _ h => h

theorem Sub.trans {a b c : Store K V} (h1 : Sub a b) (h2 : Sub b c) : Sub a c :=
  fun k e h => h2 k e (h1 k e h)

theorem Sub.toVB {a b : Store K V} (h : Sub a b) : SubVB a b :=
  fun k e hl => ⟨e, h k e hl, rfl, rfl⟩

theorem Sub.eraseKey (k : K) (m : Store K V) : Sub (eraseKey k m) m :=
  fun _ _ h => (lookup_eraseKey_some h).2

theorem Sub.keys {a b : Store K V} (h : Sub a b) : ∀ x, x ∈ keys a → x ∈ keys b := by
  intro x hx
  obtain ⟨e, he⟩ := lookup_isSome_of_mem_keys hx
  exact mem_keys_of_lookup (h x e he)

/-- what a sub-store of `put k e0 m` holds: the fresh entry under `k`, entries of `m` under other keys -/
theorem Sub.put_cases {k k' : K} {e0 e' : Entry V} {m m' : Store K V} (h : Sub m' (put k e0 m))
    (hl : lookup k' m' = some e') : (k' = k ∧ e' = e0) ∨ (k' ≠ k ∧ lookup k' m = some e') := by
  have := h k' e' hl
  rw [lookup_put] at this
  by_cases hk : k' = k
  · rw [if_pos hk] at this; exact Or.inl ⟨hk, (Option.some.inj this).symm⟩
  · rw [if_neg hk] at this; exact Or.inr ⟨hk, this⟩

theorem Sub.put_mono {m' m : Store K V} (h : Sub m' m) (k : K) (e : Entry V) : Sub (put k e m') (put k e m) := by
  intro x e' hx
  rw [lookup_put] at hx ⊢
  split
  · rwa [if_pos ‹_›] at hx
  · rw [if_neg ‹_›] at hx; exact h x e' hx

theorem Sub.put_right {m' m : Store K V} (h : Sub m' m) {k : K} (hk : lookup k m' = none) (e : Entry V) :
    Sub m' (put k e m) := by
  intro x e' hx
  have hne : x ≠ k := fun hxk => by rw [hxk, hk] at hx; cases hx
  rw [lookup_put_ne hne]; exact h x e' hx

theorem _root_.Cachelito.Shrunk.sub {m : Store K V} {q : List K} {r : Store K V × List K} (hs : Shrunk m q r) :
    Sub r.1 m := by
  obtain ⟨p, h1, _⟩ := hs
  intro k e hl
  rw [h1, lookup_filter_key] at hl
  split at hl
  · exact hl
  · cases hl

/-! ### Evictions only remove — no bookkeeping invariant needed

  Stated for any reflexive, transitive relation on stores below which `eraseKey` stays: the lookup-based
  `Sub` here, list inclusion in `Lemmas/Calls.lean`. -/

theorem removeBoth_store (k : K) (m : Store K V) (q : List K) :
    (removeBoth cfg k m q).1 = eraseKey k m := by
  unfold removeBoth; cases cfg.flavour <;> rfl

section
variable {R : Store K V → Store K V → Prop} (hr : ∀ m, R m m) (ht : ∀ a b c, R a b → R b c → R a c)
  (he : ∀ k m, R (eraseKey k m) m) (now r : Nat) (m : Store K V) (q : List K)
include hr he

theorem popStored_rel : R (popStored m q).1 m := by
  induction q with
  | nil => exact hr m
  | cons k q ih =>
    simp only [popStored]
    split
    · exact he k m
    · exact ih

theorem popOne_rel : R (popOne m q).1 m := by
  cases q with
  | nil => exact hr m
  | cons k q => exact he k m

theorem evictRandom_rel : R (evictRandom r m q).1 m := by
  unfold evictRandom
  split
  · exact hr m
  · exact he _ m

theorem evictScored_rel : R (evictScored cfg tl now m q).1 m := by
  unfold evictScored
  split
  · exact hr m
  · rename_i k _
    show R (removeBoth cfg k m q).1 m
    rw [removeBoth_store]; exact he k m

theorem evictLimit_rel : R (evictLimit cfg tl now r m q).1 m := by
  unfold evictLimit
  split  -- the arms of the `match` on the policy: fifo, lru, random, scored
  · exact popStored_rel hr he m q
  · exact popStored_rel hr he m q
  · exact evictRandom_rel hr he r m q
  · exact evictScored_rel cfg tl hr he now m q

theorem evictMem_rel : R (evictMem cfg tl now r m q).1 m := by
  have hpop : R (match cfg.flavour with | .global => popStored m q | _ => popOne m q).1 m := by
    split
    · exact popStored_rel hr he m q
    · exact popOne_rel hr he m q
  unfold evictMem
  split  -- fifo, lru, random, scored
  · exact hpop
  · exact hpop
  · exact evictRandom_rel hr he r m q
  · exact evictScored_rel cfg tl hr he now m q

theorem limitStep_rel : R (limitStep cfg tl now r m q).1 m := by
  rcases limitStep_eq_or cfg tl now r m q with h | h <;> rw [h]
  · exact hr m
  · exact evictLimit_rel cfg tl hr he now r m q

theorem asyncDrop_rel (k : K) :
    R (if hasKey k m then (eraseKey k m, q.filter (fun x => x ≠ k)) else (m, q)).1 m := by
  split
  · exact he k m
  · exact hr m

include ht

theorem memLoop_storeRel (maxM extra fuel : Nat) (rs : List Nat) :
    R (memLoop cfg tl size now maxM extra fuel rs m q).1 m :=
  memLoop_induction (P := fun m' _ => R m' m)
    (fun r m' q' hp => ht _ _ _ (evictMem_rel cfg tl hr he now r m' q') hp) size maxM extra fuel rs (hr m)

theorem evictPhase_rel (extra : Nat) (rs : List Nat) : R (evictPhase cfg tl size now extra rs m q).1 m := by
  unfold evictPhase
  split
  · exact limitStep_rel cfg tl hr he now _ m q
  · exact ht _ _ _ (limitStep_rel cfg tl hr he now _ _ _) (memLoop_storeRel cfg tl size hr ht he now m q _ extra _ rs)

end

theorem limitStep_sub (now r : Nat) (m : Store K V) (q : List K) : Sub (limitStep cfg tl now r m q).1 m :=
  limitStep_rel cfg tl Sub.refl Sub.eraseKey now r m q

theorem evictPhase_sub (now : Nat) (m : Store K V) (q : List K) (extra : Nat) (rs : List Nat) :
    Sub (evictPhase cfg tl size now extra rs m q).1 m :=
  evictPhase_rel cfg tl size Sub.refl (fun _ _ _ => Sub.trans) Sub.eraseKey now m q extra rs

theorem asyncDrop_sub (m : Store K V) (q : List K) (k : K) :
    Sub (if hasKey k m then (eraseKey k m, q.filter (fun x => x ≠ k)) else (m, q)).1 m :=
  asyncDrop_rel Sub.refl Sub.eraseKey m q k

/-- **What a store does to every key**, whatever its eviction phase, as long as that only removes: every
    entry held afterwards is an entry of `put k fresh s.store` — the fresh entry of `k`, or an unchanged
    entry of another key that was held before.  Whatever was stored under `k` before is gone. -/
theorem storeVia_sub {cfg : Cfg} {ev : Store K V → List K → Store K V × List K} (hev : ∀ m q, Sub (ev m q).1 m)
    (s : State K V) (k : K) (v : V) :
    Sub (storeVia cfg ev s k v).store (put k ⟨v, stamp cfg s.now, 0⟩ s.store) := by
  unfold storeVia
  split
  · exact ((hev _ _).trans (asyncDrop_sub s.store s.queue k)).put_mono k _
  · exact hev _ _

theorem insert_sub (r : Nat) (s : State K V) (k : K) (v : V) :
    Sub (insert cfg tl r s k v).store (put k ⟨v, stamp cfg s.now, 0⟩ s.store) := by
  rw [insert_eq_storeVia]; exact storeVia_sub (limitStep_sub cfg tl s.now r) s k v

theorem insertMem_oversize_store {cfg : Cfg} {size : V → Nat} {v : V} (hov : oversize cfg size v = true)
    (tl : Tlru S) (rs : List Nat) (s : State K V) (k : K) :
    (insertMem cfg tl size rs s k v).store = eraseKey k s.store := by
  rw [insertMem_oversize_frame hov]

/-- a memory-aware store leaves, under its key, the fresh entry or nothing, and under other keys old
    entries only -/
theorem insertMem_sub (rs : List Nat) (s : State K V) (k : K) (v : V) :
    Sub (insertMem cfg tl size rs s k v).store (put k ⟨v, stamp cfg s.now, 0⟩ s.store) := by
  cases hov : oversize cfg size v with
  | true =>
    rw [insertMem_oversize_store hov]
    exact (Sub.eraseKey k _).put_right (lookup_eraseKey_self k _) _
  | false =>
    rw [insertMem_eq_storeVia hov]
    exact storeVia_sub (fun m q => evictPhase_sub cfg tl size s.now m q _ rs) s k v

/-! ### What each operation does to the entries, the clock and the counters -/

def isGet : Op K V → Bool
  | .get _ => true
  | _ => false

def isHit : Out V → Bool
  | .val (some _) => true
  | _ => false

def isMiss : Out V → Bool
  | .val none => true
  | _ => false

/-- projection of an output to a comparable value (`Out` has no `DecidableEq`) -/
def outVal : Out V → Option (Option V)
  | .val o => some o
  | .unit => none

theorem bumpHits_vb (k : K) (m : Store K V) : SubVB (bumpHits k m) m := by
  intro k' e' hl
  unfold bumpHits at hl
  by_cases hk : k' = k
  · subst hk
    rw [lookup_modify_self] at hl
    cases hm : lookup k' m with
    | none => rw [hm] at hl; cases hl
    | some e =>
      rw [hm] at hl
      cases hl
      exact ⟨e, rfl, rfl, rfl⟩
  · rw [lookup_modify_ne hk] at hl; exact ⟨e', hl, rfl, rfl⟩

theorem hitUpdate_vb (k : K) (m : Store K V) (q : List K) : SubVB (hitUpdate cfg k m q).1 m := by
  rw [hitUpdate_store]
  split
  · exact bumpHits_vb k m
  · exact (Sub.refl m).toVB

theorem get_served_iff {cfg : Cfg} {s : State K V} {k : K} {e : Entry V} (hl : lookup k s.store = some e) :
    (get cfg s k).2 = some e.val ↔ expired cfg s.now e = false := by
  cases hx : expired cfg s.now e with
  | true => rw [get_expired hl hx]; exact ⟨(fun h => nomatch h), (fun h => nomatch h)⟩
  | false => rw [get_hit hl hx]; exact ⟨fun _ => rfl, fun _ => rfl⟩

theorem get_none_iff {cfg : Cfg} {s : State K V} {k : K} {e : Entry V} (hl : lookup k s.store = some e) :
    (get cfg s k).2 = none ↔ expired cfg s.now e = true := by
  cases hx : expired cfg s.now e with
  | true => rw [get_expired hl hx]; exact ⟨fun _ => rfl, fun _ => rfl⟩
  | false => rw [get_hit hl hx]; exact ⟨(fun h => nomatch h), (fun h => nomatch h)⟩

theorem get_some_elim {cfg : Cfg} {s : State K V} {k : K} {v : V} (h : (get cfg s k).2 = some v) :
    ∃ e, lookup k s.store = some e ∧ expired cfg s.now e = false ∧ e.val = v :=
  get_cases cfg s k (P := fun r => r.2 = some v → ∃ e, lookup k s.store = some e ∧ expired cfg s.now e = false ∧ e.val = v)
    (fun _ h => nomatch h) (fun _ _ _ h => nomatch h) (fun e hl hx h => ⟨e, hl, hx, Option.some.inj h⟩) h

/-- a lookup keeps the value and birth of every entry it leaves in the store -/
theorem get_vb (s : State K V) (k : K) : SubVB (get cfg s k).1.store s.store :=
  get_cases cfg s k (P := fun r => SubVB r.1.store s.store) (fun _ => (Sub.refl _).toVB)
    (fun _ _ _ => (removeBoth_store cfg k s.store s.queue ▸ Sub.eraseKey k s.store).toVB)
    (fun _ _ _ => hitUpdate_vb cfg k _ _)

theorem get_now (s : State K V) (k : K) : (get cfg s k).1.now = s.now :=
  get_cases cfg s k (P := fun r => r.1.now = s.now) (fun _ => rfl) (fun _ _ _ => rfl) (fun _ _ _ => rfl)

/-- a lookup bumps exactly one counter: hits iff it served a value -/
theorem get_stats (s : State K V) (k : K) :
    ((get cfg s k).2.isSome = true → (get cfg s k).1.hitStat = s.hitStat + 1 ∧ (get cfg s k).1.missStat = s.missStat) ∧
    ((get cfg s k).2 = none → (get cfg s k).1.hitStat = s.hitStat ∧ (get cfg s k).1.missStat = s.missStat + 1) :=
  get_cases cfg s k
    (P := fun r => (r.2.isSome = true → r.1.hitStat = s.hitStat + 1 ∧ r.1.missStat = s.missStat) ∧
      (r.2 = none → r.1.hitStat = s.hitStat ∧ r.1.missStat = s.missStat + 1))
    (fun _ => ⟨(fun h => nomatch h), fun _ => ⟨rfl, rfl⟩⟩)
    (fun _ _ _ => ⟨(fun h => nomatch h), fun _ => ⟨rfl, rfl⟩⟩)
    (fun _ _ _ => ⟨fun _ => ⟨rfl, rfl⟩, fun h => nomatch h⟩)

theorem storeVia_frame (ev : Store K V → List K → Store K V × List K) (s : State K V) (k : K) (v : V) :
    (storeVia cfg ev s k v).now = s.now ∧ (storeVia cfg ev s k v).hitStat = s.hitStat ∧
    (storeVia cfg ev s k v).missStat = s.missStat := by
  unfold storeVia; cases cfg.flavour <;> exact ⟨rfl, rfl, rfl⟩

theorem insert_frame (r : Nat) (s : State K V) (k : K) (v : V) :
    (insert cfg tl r s k v).now = s.now ∧ (insert cfg tl r s k v).hitStat = s.hitStat ∧
    (insert cfg tl r s k v).missStat = s.missStat := by
  rw [insert_eq_storeVia]; exact storeVia_frame cfg _ s k v

theorem insertMem_frame (rs : List Nat) (s : State K V) (k : K) (v : V) :
    (insertMem cfg tl size rs s k v).now = s.now ∧ (insertMem cfg tl size rs s k v).hitStat = s.hitStat ∧
    (insertMem cfg tl size rs s k v).missStat = s.missStat := by
  cases hov : oversize cfg size v with
  | false => rw [insertMem_eq_storeVia hov]; exact storeVia_frame cfg _ s k v
  | true => rw [insertMem_oversize_frame hov]; exact ⟨rfl, rfl, rfl⟩

theorem invalidateWith_sub (p : K → Bool) (s : State K V) : Sub (invalidateWith p s).store s.store := by
  intro k e hl
  unfold invalidateWith at hl
  simp only at hl
  rw [lookup_filter_key (fun x => !p x)] at hl
  split at hl
  · exact hl
  · cases hl

/-- every operation other than a store keeps value and birth of what it leaves in the store -/
theorem step_vb_of_not_store (rs : List Nat) (s : State K V)
    (op : Op K V) (hop : ∀ k, storesOf k op = none) : SubVB (step cfg tl size rs s op).1.store s.store := by
  cases op with
  | get k => exact get_vb cfg s k
  | insert k v => have := hop k; simp [storesOf] at this
  | insertMem k v => have := hop k; simp [storesOf] at this
  | clear => exact fun k e hl => nomatch hl
  | invalidateWith p => exact (invalidateWith_sub p s).toVB
  | tick ms => exact (Sub.refl _).toVB

/-- the clock is advanced by `tick` and by nothing else -/
theorem step_now (rs : List Nat) (s : State K V) (op : Op K V) :
    (step cfg tl size rs s op).1.now = s.now + tickOf op := by
  cases op with
  | get k => exact get_now cfg s k
  | insert k v => exact (insert_frame cfg tl _ s k v).1
  | insertMem k v => exact (insertMem_frame cfg tl size rs s k v).1
  | clear | invalidateWith p | tick ms => rfl

/-- operations other than lookups leave both counters alone -/
theorem step_stats_of_not_get (rs : List Nat) (s : State K V)
    (op : Op K V) (hop : isGet op = false) :
    (step cfg tl size rs s op).1.hitStat = s.hitStat ∧ (step cfg tl size rs s op).1.missStat = s.missStat ∧
    (step cfg tl size rs s op).2 = .unit := by
  cases op with
  | get k => cases hop
  | insert k v => exact ⟨(insert_frame cfg tl _ s k v).2.1, (insert_frame cfg tl _ s k v).2.2, rfl⟩
  | insertMem k v =>
    exact ⟨(insertMem_frame cfg tl size rs s k v).2.1, (insertMem_frame cfg tl size rs s k v).2.2, rfl⟩
  | clear | invalidateWith p | tick ms => exact ⟨rfl, rfl, rfl⟩

/-! ### Expiry arithmetic

  The engine compares whole seconds `elapsedMs cfg now birth / 1000` with the ttl.  For the sync
  flavours that is `(now − birth)/1000`; for the async flavour it is `now/1000 − birth/1000`, which lies
  between `(now − birth)/1000` and that plus one, and equals it when `birth` is a whole second. -/

theorem ms_pos : 0 < 1000 := Nat.succ_pos 999

theorem div_sub_div_ge (a b k : Nat) : (a - b) / k ≤ a / k - b / k :=
  Nat.le_trans (Nat.div_le_div_right (Nat.sub_le_sub_left (Nat.mul_div_le b k) a))
    (Nat.le_of_eq (Nat.sub_mul_div a k (b / k)))

theorem div_sub_div_le (a b : Nat) {k : Nat} (hk : 0 < k) : a / k - b / k ≤ (a - b) / k + 1 := by
  have h1 : (a - k * (b / k + 1)) / k ≤ (a - b) / k :=
    Nat.div_le_div_right (Nat.sub_le_sub_left (Nat.le_of_lt (Nat.lt_mul_div_succ b hk)) a)
  rw [Nat.sub_mul_div] at h1
  have h2 := Nat.sub_le_iff_le_add.mp h1
  rw [← Nat.add_assoc, Nat.add_right_comm] at h2
  exact Nat.sub_le_iff_le_add.mpr h2

theorem stamp_le (t : Nat) : stamp cfg t ≤ t := by
  unfold stamp; cases cfg.flavour <;> first | exact Nat.le_refl t | exact Nat.div_mul_le_self t 1000

theorem stamp_idem (t : Nat) : stamp cfg (stamp cfg t) = stamp cfg t := by
  unfold stamp
  cases cfg.flavour
  case async => exact congrArg (· * 1000) (Nat.mul_div_cancel _ ms_pos)
  all_goals rfl

theorem stamp_mono (cfg : Cfg) {a b : Nat} (h : a ≤ b) : stamp cfg a ≤ stamp cfg b := by
  unfold stamp; cases cfg.flavour <;>
    first | exact h | exact Nat.mul_le_mul_right 1000 (Nat.div_le_div_right h)

theorem stamp_of_not_async {cfg : Cfg} (hf : cfg.flavour ≠ .async) (t : Nat) : stamp cfg t = t := by
  unfold stamp; cases hfl : cfg.flavour <;> first | rfl | exact absurd hfl hf

theorem expired_iff_secs {cfg : Cfg} {T : Nat} (ht : cfg.ttl = some T) (now : Nat) (e : Entry V) :
    expired cfg now e = true ↔ T ≤ elapsedMs cfg now e.birth / 1000 := by
  unfold expired; rw [ht]; exact decide_eq_true_iff

theorem secs_async {cfg : Cfg} (hf : cfg.flavour = .async) (now birth : Nat) :
    elapsedMs cfg now birth / 1000 = now / 1000 - birth / 1000 := by
  unfold elapsedMs; rw [hf]; exact Nat.mul_div_cancel _ ms_pos

theorem secs_sync {cfg : Cfg} (hf : cfg.flavour ≠ .async) (now birth : Nat) :
    elapsedMs cfg now birth / 1000 = (now - birth) / 1000 := by
  unfold elapsedMs; cases hfl : cfg.flavour <;> first | rfl | exact absurd hfl hf

theorem secs_ge (now birth : Nat) : (now - birth) / 1000 ≤ elapsedMs cfg now birth / 1000 := by
  by_cases hf : cfg.flavour = .async
  · rw [secs_async hf]; exact div_sub_div_ge now birth 1000
  · rw [secs_sync hf]; exact Nat.le_refl _

theorem secs_le (now birth : Nat) : elapsedMs cfg now birth / 1000 ≤ (now - birth) / 1000 + 1 := by
  by_cases hf : cfg.flavour = .async
  · rw [secs_async hf]; exact div_sub_div_le now birth ms_pos
  · rw [secs_sync hf]; exact Nat.le_succ _

theorem secs_of_stamped {cfg : Cfg} {birth : Nat} (hb : stamp cfg birth = birth) (now : Nat) :
    elapsedMs cfg now birth / 1000 = (now - birth) / 1000 := by
  by_cases hf : cfg.flavour = .async
  · rw [secs_async hf]
    unfold stamp at hb; rw [hf] at hb
    rw [← hb, Nat.mul_div_cancel _ ms_pos, Nat.mul_comm, Nat.sub_mul_div]
  · exact secs_sync hf now birth

/-- an entry whose stored age is `1000·T` ms or more is expired — every flavour, every birth -/
theorem expired_of_old (T now : Nat) (e : Entry V) (ht : cfg.ttl = some T)
    (h : now - e.birth ≥ 1000 * T) : expired cfg now e = true :=
  (expired_iff_secs ht now e).mpr
    (Nat.le_trans ((Nat.le_div_iff_mul_le ms_pos).mpr (Nat.mul_comm T 1000 ▸ h)) (secs_ge cfg now e.birth))

/-- when the stored birth is a stamp (a whole second for async), the expiry test is exactly
    "stored age ≥ `1000·T` ms" in every flavour -/
theorem expired_iff_of_stamped (T now : Nat) (e : Entry V) (ht : cfg.ttl = some T)
    (hb : stamp cfg e.birth = e.birth) :
    expired cfg now e = true ↔ now - e.birth ≥ 1000 * T := by
  rw [expired_iff_secs ht, secs_of_stamped hb, Nat.le_div_iff_mul_le ms_pos, Nat.mul_comm]

/-! ### The two invariants

  `HInv cfg h s` ties the clock of `s` to the ticks of `h`, so `h` is a history from clock 0: a state
  with another clock satisfies it for no history. -/

/-- every stored birth is the stamp of a clock reading that is not in the future -/
def TInv (cfg : Cfg) (s : State K V) : Prop :=
  ∀ k e, lookup k s.store = some e → ∃ t, t ≤ s.now ∧ e.birth = stamp cfg t

/-- the state reached by `h`: the clock is the sum of the ticks, and every stored entry carries the
    value and the stamped clock reading of the latest store of its key -/
def HInv (cfg : Cfg) (h : List (Op K V × List Nat)) (s : State K V) : Prop :=
  s.now = clockOf h ∧
  ∀ k e, lookup k s.store = some e → ∃ t, lastStore h k = some (e.val, t) ∧ e.birth = stamp cfg t

theorem hinv_init : HInv cfg [] (State.init : State K V) :=
  ⟨rfl, fun _ _ hl => nomatch hl⟩

theorem HInv.tinv {cfg : Cfg} {h : List (Op K V × List Nat)} {s : State K V} (hh : HInv cfg h s) : TInv cfg s := by
  intro k e hl
  obtain ⟨t, h1, h2⟩ := hh.2 k e hl
  exact ⟨t, by rw [hh.1]; exact lastStore_time_le h k _ t h1, h2⟩

theorem TInv.birth_stamped {cfg : Cfg} {s : State K V} (h : TInv cfg s) {k : K} {e : Entry V}
    (hl : lookup k s.store = some e) : stamp cfg e.birth = e.birth := by
  obtain ⟨t, _, h2⟩ := h k e hl
  rw [h2, stamp_idem]

theorem TInv.birth_le {cfg : Cfg} {s : State K V} (h : TInv cfg s) {k : K} {e : Entry V}
    (hl : lookup k s.store = some e) : e.birth ≤ s.now := by
  obtain ⟨t, h1, h2⟩ := h k e hl
  rw [h2]; exact Nat.le_trans (stamp_le cfg t) h1

theorem storesOf_insert (k k' : K) (v : V) : storesOf k' (Op.insert k v) = if k = k' then some v else none := rfl
theorem storesOf_insertMem (k k' : K) (v : V) :
    storesOf k' (Op.insertMem k v) = if k = k' then some v else none := rfl

/-- one operation keeps the history invariant (the history grows by that operation) -/
theorem step_hinv (rs : List Nat) (h : List (Op K V × List Nat))
    (s : State K V) (op : Op K V) (hh : HInv cfg h s) :
    HInv cfg (h ++ [(op, rs)]) (step cfg tl size rs s op).1 := by
  refine ⟨by rw [step_now, clockOf_snoc, hh.1], ?_⟩
  -- a store of `k`: the fresh entry is the latest store of `k`, other keys keep their entry and their latest store
  have store_case : ∀ (k : K) (v : V) (m' : Store K V),
      (∀ k', storesOf k' op = if k = k' then some v else none) →
      Sub m' (put k ⟨v, stamp cfg s.now, 0⟩ s.store) →
      ∀ k' e', lookup k' m' = some e' →
        ∃ t, lastStore (h ++ [(op, rs)]) k' = some (e'.val, t) ∧ e'.birth = stamp cfg t := by
    intro k v m' hs hst k' e' hl
    rw [lastStore_snoc, hs k']
    rcases hst.put_cases hl with ⟨hk, he⟩ | ⟨hk, hl'⟩
    · rw [if_pos hk.symm, he]
      exact ⟨clockOf h, rfl, by rw [hh.1]⟩
    · rw [if_neg (Ne.symm hk)]
      exact hh.2 k' e' hl'
  -- any other operation: no new latest store, value and birth of what stays are unchanged
  have other_case : (∀ k, storesOf k op = none) →
      ∀ k' e', lookup k' (step cfg tl size rs s op).1.store = some e' →
        ∃ t, lastStore (h ++ [(op, rs)]) k' = some (e'.val, t) ∧ e'.birth = stamp cfg t := by
    intro hop k' e' hl
    rw [lastStore_snoc, hop k']
    obtain ⟨e, he, hv, hb⟩ := step_vb_of_not_store cfg tl size rs s op hop k' e' hl
    rw [hv, hb]
    exact hh.2 k' e he
  cases op with
  | insert k v => exact store_case k v _ (fun _ => rfl) (insert_sub cfg tl _ s k v)
  | insertMem k v => exact store_case k v _ (fun _ => rfl) (insertMem_sub cfg tl size rs s k v)
  | get k | clear | invalidateWith p | tick ms => exact other_case (fun _ => rfl)

/-- running a history from a state that satisfies the history invariant keeps it -/
theorem run_hinv (h : List (Op K V × List Nat)) (s : State K V)
    (ops : List (Op K V × List Nat)) (hh : HInv cfg h s) :
    HInv cfg (h ++ ops) (run cfg tl size s ops).1 :=
  run_induction (P := HInv cfg) (fun h rs s op hp => step_hinv cfg tl size rs h s op hp) h s ops hh

/-- every state reached from the empty cache satisfies the history invariant for its history -/
theorem hinv_reachable (ops : List (Op K V × List Nat)) :
    HInv cfg ops (run cfg tl size (State.init : State K V) ops).1 :=
  run_hinv cfg tl size [] (State.init : State K V) ops (hinv_init cfg)

/-! ### A store that cannot overflow -/

theorem length_put_le (k : K) (e : Entry V) (m : Store K V) : (put k e m).length ≤ m.length + 1 := by
  have := length_eraseKey_le k m
  simp [put]; omega

/-- a plain store that cannot overflow (no limit, or fewer entries than the limit), all flavours:
    the entry is (re)placed at the back of store and queue, nothing else changes -/
theorem insert_noEvict (r : Nat) {s : State K V} (h : Inv s) (k : K) (v : V)
    (hne : ∀ n, cfg.limit = some n → s.store.length < n) :
    insert cfg tl r s k v =
      { s with store := put k ⟨v, stamp cfg s.now, 0⟩ s.store, queue := s.queue.filter (fun x => x ≠ k) ++ [k] } := by
  by_cases hf : cfg.flavour = .async
  · rw [insert_eq_storeVia, storeVia_async hf _ h, limitStep_noop]
    · unfold put; rw [eraseKey_of_not_mem (not_mem_keys_eraseKey k s.store)]
    · intro n hl
      have := hne n hl
      have := length_eraseKey_le k s.store
      rw [overLimit_async_iff hf]; omega
  · rw [insert_eq_storeVia, storeVia_sync hf, limitStep_noop]
    · rw [erasePush_eq h.2.1]
    · intro n hl
      have := hne n hl
      have := length_put_le k (⟨v, stamp cfg s.now, 0⟩ : Entry V) s.store
      have := (InvMQ.put_erasePush h k (⟨v, stamp cfg s.now, 0⟩ : Entry V)).length_eq
      rw [overLimit_sync_iff hf]; omega

/-! ### A lookup raises no hit counter by more than one

  What the translated engines' `get` needs to keep every counter below `u64::MAX` (`SourceLemmas.get_hits_lt`). -/

theorem mem_bumpHits (k : K) : ∀ (m : Store K V) (p : K × Entry V), p ∈ bumpHits k m →
    ∃ p0, p0 ∈ m ∧ p.2.hits ≤ p0.2.hits + 1
  | [], p, h => nomatch h
  | (k', e) :: m, p, h => by
      rw [bumpHits, modify] at h
      split at h
      · rcases List.mem_cons.1 h with rfl | h
        · exact ⟨(k', e), List.mem_cons_self, Nat.le_refl _⟩
        · exact ⟨p, List.mem_cons_of_mem _ h, Nat.le_succ _⟩
      · rcases List.mem_cons.1 h with rfl | h
        · exact ⟨(k', e), List.mem_cons_self, Nat.le_succ _⟩
        · obtain ⟨p0, hp0, hle⟩ := mem_bumpHits k m p h
          exact ⟨p0, List.mem_cons_of_mem _ hp0, hle⟩

theorem get_hits_le (cfg : Cfg) (s : State K V) (k : K) (p : K × Entry V)
    (h : p ∈ (Cachelito.get cfg s k).1.store) : ∃ p0, p0 ∈ s.store ∧ p.2.hits ≤ p0.2.hits + 1 := by
  unfold Cachelito.get at h
  split at h
  · exact ⟨p, h, Nat.le_succ _⟩
  · split at h
    · simp only [Hist.removeBoth_store] at h
      exact ⟨p, (List.mem_filter.1 h).1, Nat.le_succ _⟩
    · simp only [hitUpdate_store] at h
      split at h
      · exact mem_bumpHits k _ p h
      · exact ⟨p, h, Nat.le_succ _⟩

/-! ### Freshly stored entries are not expired; re-storing a held key in a sync engine -/

theorem expired_nottl (ht : cfg.ttl = none) (now : Nat) (e : Entry V) : expired cfg now e = false := by
  unfold expired; rw [ht]

/-- an entry stamped now has age 0 (in the engine's own arithmetic, every flavour) -/
theorem elapsedMs_stamp (cfg : Cfg) (now : Nat) : elapsedMs cfg now (stamp cfg now) = 0 := by
  unfold elapsedMs stamp
  cases cfg.flavour <;> simp

theorem expired_fresh (cfg : Cfg) (ht : cfg.ttl ≠ some 0) (now : Nat) (v : V) (hits : Nat) :
    expired cfg now (⟨v, stamp cfg now, hits⟩ : Entry V) = false := by
  unfold expired
  cases h : cfg.ttl with
  | none => rfl
  | some t =>
    simp only [elapsedMs_stamp, Nat.zero_div, ge_iff_le, Nat.le_zero_eq, decide_eq_false_iff_not]
    intro h0; subst h0; exact ht h

/-- Sync plain store of a key that is ALREADY held, in a consistent state whose queue is within the entry
    limit: the queue does not grow, so the entry-limit step does not fire and the fresh entry is held
    afterwards — for every policy. -/
theorem insert_sync_restore_present (cfg : Cfg) (hf : cfg.flavour ≠ .async) (tl : Tlru S) (r : Nat)
    (s : State K V) (k : K) (v : V) (hi : Inv s) (hk : k ∈ keys s.store)
    (hl : ∀ n, cfg.limit = some n → s.queue.length ≤ n) :
    lookup k (insert cfg tl r s k v).store = some ⟨v, stamp cfg s.now, 0⟩ := by
  have hkq : k ∈ s.queue := (hi.2.2 k).mpr hk
  have hlen : (erasePush k s.queue).length = s.queue.length := by
    unfold erasePush
    have h1 := List.length_erase_of_mem hkq
    have h2 : 0 < s.queue.length := List.length_pos_of_mem hkq
    simp only [List.length_append, List.length_cons, List.length_nil, h1]; omega
  rw [insert_eq_storeVia, storeVia_sync hf, limitStep_noop]
  · exact lookup_put_self _ _ _
  · intro n hn
    rw [overLimit_sync_iff hf, hlen]
    exact Nat.not_lt_of_le (hl n hn)

end Cachelito.Hist

/-! ### "as if never stored": stores without eviction commute with a later conditional invalidation

  One of the engine facts behind C13, in the namespace of `Lemmas/System.lean`. -/

namespace Cachelito.SysLemmas
open Cachelito
open Cachelito.Hist (insert_noEvict length_put_le)
variable {K V S : Type} [DecidableEq K]

/-- store and queue with the keys satisfying `p` deleted -/
def dropKeys (p : K → Bool) (s : State K V) : State K V :=
  { s with store := s.store.filter (fun e => !p e.1), queue := s.queue.filter (fun k => !p k) }

theorem invalidateWith_eq_dropKeys (p : K → Bool) (s : State K V) (h : Inv s) :
    invalidateWith p s = dropKeys p s := invalidateWith_eq p s h

theorem filter_put_of_p (p : K → Bool) (k : K) (e : Entry V) (m : Store K V) (hp : p k = true) :
    (put k e m).filter (fun x => !p x.1) = m.filter (fun x => !p x.1) := by
  unfold put eraseKey
  rw [List.filter_append, List.filter_filter]
  simp only [List.filter_cons, hp, Bool.not_true, Bool.false_eq_true, if_false, List.filter_nil, List.append_nil]
  apply List.filter_congr
  intro x _
  by_cases hx : x.1 = k
  · simp [hx, hp]
  · simp [hx]

theorem filter_put_of_not_p (p : K → Bool) (k : K) (e : Entry V) (m : Store K V) (hp : p k = false) :
    (put k e m).filter (fun x => !p x.1) = put k e (m.filter (fun x => !p x.1)) := by
  unfold put eraseKey
  rw [List.filter_append, List.filter_filter, List.filter_filter]
  simp only [List.filter_cons, hp, Bool.not_false, if_true, List.filter_nil]
  congr 1
  apply List.filter_congr
  intro x _
  exact Bool.and_comm _ _

theorem filter_push_of_p (p : K → Bool) (k : K) (q : List K) (hp : p k = true) :
    (q.filter (fun x => x ≠ k) ++ [k]).filter (fun x => !p x) = q.filter (fun x => !p x) := by
  rw [List.filter_append, List.filter_filter]
  simp only [List.filter_cons, hp, Bool.not_true, Bool.false_eq_true, if_false, List.filter_nil, List.append_nil]
  apply List.filter_congr
  intro x _
  by_cases hx : x = k
  · simp [hx, hp]
  · simp [hx]

theorem filter_push_of_not_p (p : K → Bool) (k : K) (q : List K) (hp : p k = false) :
    (q.filter (fun x => x ≠ k) ++ [k]).filter (fun x => !p x) =
      (q.filter (fun x => !p x)).filter (fun x => x ≠ k) ++ [k] := by
  rw [List.filter_append, List.filter_filter, List.filter_filter]
  simp only [List.filter_cons, hp, Bool.not_false, if_true, List.filter_nil]
  congr 1
  apply List.filter_congr
  intro x _
  exact Bool.and_comm _ _

/-- the histories of the commutation theorem: plain stores and time steps only -/
def StoresOnly : List (Op K V × List Nat) → Prop
  | [] => True
  | (.insert _ _, _) :: ops => StoresOnly ops
  | (.tick _, _) :: ops => StoresOnly ops
  | _ :: _ => False

/-- the history with the stores of keys satisfying `p` left out -/
def withoutKeys (p : K → Bool) : List (Op K V × List Nat) → List (Op K V × List Nat)
  | [] => []
  | (.insert k v, rs) :: ops => if p k then withoutKeys p ops else (.insert k v, rs) :: withoutKeys p ops
  | a :: ops => a :: withoutKeys p ops

/-- number of plain stores in a history -/
def storeCount : List (Op K V × List Nat) → Nat
  | [] => 0
  | (.insert _ _, _) :: ops => storeCount ops + 1
  | _ :: ops => storeCount ops

theorem inv_dropKeys (p : K → Bool) (s : State K V) (h : Inv s) : Inv (dropKeys p s) := by
  rw [← invalidateWith_eq_dropKeys p s h]; exact invalidateWith_inv p s h

/-- one plain store that cannot overflow, then the deletion = the deletion, then the store unless its key
    is deleted -/
theorem dropKeys_insert (cfg : Cfg) (tl : Tlru S) (r : Nat) (p : K → Bool) {s : State K V} (h : Inv s) (k : K)
    (v : V) (hne : ∀ n, cfg.limit = some n → s.store.length < n) :
    dropKeys p (insert cfg tl r s k v) = if p k then dropKeys p s else insert cfg tl r (dropKeys p s) k v := by
  rw [insert_noEvict cfg tl r h k v hne]
  cases hp : p k
  · rw [if_neg Bool.false_ne_true, insert_noEvict cfg tl r (inv_dropKeys p s h) k v
      (fun n hl => Nat.lt_of_le_of_lt (List.length_filter_le _ _) (hne n hl))]
    unfold dropKeys
    simp only [filter_put_of_not_p p k _ _ hp, filter_push_of_not_p p k _ hp]
  · rw [if_pos rfl]
    unfold dropKeys
    simp only [filter_put_of_p p k _ _ hp, filter_push_of_p p k _ hp]

/-- **Commutation: invalidated entries behave as if never stored.**  From a consistent state, run a
    history of plain stores and time steps that cannot overflow (no entry limit, or room for every
    store), then delete the keys satisfying `p`: the resulting state — store with values, birth stamps
    and hit counters, order queue, clock, statistics — is exactly the state reached by first deleting
    those keys and then running the history with the stores of such keys left out.  Every flavour,
    every policy (no lookups are involved, so the policy plays no role). -/
theorem dropKeys_run_commute (cfg : Cfg) (tl : Tlru S) (size : V → Nat) (p : K → Bool)
    (ops : List (Op K V × List Nat)) (s : State K V) (h : Inv s) (hso : StoresOnly ops)
    (hroom : ∀ n, cfg.limit = some n → s.store.length + storeCount ops ≤ n) :
    dropKeys p (run cfg tl size s ops).1 = (run cfg tl size (dropKeys p s) (withoutKeys p ops)).1 := by
  induction ops generalizing s with
  | nil => rfl
  | cons a ops ih =>
    obtain ⟨op, rs⟩ := a
    cases op with
    | insert k v =>
      have hne : ∀ n, cfg.limit = some n → s.store.length < n := fun n hl => by
        have := hroom n hl; simp only [storeCount] at this; omega
      have hroom1 : ∀ n, cfg.limit = some n →
          (insert cfg tl (rs.headD 0) s k v).store.length + storeCount ops ≤ n := by
        intro n hl
        have := hroom n hl
        have := length_put_le k (⟨v, stamp cfg s.now, 0⟩ : Entry V) s.store
        rw [insert_noEvict cfg tl (rs.headD 0) h k v hne]
        simp only [storeCount] at *
        omega
      show dropKeys p (run cfg tl size (insert cfg tl (rs.headD 0) s k v) ops).1 = _
      rw [ih _ (insert_inv cfg tl _ s k v h) hso hroom1, dropKeys_insert cfg tl _ p h k v hne]
      cases hp : p k
      · simp only [withoutKeys, hp, Bool.false_eq_true, if_false]; rfl
      · simp only [withoutKeys, hp, if_true]
    | tick ms =>
      have hroom1 : ∀ n, cfg.limit = some n → s.store.length + storeCount ops ≤ n := by
        intro n hl; have := hroom n hl; simp only [storeCount] at this; omega
      have hrun : (run cfg tl size s ((Op.tick ms, rs) :: ops)).1 =
          (run cfg tl size { s with now := s.now + ms } ops).1 := rfl
      rw [hrun, ih { s with now := s.now + ms } h hso hroom1]
      rfl
    | get k | insertMem k v | clear | invalidateWith q => exact absurd hso (fun x => x)

end Cachelito.SysLemmas

/-! ### The number of entries

  What `put`, a lookup, an invalidation and the entry-limit step do to the number of entries, and the
  one-step form of the entry limit.  These are the size facts behind `Props/C04.lean`, in its namespace;
  the interleaving and the async models use them as well. -/

namespace Cachelito.C04
open Cachelito
variable {K V S : Type} [DecidableEq K]
variable (cfg : Cfg) (tl : Tlru S) (size : V → Nat)

/-- size of the store once `k` has been added (or replaced) -/
def sizeWith (k : K) (m : Store K V) : Nat := if k ∈ keys m then m.length else m.length + 1

theorem length_eraseKey_succ {m : Store K V} (hn : (keys m).Nodup) (k : K) :
    (eraseKey k m).length + 1 = sizeWith k m := by
  unfold sizeWith
  split
  · exact length_eraseKey_of_mem hn ‹_›
  · rw [eraseKey_of_not_mem ‹_›]

theorem length_put {m : Store K V} (hn : (keys m).Nodup) (k : K) (e : Entry V) :
    (put k e m).length = sizeWith k m := by
  rw [put, List.length_append]; exact length_eraseKey_succ hn k

theorem sizeWith_le (k : K) (m : Store K V) : sizeWith k m ≤ m.length + 1 := by
  unfold sizeWith; split
  · exact Nat.le_succ _
  · exact Nat.le_refl _

/-- sync flavours test the queue length after the store.  The entry-limit step evicts at most ONCE (it is
    not a loop), hence `hb`: a store of at most `n + 1` entries is cut to `min n m.length` -/
theorem limitStep_length_sync {cfg : Cfg} (hf : cfg.flavour ≠ .async) {m : Store K V} {q : List K} (h : InvMQ m q)
    (tl : Tlru S) (now r : Nat) {n : Nat} (hl : cfg.limit = some n) (hb : m.length ≤ n + 1) :
    (limitStep cfg tl now r m q).1.length = min n m.length := by
  have hlen := h.length_eq
  by_cases ho : overLimit cfg n m q = true
  · have hgt := (overLimit_sync_iff hf n m q).mp ho
    have := limitStep_of_over hl ho h (List.ne_nil_of_length_pos (Nat.lt_of_le_of_lt (Nat.zero_le n) hgt)) tl now r
    have hm : m.length = n + 1 := Nat.le_antisymm hb (hlen ▸ hgt)
    rw [hm] at this ⊢
    rw [Nat.min_eq_left (Nat.le_succ n)]; exact Nat.succ.inj this
  · have hle := mt (overLimit_sync_iff hf n m q).mpr ho
    rw [limitStep_of_not_over hl ho]
    exact (Nat.min_eq_right (hlen ▸ Nat.le_of_not_lt hle)).symm

/-- the async flavour tests the store size before the store: room is made for one more entry -/
theorem limitStep_length_async {cfg : Cfg} (hf : cfg.flavour = .async) {m : Store K V} {q : List K} (h : InvMQ m q)
    (tl : Tlru S) (now r : Nat) {n : Nat} (hl : cfg.limit = some n) (hn : 1 ≤ n) (hb : m.length ≤ n) :
    (limitStep cfg tl now r m q).1.length + 1 = min n (m.length + 1) := by
  have hlen := h.length_eq
  by_cases ho : overLimit cfg n m q = true
  · have hge := (overLimit_async_iff hf n m q).mp ho
    have := limitStep_of_over hl ho h (List.ne_nil_of_length_pos (hlen ▸ Nat.lt_of_lt_of_le hn hge)) tl now r
    rw [this, Nat.le_antisymm hb hge]; exact (Nat.min_eq_left (Nat.le_succ n)).symm
  · have hlt := mt (overLimit_async_iff hf n m q).mpr ho
    rw [limitStep_of_not_over hl ho]
    exact (Nat.min_eq_right (Nat.lt_of_not_le hlt)).symm

theorem insert_length (r : Nat) (s : State K V) (k : K) (v : V) (n : Nat)
    (hl : cfg.limit = some n) (hn : 1 ≤ n) (hi : Inv s) (hb : s.store.length ≤ n) :
    (insert cfg tl r s k v).store.length = min n (sizeWith k s.store) := by
  have hsz := sizeWith_le k s.store
  rw [insert_eq_storeVia]
  by_cases hf : cfg.flavour = .async
  · rw [storeVia_async hf _ hi]
    have h0 := hi.remove k
    have hlen0 := length_eraseKey_succ hi.1 k
    have hk1 : k ∉ keys (limitStep cfg tl s.now r (eraseKey k s.store) (s.queue.filter (fun x => x ≠ k))).1 :=
      fun hh => not_mem_keys_eraseKey k _ (limitStep_keys_sub h0 cfg tl s.now r k hh)
    show (put _ _ _).length = _
    rw [length_put_of_not_mem hk1, limitStep_length_async hf h0 tl s.now r hl hn (Nat.le_trans (length_eraseKey_le k _) hb), hlen0]
  · rw [storeVia_sync hf]
    have h0 := hi.put_erasePush k (⟨v, stamp cfg s.now, 0⟩ : Entry V)
    have hlen0 := length_put hi.1 k (⟨v, stamp cfg s.now, 0⟩ : Entry V)
    show (limitStep _ _ _ _ _ _).1.length = _
    rw [limitStep_length_sync hf h0 tl s.now r hl (hlen0 ▸ Nat.le_trans hsz (Nat.succ_le_succ hb)), hlen0]

theorem removeBoth_length_le (k : K) (m : Store K V) (q : List K) :
    (removeBoth cfg k m q).1.length ≤ m.length := by
  rw [Hist.removeBoth_store]; exact length_eraseKey_le k m

theorem hitUpdate_length (k : K) (m : Store K V) (q : List K) :
    (hitUpdate cfg k m q).1.length = m.length := by
  rw [hitUpdate_store]; split
  · exact length_modify _ _ _
  · rfl

theorem get_length_le (s : State K V) (k : K) : (get cfg s k).1.store.length ≤ s.store.length :=
  get_cases cfg s k (P := fun r => r.1.store.length ≤ s.store.length) (fun _ => Nat.le_refl _)
    (fun _ _ _ => removeBoth_length_le cfg k _ _) (fun _ _ _ => Nat.le_of_eq (hitUpdate_length cfg k _ _))

theorem evictPhase_eq_limitStep (now extra : Nat) (rs : List Nat)
    {m : Store K V} {q : List K} (h : InvMQ m q) :
    ∃ r m1 q1, InvMQ m1 q1 ∧ Shrunk m q (m1, q1) ∧
      evictPhase cfg tl size now extra rs m q = limitStep cfg tl now r m1 q1 := by
  unfold evictPhase
  cases cfg.maxMem with
  | none => exact ⟨_, m, q, h, Shrunk.refl m q, rfl⟩
  | some maxM =>
    have h1 := memLoop_inv_shrunk cfg tl size now maxM extra (q.length + 1) rs h
    exact ⟨_, _, _, h1.1, h1.2, rfl⟩

/-- the memory-aware half of the bound: the memory loop only removes, and the entry-limit step that
    follows it is the one of a plain store -/
theorem insertMem_bound (rs : List Nat) (s : State K V) (k : K) (v : V)
    (n : Nat) (hl : cfg.limit = some n) (hn : 1 ≤ n) (hi : Inv s) (hb : s.store.length ≤ n) :
    (insertMem cfg tl size rs s k v).store.length ≤ n := by
  cases hov : oversize cfg size v with
  | true => rw [insertMem_oversize hov tl rs hi]; exact Nat.le_trans (length_eraseKey_le k _) hb
  | false =>
    rw [insertMem_eq_storeVia hov]
    by_cases hf : cfg.flavour = .async
    · rw [storeVia_async hf _ hi]
      have h0 := hi.remove k
      obtain ⟨r, m1, q1, h1, hs1, he⟩ := evictPhase_eq_limitStep cfg tl size s.now (if cfg.flavour = .async then size v else 0) rs h0
      have hk1 : k ∉ keys (limitStep cfg tl s.now r m1 q1).1 :=
        fun hh => not_mem_keys_eraseKey k _ (hs1.keys_sub k (limitStep_keys_sub h1 cfg tl s.now r k hh))
      have hl1 := hs1.length_le
      show (put _ _ _).length ≤ n
      rw [he, length_put_of_not_mem hk1, limitStep_length_async hf h1 tl s.now r hl hn
        (Nat.le_trans hl1 (Nat.le_trans (length_eraseKey_le k _) hb))]
      exact Nat.min_le_left _ _
    · rw [storeVia_sync hf]
      have h0 := hi.put_erasePush k (⟨v, stamp cfg s.now, 0⟩ : Entry V)
      have hlen0 := length_put hi.1 k (⟨v, stamp cfg s.now, 0⟩ : Entry V)
      obtain ⟨r, m1, q1, h1, hs1, he⟩ := evictPhase_eq_limitStep cfg tl size s.now (if cfg.flavour = .async then size v else 0) rs h0
      have hl1 := hs1.length_le
      show (evictPhase _ _ _ _ _ _ _ _).1.length ≤ n
      rw [he, limitStep_length_sync hf h1 tl s.now r hl
        (Nat.le_trans hl1 (hlen0 ▸ Nat.le_trans (sizeWith_le k s.store) (Nat.succ_le_succ hb)))]
      exact Nat.min_le_left _ _

theorem invalidateWith_length_le (p : K → Bool) (s : State K V) :
    (invalidateWith p s).store.length ≤ s.store.length := by
  unfold invalidateWith; exact List.length_filter_le _ _

/-- **One step never exceeds the limit**: with `limit = n ≥ 1`, every operation (lookup, plain or
    memory-aware store, clear, conditional invalidation, time step) started in a consistent state with
    at most `n` entries ends with at most `n` entries. -/
theorem step_bound (rs : List Nat) (s : State K V) (op : Op K V)
    (n : Nat) (hl : cfg.limit = some n) (hn : 1 ≤ n) (hi : Inv s) (hb : s.store.length ≤ n) :
    (step cfg tl size rs s op).1.store.length ≤ n := by
  cases op with
  | get k => exact Nat.le_trans (get_length_le cfg s k) hb
  | insert k v =>
    rw [step_insert, insert_length cfg tl _ s k v n hl hn hi hb]; exact Nat.min_le_left _ _
  | insertMem k v => exact insertMem_bound cfg tl size rs s k v n hl hn hi hb
  | clear => exact Nat.zero_le n
  | invalidateWith p => exact Nat.le_trans (invalidateWith_length_le p s) hb
  | tick ms => exact hb

end Cachelito.C04
