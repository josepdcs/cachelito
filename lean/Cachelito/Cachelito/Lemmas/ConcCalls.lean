/-
  `Cachelito.ConcCalls` (calls of the generated wrapper over the interleaving model), C03's concurrent clause:
  the configuration `Plain` (no limit, no memory bound, no TTL; callers only call, so there is no clear /
  conditional invalidation), what the engine micro-steps of a call do in it, and the invariant `CallInv` of
  the call-level system.  `ConcCalls` is the instance "every call produces `f k` and stores it" of
  `ConcCallsR`; that `CallInv` holds along every run is proved there (`Lemmas/ConcCallsR.lean` §4) from the
  invariant of the general model.
-/
import Cachelito.ConcCalls
import Cachelito.Lemmas.ConcData

namespace Cachelito.ConcCalls
open Cachelito Cachelito.ConcData

variable {K V S : Type} [DecidableEq K]

/-- the configuration C03 speaks about: no limit, no memory bound, no TTL -/
def Plain (cfg : Cfg) : Prop := cfg.limit = none ∧ cfg.maxMem = none ∧ cfg.ttl = none

theorem expired_plain {cfg : Cfg} (hp : Plain cfg) (now : Nat) (e : Entry V) : expired cfg now e = false := by
  unfold expired; rw [hp.2.2]

theorem found_plain {cfg : Cfg} (hp : Plain cfg) (s : State K V) (k : K) : found cfg s k = hasKey k s.store := by
  unfold found hasKey
  cases lookup k s.store <;> simp [expired_plain hp]

/-! ### The continuations of a hit -/

/-- continuation of a hit on `k` that carries `f k`, of the engine at hand -/
def HitPend (f : K → V) (cfg : Cfg) (k : K) (p : Pend K V) : Prop :=
  (p = .refresh k (f k) ∧ isAsync cfg = true) ∨ (p = .move k (f k) ∧ isAsync cfg = false) ∨
  (p = .bump k (f k) ∧ isAsync cfg = false)

theorem hitRes_hit (f : K → V) (cfg : Cfg) (k : K) {v : V} (hv : v = f k) :
    hitRes cfg k v = .fin (.get k) (.val (some v)) ∨ ∃ p, hitRes cfg k v = .more p ∧ HitPend f cfg k p := by
  subst hv
  rcases hitRes_cases cfg k (f k) with h | ⟨ha, h⟩ | ⟨ha, h⟩ | ⟨ha, h⟩
  · exact Or.inl h
  · exact Or.inr ⟨_, h, Or.inl ⟨rfl, ha⟩⟩
  · exact Or.inr ⟨_, h, Or.inr (Or.inl ⟨rfl, ha⟩)⟩
  · exact Or.inr ⟨_, h, Or.inr (Or.inr ⟨rfl, ha⟩)⟩

theorem get_cont_plain (f : K → V) (cfg : Cfg) (tl : Tlru S) (size : V → Nat) (s : State K V) (k : K)
    (rs : List Nat) (p : Pend K V) (hp : HitPend f cfg k p) :
    keys (micro false cfg tl size s (.get k) rs (some p)).1.store = keys s.store ∧
    ((micro false cfg tl size s (.get k) rs (some p)).2 = .fin (.get k) (.val (some (f k))) ∨
     ∃ p', (micro false cfg tl size s (.get k) rs (some p)).2 = .more p' ∧ HitPend f cfg k p') := by
  rcases hp with ⟨rfl, ha⟩ | ⟨rfl, ha⟩ | ⟨rfl, ha⟩
  · simp only [micro, ha, if_true, contAsync]
    exact ⟨trivial, Or.inl trivial⟩
  · simp only [micro, ha, Bool.false_eq_true, if_false, contSync]
    split
    · exact ⟨rfl, Or.inr ⟨_, rfl, Or.inr (Or.inr ⟨rfl, ha⟩)⟩⟩
    · exact ⟨rfl, Or.inl rfl⟩
  · simp only [micro, ha, Bool.false_eq_true, if_false, contSync]
    exact ⟨keys_bumpHits k s.store, Or.inl trivial⟩

/-! ### Per-caller stage invariant, the ghost log, the system -/

def StagePred (f : K → V) (cfg : Cfg) (log : List (Ev K V)) (k : K) : Stage K V → Prop
  | .lookup none => True
  | .lookup (some p) => HitPend f cfg k p
  | .store none => True
  | .store (some p) => (∃ r, p = .track k (f k) r) ∧ isAsync cfg = false ∧ Ev.write k ∈ log

/-- the local engine state of a caller fits its current call -/
def StageOK (f : K → V) (cfg : Cfg) (log : List (Ev K V)) (c : Caller K V) : Prop :=
  ∀ k rs rest, c.calls = (k, rs) :: rest → StagePred f cfg log k c.stage

/-- what the log (newest first) says about the store and about itself:
    * a key whose store-write micro-step has executed is stored;
    * no lookup of `k` executed AFTER a store-write of `k` missed;
    * a call that reports "I stored `k`" executed its store-write of `k` BEFORE returning;
    * every returned value is `f` of the call's key. -/
structure LogInv (f : K → V) (m : Store K V) (log : List (Ev K V)) : Prop where
  written : ∀ k, Ev.write k ∈ log → k ∈ keys m
  after : ∀ l1 l2 k, log = l1 ++ Ev.write k :: l2 → Ev.read k false ∉ l1
  stored : ∀ l1 l2 k v, log = l1 ++ Ev.ret k v true :: l2 → Ev.write k ∈ l2
  value : ∀ k v b, Ev.ret k v b ∈ log → v = f k

/-- the invariant of the call-level system in the plain configuration -/
structure CallInv (f : K → V) (cfg : Cfg) (c : CallState K V) : Prop where
  val : ValOK f c.shared.store
  stages : ∀ x, x ∈ c.callers → StageOK f cfg c.log x
  logInv : LogInv f c.shared.store c.log
  bodies : ∀ k, totalBodies k c.callers = c.log.countP (isMiss k)

/-! ### Missed lookups among the events -/

theorem countP_isMiss_le_isRead (k : K) (l : List (Ev K V)) : l.countP (isMiss k) ≤ l.countP (isRead k) := by
  refine List.countP_mono_left (fun e _ h => ?_)
  cases e with
  | read k' b => cases b with
    | false => exact h
    | true => cases h
  | _ => cases h

theorem eq_read_of_isMiss {k : K} {e : Ev K V} (h : isMiss k e = true) : e = .read k false := by
  cases e with
  | read k' b =>
    cases b with
    | false => rw [of_decide_eq_true h]
    | true => cases h
  | _ => cases h

end Cachelito.ConcCalls
