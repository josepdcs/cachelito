/-
  Lemmas about the attribute parsers (`Attrs.lean`), for C19, in layers:
    * characters and digit strings (`Digits`); the unit suffix `(aB)^j` (`reps`) and what `scanUnit` reads;
      `ends_with` / `trim_end_matches` on `s ++ (aB)^j`;
    * `parse::<usize>` and the forward scanner of the specification, each in both directions: what they compute on
      `[+] digits …` (`*_shape`) and that they read nothing else (`shape_of_*`);
    * the `max_memory` string parser against the scanner (`parseMaxMemoryStr_spec`) and what follows for the
      documented forms, for whatever is accepted, for `<n><unit>` strings;
    * each value parser on valid and on invalid values;
    * one iteration (`stepAttr_meaning` on a valid attribute, `stepAttr_error_of_mustReject`, `stepAttr_fields`)
      and the loop: valid lists (`parseLoop_meaning`), failing iterations (`parseLoop_error_of_mem`), the field
      a name determines (`parseLoop_field`);
    * the textual `None` test, `is_result` on literals.
-/
import Cachelito.Attrs

namespace Cachelito.Attrs

/-! ### characters and digit strings -/

theorem toUpper_of_isDigit {c : Char} (hc : c.isDigit = true) : c.toUpper = c := by
  simp only [Char.isDigit, Bool.and_eq_true, decide_eq_true_eq] at hc
  unfold Char.toUpper
  -- `'a' ≤ c` and `c ≤ '9'` exclude each other
  rw [dif_neg fun h => absurd (UInt32.le_trans h.1 hc.2) (by decide)]

/-- a non-empty string of ASCII digits: what `parse::<usize>` and the scanner read as a number -/
def Digits (ds : List Char) : Prop := ds ≠ [] ∧ ds.all Char.isDigit = true

theorem digits_toDigits (n : Nat) : Digits (Nat.toDigits 10 n) :=
  ⟨Nat.toDigits_ne_nil, List.all_eq_true.mpr fun _ hc => Nat.isDigit_of_mem_toDigits (by decide) (by decide) hc⟩

theorem map_toUpper_digits {ds : List Char} (h : ds.all Char.isDigit = true) : ds.map Char.toUpper = ds := by
  induction ds with
  | nil => rfl
  | cons d ds ih =>
    simp only [List.all_cons, Bool.and_eq_true] at h
    simp [toUpper_of_isDigit h.1, ih h.2]

/-- the optional sign -/
def signL (sg : Bool) : List Char := if sg then ['+'] else []

theorem digits_ne_plus {ds : List Char} (hd : Digits ds) (rest r : List Char) : ds ++ rest ≠ '+' :: r := by
  obtain ⟨hne, hall⟩ := hd
  cases ds with
  | nil => exact absurd rfl hne
  | cons d t => intro h; cases h; cases hall

theorem sign_cases (s : List Char) : ∃ sg b, s = signL sg ++ b ∧ (sg = false → ∀ r, b ≠ '+' :: r) := by
  by_cases h : ∃ r, s = '+' :: r
  · obtain ⟨r, rfl⟩ := h
    exact ⟨true, r, rfl, nofun⟩
  · exact ⟨false, s, rfl, fun _ r hr => h ⟨r, hr⟩⟩

/-! ### the unit suffix `(aB)^j` -/

/-- `j` repetitions of the two characters `a B` -/
def reps (a : Char) : Nat → List Char
  | 0 => []
  | j + 1 => a :: 'B' :: reps a j

theorem reverse_reps_succ (a : Char) (j : Nat) : (reps a (j + 1)).reverse = 'B' :: a :: (reps a j).reverse := by
  have snoc : reps a (j + 1) = reps a j ++ [a, 'B'] := by
    induction j with
    | zero => rfl
    | succ j ih =>
      show a :: 'B' :: reps a (j + 1) = (a :: 'B' :: reps a j) ++ [a, 'B']
      rw [ih]; rfl
  rw [snoc]; simp

theorem unitReps_reps (a : Char) (j : Nat) : unitReps a (reps a j) = some j := by
  induction j with
  | zero => rfl
  | succ j ih => simp [reps, unitReps, ih]

theorem eq_reps_of_unitReps {a : Char} : ∀ {l : List Char} {j : Nat}, unitReps a l = some j → l = reps a j
  | [], j, h => by cases h; rfl
  | [_], j, h => by cases h
  | x :: y :: r, j, h => by
    rw [unitReps] at h
    split at h
    · rename_i hxy
      obtain ⟨j', hr, rfl⟩ := Option.map_eq_some_iff.mp h
      rw [eq_reps_of_unitReps hr, hxy.1, hxy.2, reps]
    · cases h

/-- unit letter of exponent `k` = 1, 2, 3 (no unit has exponent 0: there `unitChar` only ever occurs with zero
    repetitions, as `reps (unitChar 0) 0 = []`) -/
def unitChar (k : Nat) : Char := if k = 1 then 'K' else if k = 2 then 'M' else 'G'

theorem unitChar_not_digit (e : Nat) : (unitChar e).isDigit = false := by
  unfold unitChar; split
  · decide
  · split <;> decide

theorem unitExp_unitChar {e : Nat} (he : e = 1 ∨ e = 2 ∨ e = 3) : unitExp (unitChar e) = e := by
  rcases he with rfl | rfl | rfl <;> decide

theorem unitChar_unitExp {c : Char} (h : unitExp c ≠ 0) :
    unitChar (unitExp c) = c ∧ (unitExp c = 1 ∨ unitExp c = 2 ∨ unitExp c = 3) := by
  have hc : c = 'K' ∨ c = 'M' ∨ c = 'G' := by
    refine Decidable.by_contra fun hn => h ?_
    rw [not_or, not_or] at hn
    rw [unitExp, if_neg hn.1, if_neg hn.2.1, if_neg hn.2.2]
  rcases hc with rfl | rfl | rfl <;> decide

theorem takeWhile_reps {c : Char} (hc : c.isDigit = false) (j : Nat) : (reps c j).takeWhile Char.isDigit = [] := by
  cases j with
  | zero => rfl
  | succ j => exact List.takeWhile_cons_of_neg (by simp [hc])

theorem scanUnit_reps {e : Nat} (he : e = 1 ∨ e = 2 ∨ e = 3) (j : Nat) :
    scanUnit (reps (unitChar e) (j + 1)) = some (e, j + 1) := by
  have hu := unitReps_reps (unitChar e) (j + 1)
  have he0 : e ≠ 0 := by omega
  rw [reps] at hu ⊢
  rw [scanUnit, hu, unitExp_unitChar he, if_neg he0]; rfl

theorem shape_of_scanUnit {rest : List Char} {e j : Nat} (h : scanUnit rest = some (e, j)) :
    rest = reps (unitChar e) j ∧ ((e = 0 ∧ j = 0) ∨ ((e = 1 ∨ e = 2 ∨ e = 3) ∧ 1 ≤ j)) := by
  cases rest with
  | nil => cases h; exact ⟨rfl, .inl ⟨rfl, rfl⟩⟩
  | cons c r =>
    rw [scanUnit] at h
    split at h
    · cases h
    · rename_i hc
      obtain ⟨j', hj', heq⟩ := Option.map_eq_some_iff.mp h
      cases heq
      obtain ⟨huc, he⟩ := unitChar_unitExp hc
      have hrep := eq_reps_of_unitReps hj'
      refine ⟨by rw [huc]; exact hrep, .inr ⟨he, ?_⟩⟩
      cases j with
      | zero => cases hrep
      | succ _ => omega

/-! ### `ends_with` / `trim_end_matches` on the shape `s ++ (aB)^j` -/

theorem trimRev2_reps (a : Char) (j : Nat) (r : List Char) :
    trimRev2 a 'B' ((reps a j).reverse ++ r) = trimRev2 a 'B' r := by
  induction j with
  | zero => simp [reps]
  | succ j ih => rw [reverse_reps_succ]; simp [trimRev2, ih]

theorem trimRev2_of_not_endsWith2 {a : Char} {s : List Char} (h : endsWith2 a 'B' s = false) :
    trimRev2 a 'B' s.reverse = s.reverse := by
  unfold endsWith2 at h
  generalize s.reverse = r at h
  match r, h with
  | [], _ => rfl
  | [_], _ => rfl
  | y :: x :: r, h =>
    have : ¬ (x = a ∧ y = 'B') := by simpa using h
    simp only [trimRev2, this, if_false]

theorem trimEndMatches2_shape {a : Char} {s : List Char} (h : endsWith2 a 'B' s = false) (j : Nat) :
    trimEndMatches2 a 'B' (s ++ reps a j) = s := by
  unfold trimEndMatches2
  rw [List.reverse_append, trimRev2_reps, trimRev2_of_not_endsWith2 h, List.reverse_reverse]

theorem exists_reps_of_trim (a : Char) : ∀ (r : List Char), ∃ j, r = (reps a j).reverse ++ trimRev2 a 'B' r
  | [] => ⟨0, rfl⟩
  | [y] => ⟨0, rfl⟩
  | y :: x :: r => by
    by_cases h : x = a ∧ y = 'B'
    · obtain ⟨j, hj⟩ := exists_reps_of_trim a r
      refine ⟨j + 1, ?_⟩
      rw [reverse_reps_succ]
      simp only [trimRev2, h, and_self, if_true, List.cons_append]
      rw [← hj]
    · exact ⟨0, by simp [trimRev2, h, reps]⟩

theorem exists_reps_of_trimEnd (a : Char) (u : List Char) : ∃ j, u = trimEndMatches2 a 'B' u ++ reps a j := by
  obtain ⟨j, hj⟩ := exists_reps_of_trim a u.reverse
  refine ⟨j, ?_⟩
  unfold trimEndMatches2
  have := congrArg List.reverse hj
  simpa using this

theorem endsWith2_shape_succ (a c : Char) (s : List Char) (j : Nat) :
    endsWith2 a 'B' (s ++ reps c (j + 1)) = (c == a) := by
  unfold endsWith2
  rw [List.reverse_append, reverse_reps_succ]
  simp

theorem endsWith2_digits (a : Char) (s : List Char) {ds : List Char} (hd : Digits ds) :
    endsWith2 a 'B' (s ++ ds) = false := by
  have hB : ds.getLast hd.1 ≠ 'B' := fun e =>
    absurd (e ▸ List.all_eq_true.mp hd.2 _ (List.getLast_mem hd.1)) (by decide)
  rw [← List.dropLast_concat_getLast hd.1, ← List.append_assoc, endsWith2, List.reverse_append]
  cases (s ++ ds.dropLast).reverse <;> simp [hB]

/-! ### `parse::<usize>` -/

theorem parseUsize_sign (sg : Bool) {ds : List Char} (h : sg = false → ∀ r, ds ≠ '+' :: r) :
    parseUsize (signL sg ++ ds) =
      if ds = [] then none
      else if ds.all Char.isDigit then (if decVal ds < usizeBound then some (decVal ds) else none)
      else none := by
  cases sg
  · show parseUsize ds = _
    dsimp only [parseUsize]
    split
    · exact absurd rfl (h rfl _)
    · rfl
  · rfl

theorem parseUsize_shape (sg : Bool) {ds : List Char} (hd : Digits ds) :
    parseUsize (signL sg ++ ds) = if decVal ds < usizeBound then some (decVal ds) else none := by
  rw [parseUsize_sign sg (fun _ r => List.append_nil ds ▸ digits_ne_plus hd [] r), if_neg hd.1, if_pos hd.2]

theorem shape_of_parseUsize {s : List Char} {n : Nat} (h : parseUsize s = some n) :
    ∃ sg ds, s = signL sg ++ ds ∧ Digits ds ∧ decVal ds = n ∧ n < usizeBound := by
  obtain ⟨sg, ds, rfl, hsg⟩ := sign_cases s
  rw [parseUsize_sign sg hsg] at h
  refine ⟨sg, ds, rfl, ?_⟩
  split at h
  · cases h
  split at h
  · split at h
    · cases h; exact ⟨⟨‹_›, ‹_›⟩, rfl, ‹_›⟩
    · cases h
  · cases h

/-! ### the forward scanner -/

theorem scanMM_sign (sg : Bool) {body : List Char} (h : sg = false → ∀ r, body ≠ '+' :: r) :
    scanMM (signL sg ++ body) = scanBody sg body := by
  cases sg
  · show scanMM body = _
    unfold scanMM
    split
    · exact absurd rfl (h rfl _)
    · rfl
  · rfl

theorem scanMM_shape (sg : Bool) {ds : List Char} (hd : Digits ds) {rest : List Char}
    (hrest : rest.takeWhile Char.isDigit = []) :
    scanMM (signL sg ++ ds ++ rest) = (scanUnit rest).map (fun kj => (sg, decVal ds, kj.1, kj.2)) := by
  have hds := List.all_eq_true.mp hd.2
  have hdrop : rest.dropWhile Char.isDigit = rest := by
    have := List.takeWhile_append_dropWhile (p := Char.isDigit) (l := rest)
    rwa [hrest] at this
  rw [List.append_assoc, scanMM_sign sg (fun _ => digits_ne_plus hd rest), scanBody,
    List.takeWhile_append_of_pos hds, List.dropWhile_append_of_pos hds, hrest, hdrop, List.append_nil, if_neg hd.1]

theorem shape_of_scanMM {u : List Char} {sg : Bool} {n e j : Nat} (h : scanMM u = some (sg, n, e, j)) :
    ∃ ds rest, u = signL sg ++ ds ++ rest ∧ Digits ds ∧ decVal ds = n ∧ scanUnit rest = some (e, j) := by
  obtain ⟨sg', b, rfl, hsg⟩ := sign_cases u
  rw [scanMM_sign sg' hsg, scanBody] at h
  split at h
  · cases h
  · rename_i hds
    obtain ⟨⟨e', j'⟩, hu, heq⟩ := Option.map_eq_some_iff.mp h
    cases heq
    exact ⟨_, _, by rw [List.append_assoc, List.takeWhile_append_dropWhile], ⟨hds, List.all_takeWhile⟩, rfl, hu⟩

/-! ### the `max_memory` string parser against the scanner -/

theorem mulUnit_of_lt {n e : Nat} (h : n * 1024 ^ e < usizeBound) : mulUnit n e = .ok (some (n * 1024 ^ e)) := by
  simp [mulUnit, h]

theorem mulUnit_of_ge {n e : Nat} (h : usizeBound ≤ n * 1024 ^ e) : mulUnit n e = .compileError .mmTooLarge := by
  simp [mulUnit, Nat.not_lt.mpr h]

theorem mmWithUnit_shape (sg : Bool) {ds : List Char} (hd : Digits ds) (a : Char) (e j : Nat) :
    mmWithUnit (signL sg ++ ds ++ reps a j) a e =
      if decVal ds < usizeBound then mulUnit (decVal ds) e else .compileError .mmNumber := by
  rw [mmWithUnit, trimEndMatches2_shape (endsWith2_digits a _ hd), parseUsize_shape sg hd]
  by_cases hlt : decVal ds < usizeBound
  · rw [if_pos hlt, if_pos hlt]
  · rw [if_neg hlt, if_neg hlt]

theorem parseMaxMemoryUpper_unit {e : Nat} (he : e = 1 ∨ e = 2 ∨ e = 3) (s : List Char) (j : Nat) :
    parseMaxMemoryUpper (s ++ reps (unitChar e) (j + 1)) =
      mmWithUnit (s ++ reps (unitChar e) (j + 1)) (unitChar e) e := by
  unfold parseMaxMemoryUpper
  rw [endsWith2_shape_succ, endsWith2_shape_succ, endsWith2_shape_succ]
  rcases he with rfl | rfl | rfl <;> rfl

/-- the parser on `[+] ds rest`, `rest` what the scanner reads as a unit -/
theorem parseMaxMemoryUpper_shape (sg : Bool) {ds : List Char} (hd : Digits ds) {rest : List Char} {e j : Nat}
    (hrest : scanUnit rest = some (e, j)) :
    parseMaxMemoryUpper (signL sg ++ ds ++ rest) =
      if decVal ds < usizeBound then mulUnit (decVal ds) e
      else .compileError (if e = 0 then .mmFormat else .mmNumber) := by
  obtain ⟨rfl, hej⟩ := shape_of_scanUnit hrest
  rcases hej with ⟨rfl, rfl⟩ | ⟨he, hj⟩
  · unfold parseMaxMemoryUpper
    simp only [reps, List.append_nil, endsWith2_digits _ _ hd, Bool.false_eq_true, if_false, parseUsize_shape sg hd]
    by_cases hlt : decVal ds < usizeBound
    · rw [if_pos hlt, if_pos hlt, mulUnit_of_lt (e := 0) (by omega), Nat.pow_zero, Nat.mul_one]
    · rw [if_neg hlt, if_neg hlt]; rfl
  · obtain ⟨j, rfl⟩ : ∃ j', j = j' + 1 := ⟨j - 1, by omega⟩
    rw [parseMaxMemoryUpper_unit he, mmWithUnit_shape sg hd, if_neg (show e ≠ 0 by omega)]

theorem scanMM_of_parseUsize {s : List Char} {n : Nat} (h : parseUsize s = some n) {e : Nat}
    (he : e = 1 ∨ e = 2 ∨ e = 3) (j : Nat) : scanMM (s ++ reps (unitChar e) j) ≠ none := by
  obtain ⟨sg, ds, rfl, hd, _, _⟩ := shape_of_parseUsize h
  rw [scanMM_shape sg hd (takeWhile_reps (unitChar_not_digit e) j)]
  intro h'
  cases j with
  | zero => cases h'
  | succ j => rw [scanUnit_reps he] at h'; cases h'

theorem mmWithUnit_of_scan_none {u : List Char} (h : scanMM u = none) {e : Nat}
    (he : e = 1 ∨ e = 2 ∨ e = 3) : mmWithUnit u (unitChar e) e = .compileError .mmNumber := by
  unfold mmWithUnit
  cases hp : parseUsize (trimEndMatches2 (unitChar e) 'B' u) with
  | none => rfl
  | some n =>
    obtain ⟨j, hj⟩ := exists_reps_of_trimEnd (unitChar e) u
    exact absurd (hj ▸ h) (scanMM_of_parseUsize hp he j)

/-- **Accepted forms, and nothing else.**  On a string that `mmLenient` reads as `[+] n (unit)^j` with `n < 2^64`
    the parser computes `n · 1024^e` by `checked_mul` (one factor per unit KIND, whatever the number of
    repetitions); every other string yields `compile_error!` tokens. -/
theorem parseMaxMemoryStr_spec (s : String) :
    match mmLenient s with
    | some (n, e) => parseMaxMemoryStr s.toList = mulUnit n e
    | none => (parseMaxMemoryStr s.toList).isOk = false := by
  unfold mmLenient parseMaxMemoryStr
  generalize s.toList.map Char.toUpper = u
  cases hscan : scanMM u with
  | none =>
    show (parseMaxMemoryUpper u).isOk = false
    unfold parseMaxMemoryUpper
    split
    · exact congrArg Spliced.isOk (mmWithUnit_of_scan_none (e := 3) hscan (by omega))
    split
    · exact congrArg Spliced.isOk (mmWithUnit_of_scan_none (e := 2) hscan (by omega))
    split
    · exact congrArg Spliced.isOk (mmWithUnit_of_scan_none (e := 1) hscan (by omega))
    cases hp : parseUsize u with
    | none => rfl
    | some n => exact absurd ((List.append_nil u).symm ▸ hscan) (scanMM_of_parseUsize hp (.inl rfl) 0)
  | some r =>
    obtain ⟨sg, n, e, j⟩ := r
    obtain ⟨ds, rest, rfl, hd, rfl, hrest⟩ := shape_of_scanMM hscan
    rw [parseMaxMemoryUpper_shape sg hd hrest]
    by_cases hlt : decVal ds < usizeBound
    · simp only [hlt, if_true]
    · simp only [hlt, if_false]; rfl

theorem mmLenient_of_strict {s : String} {b : Nat} (h : mmStrict s = some b) :
    ∃ n e, mmLenient s = some (n, e) ∧ n * 1024 ^ e < usizeBound ∧ b = n * 1024 ^ e := by
  unfold mmStrict at h
  unfold mmLenient
  split at h
  · rename_i n e j hscan
    split at h
    · rename_i hc
      cases h
      have hn : n < usizeBound :=
        Nat.lt_of_le_of_lt (Nat.le_mul_of_pos_right n (Nat.pow_pos (by decide))) hc.2
      exact ⟨n, e, by simp only [hscan, hn, if_true], hc.2, rfl⟩
    · cases h
  · cases h

theorem parseMaxMemoryStr_of_strict {s : String} {b : Nat} (h : mmStrict s = some b) :
    parseMaxMemoryStr s.toList = .ok (some b) := by
  obtain ⟨n, e, hl, hlt, rfl⟩ := mmLenient_of_strict h
  have hs := parseMaxMemoryStr_spec s
  simp only [hl] at hs
  rw [hs, mulUnit_of_lt hlt]

/-- whatever the string parser accepts is a `[+] n (unit)^j` form, and its value `n · 1024^e` fits in `usize` -/
theorem mmLenient_of_isOk {s : String} (h : (parseMaxMemoryStr s.toList).isOk = true) :
    ∃ n e, mmLenient s = some (n, e) ∧ n * 1024 ^ e < usizeBound ∧
      parseMaxMemoryStr s.toList = .ok (some (n * 1024 ^ e)) := by
  have hs := parseMaxMemoryStr_spec s
  cases hl : mmLenient s with
  | none => simp only [hl, h] at hs; cases hs
  | some nk =>
    obtain ⟨n, e⟩ := nk
    simp only [hl] at hs
    by_cases hlt : n * 1024 ^ e < usizeBound
    · exact ⟨n, e, rfl, hlt, by rw [hs, mulUnit_of_lt hlt]⟩
    · rw [hs, mulUnit_of_ge (Nat.le_of_not_lt hlt)] at h; cases h

/-! ### `<n><unit>` strings -/

theorem decVal_toDigits (n : Nat) : decVal (Nat.toDigits 10 n) = n := by
  simp [decVal]

/-- the unit suffix of exponent `k`, upper-cased -/
def unitStr (k : Nat) : List Char := if k = 0 then [] else [unitChar k, 'B']

theorem unitStr_eq_reps (e : Nat) : unitStr e = reps (unitChar e) (if e = 0 then 0 else 1) := by
  unfold unitStr
  split <;> rfl

theorem scanMM_digits_unit (n : Nat) {e : Nat} (he : e ≤ 3) :
    scanMM (Nat.toDigits 10 n ++ unitStr e) = some (false, n, e, if e = 0 then 0 else 1) := by
  have h := scanMM_shape false (digits_toDigits n)
    (takeWhile_reps (unitChar_not_digit e) (if e = 0 then 0 else 1))
  rw [← unitStr_eq_reps, show signL false = [] from rfl, List.nil_append, decVal_toDigits] at h
  rw [h, unitStr_eq_reps]
  by_cases he0 : e = 0
  · subst he0; rfl
  · rw [if_neg he0, scanUnit_reps (by omega)]; rfl

/-- **KB / MB / GB arithmetic.**  The string `<n><unit>` (unit in any letter case, or absent) denotes
    `n · 1024^e` bytes, `e = 0, 1, 2, 3` for no unit, `KB`, `MB`, `GB`. -/
theorem mmStrict_digits_unit (n : Nat) {e : Nat} (he : e ≤ 3) (unit : List Char)
    (hu : unit.map Char.toUpper = unitStr e) (h : n * 1024 ^ e < usizeBound) :
    mmStrict (String.ofList (Nat.toDigits 10 n ++ unit)) = some (n * 1024 ^ e) := by
  unfold mmStrict
  rw [String.toList_ofList, List.map_append, map_toUpper_digits (digits_toDigits n).2, hu,
    scanMM_digits_unit n he]
  have : (if e = 0 then 0 else 1) ≤ 1 := by split <;> omega
  simp [this, h]

/-! ### the value parsers: a valid value is parsed to what it denotes, an invalid one is refused -/

theorem parseLimit_of_valid {v : AttrVal} (h : validLimit v = true) : parseLimit v = .ok (natOf (some v)) := by
  cases v with
  | intLit neg val suf =>
    cases neg
    · have hv : val < usizeBound := of_decide_eq_true h
      simp [parseLimit, natOf, hv]
    · cases h
  | _ => cases h

theorem parseLimit_isOk (v : AttrVal) : (parseLimit v).isOk = validLimit v := by
  cases v with
  | intLit neg val suf =>
    cases neg
    · by_cases hv : val < usizeBound <;> simp [parseLimit, validLimit, hv, Spliced.isOk]
    · rfl
  | _ => rfl

theorem parseTtl_of_valid {v : AttrVal} (h : validTtl v = true) : parseTtl v = .ok (.ok (natOf (some v))) := by
  cases v with
  | intLit neg val suf =>
    cases neg
    · have hv : val < 2 ^ 64 := of_decide_eq_true h
      simp [parseTtl, natOf, hv]
    · cases h
  | _ => cases h

theorem parseTtl_isOk {v : AttrVal} {t : Spliced Nat} (ht : parseTtl v = .ok t) : t.isOk = validTtl v := by
  cases v with
  | intLit neg val suf =>
    cases neg
    · by_cases hv : val < 2 ^ 64 <;> simp [parseTtl, hv] at ht
      subst ht; simp [validTtl, hv, Spliced.isOk]
    · cases ht
  | _ => cases ht; rfl

theorem policyName_policyOfName {s : String} (h : policies.contains s = true) : policyName (policyOfName s) = s := by
  simp [policies] at h
  rcases h with rfl | rfl | rfl | rfl | rfl | rfl <;> decide

theorem parsePolicy_of_valid {v : AttrVal} (h : validPolicy v = true) :
    ∃ s, v = .strLit s ∧ policies.contains s = true ∧ parsePolicy v = .ok s := by
  cases v with
  | strLit s =>
    have hs : policies.contains s = true := h
    exact ⟨s, rfl, hs, by rw [parsePolicy, if_pos hs]⟩
  | _ => cases h

theorem parsePolicy_invalid {v : AttrVal} (h : validPolicy v = false) : ∃ m, parsePolicy v = .error m := by
  cases v with
  | strLit s => exact ⟨_, by rw [parsePolicy, if_neg (by rw [show policies.contains s = false from h]; decide)]⟩
  | _ => exact ⟨_, rfl⟩

theorem parseScope_of_valid {v : AttrVal} (h : validScope v = true) :
    ∃ s, v = .strLit s ∧ parseScope v = .ok (if s = "thread" then .thread else .global) := by
  cases v with
  | strLit s =>
    refine ⟨s, rfl, ?_⟩
    simp only [validScope, Bool.or_eq_true, decide_eq_true_eq] at h
    rcases h with rfl | rfl <;> rfl
  | _ => cases h

theorem parseScope_invalid {v : AttrVal} (h : validScope v = false) : ∃ m, parseScope v = .error m := by
  cases v with
  | strLit s =>
    simp only [validScope, Bool.or_eq_false_iff, decide_eq_false_iff_not] at h
    exact ⟨_, by rw [parseScope, if_neg h.1, if_neg h.2]⟩
  | _ => exact ⟨_, rfl⟩

theorem parseName_of_valid {v : AttrVal} (h : isStr v = true) : parseName v = strOf (some v) := by
  cases v with
  | strLit s => rfl
  | _ => cases h

theorem parseElems_of_valid : ∀ {elems : List ArrElem},
    elems.all ArrElem.isStr = true → parseElems elems = some (elems.filterMap ArrElem.str?)
  | [], _ => rfl
  | .str s :: r, h => by
    simp only [List.all_cons, ArrElem.isStr, Bool.true_and] at h
    simp [parseElems, parseElems_of_valid h, ArrElem.str?]
  | .other :: r, h => by simp [ArrElem.isStr] at h

theorem parseStringArray_of_valid {v : AttrVal} (h : validStrArray v = true) :
    parseStringArray v = .ok (strsOf (some v)) := by
  cases v with
  | array elems => simp only [parseStringArray, strsOf, parseElems_of_valid h]
  | _ => cases h

theorem parsePathAttr_of_valid (msg : String) {v : AttrVal} (h : isPath v = true) :
    ∃ p, v = .path p ∧ parsePathAttr msg v = .ok p := by
  cases v with
  | path p => exact ⟨p, rfl, rfl⟩
  | _ => cases h

theorem parseMaxMemory_of_valid {v : AttrVal} (h : validMaxMemory v = true) :
    parseMaxMemory v = .ok (.ok (memOf (some v))) := by
  cases v with
  | intLit neg val suf =>
    cases neg
    · have hv : val < usizeBound := of_decide_eq_true h
      simp [parseMaxMemory, memOf, hv]
    · cases h
  | strLit s =>
    obtain ⟨b, hb⟩ := Option.isSome_iff_exists.mp h
    simp only [parseMaxMemory, memOf, hb, parseMaxMemoryStr_of_strict hb]
  | _ => cases h

/-- `max_memory`: whatever the scanner cannot read, numbers that do not fit before or after the
    multiplication, negative or oversized integer literals, every other kind of expression -/
theorem parseMaxMemory_bad {v : AttrVal} (h : badMaxMemory v = true) :
    ∀ t, parseMaxMemory v = .ok t → t.isOk = false := by
  intro t ht
  cases v with
  | strLit s =>
    cases ht
    cases hok : (parseMaxMemoryStr s.toList).isOk with
    | false => rfl
    | true =>
      obtain ⟨n, k, hl, hlt, _⟩ := mmLenient_of_isOk hok
      simp [badMaxMemory, hl, Nat.not_le.mpr hlt] at h
  | intLit neg val suf =>
    cases neg
    · have hv : ¬ val < usizeBound := Nat.not_lt.mpr (by simpa [badMaxMemory] using h)
      simp [parseMaxMemory, hv] at ht
    · cases ht
  | _ => cases ht; rfl

theorem parseFrequencyWeight_of_valid {v : AttrVal} (h : validFrequencyWeight v = true) :
    parseFrequencyWeight v = .ok (.ok (weightOf (some v))) := by
  cases v with
  | intLit neg val suf =>
    cases neg
    · have hv : val < 2 ^ 64 := by simp [validFrequencyWeight] at h; exact h.2
      simp [parseFrequencyWeight, weightOf, hv]
    · cases h
  | floatLit neg m e suf =>
    cases neg
    · simp only [validFrequencyWeight] at h
      cases hr : roundDec m e with
      | finite x => simp [parseFrequencyWeight, weightOf, hr, Rounded.toF64]
      | zero => rw [hr] at h; cases h
      | inf => rw [hr] at h; cases h
    · cases h
  | _ => cases h

/-- `frequency_weight`: negative, zero or non-finite floats, negative or oversized integers, every other
    kind of expression -/
theorem parseFrequencyWeight_bad {v : AttrVal} (h : badFrequencyWeight v = true) :
    ∀ t, parseFrequencyWeight v = .ok t → t.isOk = false := by
  intro t ht
  cases v with
  | floatLit neg m e suf =>
    cases neg
    · simp only [badFrequencyWeight, Bool.false_or] at h
      cases hr : roundDec m e with
      | zero => simp [parseFrequencyWeight, hr] at ht; subst ht; rfl
      | inf => simp [parseFrequencyWeight, hr] at ht
      | finite x => rw [hr] at h; cases h
    · cases ht; rfl
  | intLit neg val suf =>
    cases neg
    · have hv : ¬ val < 2 ^ 64 := Nat.not_lt.mpr (by simpa [badFrequencyWeight] using h)
      simp [parseFrequencyWeight, hv] at ht
    · cases ht
  | _ => cases ht; rfl

/-! ### one iteration -/

theorem lastVal_snoc (name : String) (p : AttrList) (n : String) (v : AttrVal) :
    lastVal name (p ++ [(n, v)]) = if n = name then some v else lastVal name p := by
  induction p with
  | nil => simp [lastVal]
  | cons a p ih =>
    obtain ⟨n', v'⟩ := a
    simp only [List.cons_append, lastVal, ih]
    by_cases h : n = name <;> simp [h]

/-- a name outside `knownNames k` (for `#[cache_async]` that includes `scope`) -/
theorem stepAttr_unknown (k : Kind) (st : Parsed) {n : String} (v : AttrVal)
    (h : (knownNames k).contains n = false) :
    stepAttr k st n v = .error (.parserErr (msgUnknown k n)) := by
  cases k <;>
    simp only [knownNames, List.contains_cons, List.contains_nil, Bool.or_false, Bool.or_eq_false_iff,
      beq_eq_false_iff_ne, ne_eq] at h <;>
    simp only [stepAttr, h, if_false, false_and, reduceCtorEq, and_false]

theorem liftErr_ok {α : Type} {r : Except String α} {f : α → Parsed} {st' : Parsed}
    (h : liftErr r f = .ok st') : ∃ a, r = .ok a ∧ st' = f a := by
  cases r with
  | error m => cases h
  | ok a => cases h; exact ⟨a, rfl, rfl⟩

/-- inversion of `liftValue`: only `None` / `Some(..)` tokens are ever stored -/
theorem liftValue_ok {α : Type} {r : Except String (Spliced α)} {f : Spliced α → Parsed} {st' : Parsed}
    (h : liftValue r f = .ok st') : ∃ o, r = .ok (.ok o) ∧ st' = f (.ok o) := by
  cases r with
  | error m => cases h
  | ok sp =>
    cases sp with
    | compileError e => cases h
    | ok o => cases h; exact ⟨o, rfl, rfl⟩

/-- `reject_invalid`: a value parser that panics or produces `compile_error!` tokens makes the iteration fail -/
theorem liftValue_error {α : Type} {r : Except String (Spliced α)} (f : Spliced α → Parsed)
    (h : ∀ t, r = .ok t → t.isOk = false) : ∃ e, liftValue r f = .error e := by
  cases r with
  | error m => exact ⟨_, rfl⟩
  | ok sp =>
    cases sp with
    | compileError e => exact ⟨_, rfl⟩
    | ok o => cases h _ rfl

/-- Processing a valid attribute in the state that carries the meaning of the attributes before it yields the
    state that carries the meaning of the list extended by that attribute. -/
theorem stepAttr_meaning (k : Kind) (p : AttrList) {n : String} {v : AttrVal}
    (h : validAttr k n v = true) :
    stepAttr k (meaning k p).toParsed n v = .ok (meaning k (p ++ [(n, v)])).toParsed := by
  -- `validAttr` and `stepAttr` test the names in the same order: the two `if` chains are walked together
  unfold validAttr at h
  unfold stepAttr
  by_cases h1 : n = "limit"
  · subst n; rw [if_pos rfl] at h ⊢
    simp only [parseLimit_of_valid h, liftValue, meaning, lastVal_snoc, String.reduceEq, if_true, if_false, Meaning.toParsed]
  rw [if_neg h1] at h ⊢
  by_cases h2 : n = "policy"
  · subst n; rw [if_pos rfl] at h ⊢
    obtain ⟨s, rfl, hs, hp⟩ := parsePolicy_of_valid h
    simp only [hp, policyName_policyOfName hs, liftErr, strOf, meaning, lastVal_snoc, String.reduceEq, if_true, if_false, Meaning.toParsed]
  rw [if_neg h2] at h ⊢
  by_cases h3 : n = "ttl"
  · subst n; rw [if_pos rfl] at h ⊢
    simp only [parseTtl_of_valid h, liftValue, meaning, lastVal_snoc, String.reduceEq, if_true, if_false, Meaning.toParsed]
  rw [if_neg h3] at h ⊢
  by_cases h4 : n = "scope"
  · subst n; rw [if_pos rfl, Bool.and_eq_true, decide_eq_true_eq] at h
    obtain ⟨rfl, hv⟩ := h
    obtain ⟨s, rfl, hp⟩ := parseScope_of_valid hv
    rw [if_pos ⟨rfl, rfl⟩]
    simp only [hp, liftErr, strOf, meaning, lastVal_snoc, String.reduceEq, if_true, if_false, Meaning.toParsed]
  rw [if_neg h4] at h
  rw [if_neg (fun h => h4 h.1)]
  by_cases h5 : n = "name"
  · subst n; rw [if_pos rfl] at h ⊢
    simp only [parseName_of_valid h, meaning, lastVal_snoc, String.reduceEq, if_true, if_false, Meaning.toParsed]
  rw [if_neg h5] at h ⊢
  by_cases h6 : n = "max_memory"
  · subst n; rw [if_pos rfl] at h ⊢
    simp only [parseMaxMemory_of_valid h, liftValue, meaning, lastVal_snoc, String.reduceEq, if_true, if_false, Meaning.toParsed]
  rw [if_neg h6] at h ⊢
  by_cases h7 : n = "tags" ∨ n = "events" ∨ n = "dependencies"
  · rw [if_pos h7] at h
    rcases h7 with rfl | rfl | rfl <;> simp only [parseStringArray_of_valid h, liftErr, meaning, lastVal_snoc, String.reduceEq, if_true, if_false, Meaning.toParsed]
  rw [if_neg h7] at h
  rw [not_or, not_or] at h7
  rw [if_neg h7.1, if_neg h7.2.1, if_neg h7.2.2]
  by_cases h8 : n = "invalidate_on" ∨ n = "cache_if"
  · rw [if_pos h8] at h
    rcases h8 with rfl | rfl
    · obtain ⟨q, rfl, hp⟩ := parsePathAttr_of_valid msgInvalidateOn h
      simp only [hp, liftErr, pathOf, meaning, lastVal_snoc, String.reduceEq, if_true, if_false, Meaning.toParsed]
    · obtain ⟨q, rfl, hp⟩ := parsePathAttr_of_valid msgCacheIf h
      simp only [hp, liftErr, pathOf, meaning, lastVal_snoc, String.reduceEq, if_true, if_false, Meaning.toParsed]
  rw [if_neg h8] at h
  rw [not_or] at h8
  rw [if_neg h8.1, if_neg h8.2]
  by_cases h9 : n = "frequency_weight"
  · subst n; rw [if_pos rfl] at h ⊢
    simp only [parseFrequencyWeight_of_valid h, liftValue, meaning, lastVal_snoc, String.reduceEq, if_true, if_false, Meaning.toParsed]
  · rw [if_neg h9] at h
    cases h

/-- whatever the property says must be rejected makes the iteration fail in every state: `Err` for an unknown
    name, an invalid `policy` or `scope`; `Err` or a panic for an invalid number -/
theorem stepAttr_error_of_mustReject {k : Kind} {n : String} {v : AttrVal} (h : mustRejectAttr k n v = true)
    (st : Parsed) : ∃ e, stepAttr k st n v = .error e := by
  unfold mustRejectAttr at h
  by_cases hk : (knownNames k).contains n = false
  · exact ⟨_, stepAttr_unknown k st v hk⟩
  rw [if_neg (by simpa using hk)] at h
  -- as far as `scope` the names come in the order of `stepAttr`
  unfold stepAttr
  by_cases h1 : n = "limit"
  · subst n; rw [if_pos rfl] at h ⊢
    exact liftValue_error _ (fun t ht => by cases ht; rw [parseLimit_isOk]; simpa using h)
  rw [if_neg h1] at h ⊢
  by_cases h2 : n = "policy"
  · subst n; rw [if_pos rfl] at h ⊢
    obtain ⟨m, hm⟩ := parsePolicy_invalid (by simpa using h)
    exact ⟨_, by rw [hm]; rfl⟩
  rw [if_neg h2] at h ⊢
  by_cases h3 : n = "ttl"
  · subst n; rw [if_pos rfl] at h ⊢
    exact liftValue_error _ (fun t ht => by rw [parseTtl_isOk ht]; simpa using h)
  rw [if_neg h3] at h ⊢
  by_cases h4 : n = "scope"
  · subst n; rw [if_pos rfl] at h
    cases k with
    | async => exact absurd (by simp [knownNames]) hk
    | sync =>
      obtain ⟨m, hm⟩ := parseScope_invalid (by simpa using h)
      exact ⟨_, by rw [if_pos ⟨rfl, rfl⟩, hm]; rfl⟩
  rw [if_neg h4] at h
  by_cases h5 : n = "max_memory"
  · subst n; rw [if_pos rfl] at h
    simp only [String.reduceEq, if_true, if_false, false_and]
    exact liftValue_error _ (parseMaxMemory_bad h)
  rw [if_neg h5] at h
  by_cases h6 : n = "frequency_weight"
  · subst n; rw [if_pos rfl] at h
    simp only [String.reduceEq, if_true, if_false, false_and]
    exact liftValue_error _ (parseFrequencyWeight_bad h)
  · rw [if_neg h6] at h; cases h

/-- effect of one successful iteration on the four fields filled by the value parsers: untouched, or set to
    the `None` / `Some(..)` tokens its value parser produced -/
theorem stepAttr_fields {k : Kind} {st st' : Parsed} {n : String} {v : AttrVal}
    (h : stepAttr k st n v = .ok st') :
    (if n = "limit" then parseLimit v = st'.limit ∧ st'.limit.isOk = true else st'.limit = st.limit) ∧
    (if n = "ttl" then parseTtl v = .ok st'.ttl ∧ st'.ttl.isOk = true else st'.ttl = st.ttl) ∧
    (if n = "max_memory" then parseMaxMemory v = .ok st'.maxMemory ∧ st'.maxMemory.isOk = true
      else st'.maxMemory = st.maxMemory) ∧
    (if n = "frequency_weight" then parseFrequencyWeight v = .ok st'.frequencyWeight ∧ st'.frequencyWeight.isOk = true
      else st'.frequencyWeight = st.frequencyWeight) := by
  unfold stepAttr at h
  by_cases h1 : n = "limit"
  · subst h1; rw [if_pos rfl] at h; obtain ⟨a, ha, rfl⟩ := liftValue_ok h
    simp [Except.ok.inj ha, Spliced.isOk]
  rw [if_neg h1] at h
  by_cases h2 : n = "policy"
  · subst h2; rw [if_pos rfl] at h; obtain ⟨a, _, rfl⟩ := liftErr_ok h; simp
  rw [if_neg h2] at h
  by_cases h3 : n = "ttl"
  · subst h3; rw [if_pos rfl] at h; obtain ⟨a, ha, rfl⟩ := liftValue_ok h; simp [ha, Spliced.isOk]
  rw [if_neg h3] at h
  by_cases h4 : n = "scope" ∧ k = .sync
  · rw [if_pos h4] at h; obtain ⟨a, _, rfl⟩ := liftErr_ok h; simp [h4.1]
  rw [if_neg h4] at h
  by_cases h5 : n = "name"
  · subst h5; rw [if_pos rfl] at h; cases h; simp
  rw [if_neg h5] at h
  by_cases h6 : n = "max_memory"
  · subst h6; rw [if_pos rfl] at h; obtain ⟨a, ha, rfl⟩ := liftValue_ok h; simp [ha, Spliced.isOk]
  rw [if_neg h6] at h
  by_cases h7 : n = "tags"
  · subst h7; rw [if_pos rfl] at h; obtain ⟨a, _, rfl⟩ := liftErr_ok h; simp
  rw [if_neg h7] at h
  by_cases h8 : n = "events"
  · subst h8; rw [if_pos rfl] at h; obtain ⟨a, _, rfl⟩ := liftErr_ok h; simp
  rw [if_neg h8] at h
  by_cases h9 : n = "dependencies"
  · subst h9; rw [if_pos rfl] at h; obtain ⟨a, _, rfl⟩ := liftErr_ok h; simp
  rw [if_neg h9] at h
  by_cases h10 : n = "invalidate_on"
  · subst h10; rw [if_pos rfl] at h; obtain ⟨a, _, rfl⟩ := liftErr_ok h; simp
  rw [if_neg h10] at h
  by_cases h11 : n = "cache_if"
  · subst h11; rw [if_pos rfl] at h; obtain ⟨a, _, rfl⟩ := liftErr_ok h; simp
  rw [if_neg h11] at h
  by_cases h12 : n = "frequency_weight"
  · subst h12; rw [if_pos rfl] at h; obtain ⟨a, ha, rfl⟩ := liftValue_ok h; simp [ha, Spliced.isOk]
  rw [if_neg h12] at h
  cases h

/-! ### the loop -/

theorem meaning_nil (k : Kind) : (meaning k []).toParsed = Parsed.default := by
  cases k <;> rfl

theorem parseLoop_meaning (k : Kind) : ∀ (rest p : AttrList), Valid k rest →
    parseLoop k (meaning k p).toParsed rest = .ok (meaning k (p ++ rest)).toParsed
  | [], p, _ => by simp [parseLoop]
  | (n, v) :: rest, p, h => by
    have hv : validAttr k n v = true := h (n, v) (List.mem_cons_self)
    have hr : Valid k rest := fun a ha => h a (List.mem_cons_of_mem _ ha)
    simp only [parseLoop, stepAttr_meaning k p hv]
    rw [parseLoop_meaning k rest (p ++ [(n, v)]) hr]
    simp

/-- an attribute on which an iteration fails in EVERY state makes the whole parse fail, wherever it stands -/
theorem parseLoop_error_of_mem (k : Kind) {n : String} {v : AttrVal}
    (hstep : ∀ st, ∃ e, stepAttr k st n v = .error e) :
    ∀ (l : AttrList) (st : Parsed), (n, v) ∈ l → ∃ e, parseLoop k st l = .error e
  | [], _, h => by cases h
  | (n', v') :: rest, st, h => by
    rw [parseLoop]
    cases hs : stepAttr k st n' v' with
    | error e => exact ⟨e, rfl⟩
    | ok st' =>
      rcases List.mem_cons.mp h with heq | hmem
      · cases heq
        obtain ⟨e, he⟩ := hstep st
        rw [he] at hs; cases hs
      · exact parseLoop_error_of_mem k hstep rest st' hmem

/-- a field that each iteration either leaves alone or sets from the value of attribute `name` ends up
    set from the LAST value written for `name` -/
theorem parseLoop_field {β : Type} (k : Kind) (name : String) (get : Parsed → β)
    (ok : AttrVal → β → Prop)
    (hstep : ∀ st st' n v, stepAttr k st n v = .ok st' →
      if n = name then ok v (get st') else get st' = get st) :
    ∀ (l : AttrList) (st p : Parsed), parseLoop k st l = .ok p →
      match lastVal name l with
      | some v => ok v (get p)
      | none => get p = get st
  | [], st, p, h => by simp [parseLoop] at h; subst h; simp [lastVal]
  | (n, v) :: rest, st, p, h => by
    simp only [parseLoop] at h
    cases hs : stepAttr k st n v with
    | error e => simp [hs] at h
    | ok st' =>
      simp only [hs] at h
      have ih := parseLoop_field k name get ok hstep rest st' p h
      have hst := hstep st st' n v hs
      simp only [lastVal]
      cases hl : lastVal name rest with
      | some w => simp only [hl] at ih ⊢; exact ih
      | none =>
        simp only [hl] at ih ⊢
        by_cases hn : n = name
        · simp only [hn, if_true] at hst ⊢; rw [ih]; exact hst
        · simp only [hn, if_false] at hst ⊢; rw [ih]; exact hst

theorem parse_limit {k : Kind} {l : AttrList} {p : Parsed} (h : parse k l = .ok p) :
    match lastVal "limit" l with
    | some v => parseLimit v = p.limit ∧ p.limit.isOk = true
    | none => p.limit = .ok none :=
  parseLoop_field k "limit" (·.limit) (fun v b => parseLimit v = b ∧ b.isOk = true)
    (fun _ _ _ _ hs => (stepAttr_fields hs).1) l _ p h

theorem parse_ttl {k : Kind} {l : AttrList} {p : Parsed} (h : parse k l = .ok p) :
    match lastVal "ttl" l with
    | some v => parseTtl v = .ok p.ttl ∧ p.ttl.isOk = true
    | none => p.ttl = .ok none :=
  parseLoop_field k "ttl" (·.ttl) (fun v b => parseTtl v = .ok b ∧ b.isOk = true)
    (fun _ _ _ _ hs => (stepAttr_fields hs).2.1) l _ p h

theorem parse_maxMemory {k : Kind} {l : AttrList} {p : Parsed} (h : parse k l = .ok p) :
    match lastVal "max_memory" l with
    | some v => parseMaxMemory v = .ok p.maxMemory ∧ p.maxMemory.isOk = true
    | none => p.maxMemory = .ok none :=
  parseLoop_field k "max_memory" (·.maxMemory) (fun v b => parseMaxMemory v = .ok b ∧ b.isOk = true)
    (fun _ _ _ _ hs => (stepAttr_fields hs).2.2.1) l _ p h

theorem parse_frequencyWeight {k : Kind} {l : AttrList} {p : Parsed} (h : parse k l = .ok p) :
    match lastVal "frequency_weight" l with
    | some v => parseFrequencyWeight v = .ok p.frequencyWeight ∧ p.frequencyWeight.isOk = true
    | none => p.frequencyWeight = .ok none :=
  parseLoop_field k "frequency_weight" (·.frequencyWeight)
    (fun v b => parseFrequencyWeight v = .ok b ∧ b.isOk = true)
    (fun _ _ _ _ hs => (stepAttr_fields hs).2.2.2) l _ p h

theorem isOk_of_field {α : Type} {o : Option AttrVal} {b : Spliced α} {P : AttrVal → Prop}
    (h : match o with
      | some v => P v ∧ b.isOk = true
      | none => b = .ok none) : b.isOk = true := by
  cases o with
  | none => rw [h]; rfl
  | some v => exact h.2

/-- **No spliced `compile_error!` survives** (commit 82aef8c): in an accepted result the four value fields
    hold `None` / `Some(..)` tokens. -/
theorem parse_ok_fields {k : Kind} {l : AttrList} {p : Parsed} (h : parse k l = .ok p) :
    p.limit.isOk = true ∧ p.ttl.isOk = true ∧ p.maxMemory.isOk = true ∧ p.frequencyWeight.isOk = true :=
  ⟨isOk_of_field (parse_limit h), isOk_of_field (parse_ttl h), isOk_of_field (parse_maxMemory h),
    isOk_of_field (parse_frequencyWeight h)⟩

/-! ### the textual `None` test

For the kernel and for `isDefEq` a string literal is `String.ofList` of its characters, so
`rw [String.toList_ofList]` turns `"…".toList` into the character list at no cost, whereas evaluating `toList`
on a literal encodes and decodes UTF-8 byte by byte.  (`mmTokens` is unfolded by `show`: generating its
equation lemmas evaluates exactly those literals.) -/

theorem hasInfix_cons_false_of_not_mem {c : Char} (pat : List Char) : ∀ {s : List Char}, c ∉ s → hasInfix (c :: pat) s = false
  | [], _ => by simp [hasInfix]
  | x :: s, h => by
    simp only [List.mem_cons, not_or] at h
    have hx : (c == x) = false := by simp [h.1]
    simp [hasInfix, List.isPrefixOf, hx, hasInfix_cons_false_of_not_mem pat h.2]

theorem toList_None : "None".toList = ['N', 'o', 'n', 'e'] := String.toList_ofList

theorem N_not_mem_msg (e : CE) : 'N' ∉ e.msg.toList := by
  cases e <;> rw [CE.msg, String.toList_ofList] <;> decide

theorem not_mem_escapeLit {c : Char} (hc : c ≠ '\\') : ∀ {s : List Char}, c ∉ s → c ∉ escapeLit s
  | [], _ => by simp [escapeLit]
  | x :: s, h => by
    simp only [List.mem_cons, not_or] at h
    have ih := not_mem_escapeLit hc h.2
    unfold escapeLit
    split <;> simp [hc, h.1, ih]

theorem mmTokens_ce (k : Kind) (e : CE) : hasInfix "None".toList (mmTokens k (.compileError e)) = false := by
  rw [toList_None]
  apply hasInfix_cons_false_of_not_mem
  show 'N' ∉ "compile_error ! (\"".toList ++ escapeLit e.msg.toList ++ "\")".toList
  have hm := N_not_mem_msg e
  generalize e.msg.toList = m at hm
  rw [String.toList_ofList, String.toList_ofList]
  simp only [List.mem_append, not_or]
  exact ⟨⟨by decide, not_mem_escapeLit (by decide) hm⟩, by decide⟩

theorem mmTokens_some (k : Kind) (n : Nat) : hasInfix "None".toList (mmTokens k (.ok (some n))) = false := by
  rw [toList_None]
  apply hasInfix_cons_false_of_not_mem
  show 'N' ∉ "Some (".toList ++ Nat.toDigits 10 n ++ "usize)".toList
  rw [String.toList_ofList, String.toList_ofList]
  simp only [List.mem_append, not_or]
  refine ⟨⟨by decide, fun h => ?_⟩, by decide⟩
  exact absurd (Nat.isDigit_of_mem_toDigits (by decide) (by decide) h) (by decide)

theorem mmTokens_none (k : Kind) : hasInfix "None".toList (mmTokens k (.ok none)) = true := by
  cases k
  · show hasInfix "None".toList "None".toList = true
    rw [toList_None]; decide
  · show hasInfix "None".toList "Option :: < usize > :: None".toList = true
    rw [toList_None, String.toList_ofList]; decide

/-! ### `is_result` on a literal -/

/-- `is_result` with every string replaced by its character list: the form on which test vectors are evaluated
    (`String.toList` on a literal is slow to check, see above) -/
theorem isResultSpelling_ofList (l : List Char) :
    isResultSpelling (String.ofList l) =
      (['R', 'e', 's', 'u', 'l', 't', '<'].isPrefixOf (l.filter (· ≠ ' ')) ||
        ['s', 't', 'd', ':', ':', 'r', 'e', 's', 'u', 'l', 't', ':', ':', 'R', 'e', 's', 'u', 'l', 't', '<'].isPrefixOf
          (l.filter (· ≠ ' '))) := by
  rw [isResultSpelling, String.toList_ofList, String.toList_ofList, String.toList_ofList]

end Cachelito.Attrs
