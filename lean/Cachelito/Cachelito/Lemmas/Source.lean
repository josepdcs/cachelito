/-
  What the translator ties (`Props/T02.lean` … `T20.lean`) are written against: the library meanings of `RustLite.lean`
  (`position`, `whilePop`, `loopFuel`, …) against the list functions of the model; the `if score < best { best = score;
  key = k }` fold of the translated scans against `firstMin`; and the memory loop of `insert_with_memory` on
  (store, queue, draws) — what the three engines' loops have in common — against the model's `memLoop`.
  Facts about the model alone that the ties need (what an eviction returns, which policy draws) are in `Lemmas/Inv.lean`.
-/
import Cachelito.RustLite
import Cachelito.Lemmas.Hist


namespace Cachelito.SourceLemmas
open Cachelito Cachelito.RustLite

variable {K V S : Type} [DecidableEq K]

/-- `simp` configuration for goals that contain a translated function: the translated code binds tuples by pattern
    (`let (evicted, self, o, rs) := e`); with structure eta `simp` turns such a binding into projections of `e` and copies
    `e` — often a `match` over the six policies — once per component.  Without it the binding waits until `e` has become a
    tuple.  Used where the translated text binds such tuples: the memory loops of `insert_with_memory` (T14–T16). -/
def noEta : Lean.Meta.Simp.Config := { etaStruct := .none }

/-! ### `position` / `eraseIdx` vs `∈` / `erase` -/

theorem position_none (k : K) : ∀ q : List K, position (fun x => decide (x = k)) q = none → k ∉ q
  | [], _ => by simp
  | x :: xs, h => by
      simp only [position] at h
      by_cases hx : x = k
      · simp [hx] at h
      · simp [hx] at h
        have := position_none k xs h
        simp [this, Ne.symm hx]

theorem position_some (k : K) : ∀ (q : List K) (i : Nat), position (fun x => decide (x = k)) q = some i →
    k ∈ q ∧ q.eraseIdx i = q.erase k ∧ q[i]? = some k
  | [], i, h => by simp [position] at h
  | x :: xs, i, h => by
      simp only [position] at h
      by_cases hx : x = k
      · simp [hx] at h
        subst h; subst hx
        simp
      · simp [hx] at h
        obtain ⟨j, hj, rfl⟩ := h
        have ih := position_some k xs j hj
        refine ⟨by simp [ih.1], ?_, by simpa using ih.2.2⟩
        simp [List.eraseIdx, ih.2.1, hx]

/-! ### enumerate -/

theorem enumerateFrom_length {α : Type} : ∀ (i : Nat) (l : List α), (enumerateFrom i l).length = l.length
  | _, [] => rfl
  | i, x :: xs => by simp [enumerateFrom, enumerateFrom_length (i + 1) xs]

theorem enumerate_length {α : Type} (l : List α) : (enumerate l).length = l.length := enumerateFrom_length 0 l

/-! ### the translated scan vs `firstMin` -/

/-- the scan of the translated code over a list of scored candidates: state = (best score, best key) -/
def scan (lt : S → S → Bool) : S × Option K → List (K × S) → S × Option K
  | st, [] => st
  | st, c :: cs => if lt c.2 st.1 then scan lt (c.2, some c.1) cs else scan lt st cs

omit [DecidableEq K] in
theorem scan_some (lt : S → S → Bool) : ∀ (cs : List (K × S)) (b : K × S),
    (scan lt (b.2, some b.1) cs).2 = some (firstMinAux lt b cs).1
  | [], b => rfl
  | c :: cs, b => by
      simp only [scan, firstMinAux]
      by_cases h : lt c.2 b.2 = true
      · simp [h, scan_some lt cs c]
      · simp [h, scan_some lt cs b]

omit [DecidableEq K] in
/-- started from `MAX`, the scan returns the FIRST minimum — provided the first candidate is below `MAX` -/
theorem scan_max (lt : S → S → Bool) (mx : S) (cs : List (K × S)) (hmx : ∀ c, c ∈ cs.head? → lt c.2 mx = true) :
    (scan lt (mx, none) cs).2 = firstMin lt cs := by
  cases cs with
  | nil => rfl
  | cons c cs =>
    simp only [scan, firstMin]
    have := hmx c rfl
    simp [this, scan_some lt cs c]

/-- the loop of the translated finders, over the (index, key) pairs of the queue, is `scan` over `candsFrom` -/
theorem fold_eq_scan (lt : S → S → Bool) (score : Entry V → Nat → Nat → S) (m : Store K V) (len : Nat) :
    ∀ (q : List K) (i : Nat) (st : S × Option K),
      List.foldl (fun (st : S × Option K) (p : Nat × K) =>
          match lookup p.2 m with
          | some e => if lt (score e p.1 len) st.1 then (score e p.1 len, some p.2) else st
          | none => st) st (enumerateFrom i q)
        = scan lt st (candsFrom score m len i q)
  | [], i, st => rfl
  | k :: q, i, st => by
      simp only [enumerateFrom, List.foldl, candsFrom]
      cases h : lookup k m with
      | none => simpa [h] using fold_eq_scan lt score m len q (i + 1) st
      | some e =>
        by_cases hl : lt (score e i len) st.1 = true
        · simp [hl, scan, fold_eq_scan lt score m len q (i + 1)]
        · simp [hl, scan, fold_eq_scan lt score m len q (i + 1)]

/-- two loop bodies that agree on every state and element give the same loop -/
theorem foldl_congr' {α β : Type} {f g : β → α → β} (h : ∀ b a, f b a = g b a) :
    ∀ (l : List α) (b : β), List.foldl f b l = List.foldl g b l
  | [], _ => rfl
  | a :: l, b => by simp [List.foldl, h, foldl_congr' h l]

theorem foldl_enumerateFrom {α β : Type} (f : β → α → β) : ∀ (i : Nat) (q : List α) (st : β),
    List.foldl (fun st (p : Nat × α) => f st p.2) st (enumerateFrom i q) = List.foldl f st q
  | _, [], _ => rfl
  | i, x :: q, st => foldl_enumerateFrom f (i + 1) q (f st x)

/-- **A translated victim scan** — `best = MAX; key = None; for (idx, k) in order.iter().enumerate() { if score < best
    { best = score; key = Some(k) } }` — returns the first minimum of the scores of the stored queue keys, provided they
    are below `MAX`. -/
theorem fold_eq_firstMin (lt : S → S → Bool) (mx : S) (score : Entry V → Nat → Nat → S) (m : Store K V) (q : List K)
    (hmx : ∀ k e i, lookup k m = some e → lt (score e i q.length) mx = true) :
    (List.foldl (fun (st : S × Option K) (p : Nat × K) =>
        match lookup p.2 m with
        | some e => if lt (score e p.1 q.length) st.1 then (score e p.1 q.length, some p.2) else st
        | none => st) (mx, none) (enumerate q)).2 = firstMin lt (cands score m q) := by
  refine (congrArg Prod.snd (fold_eq_scan lt score m q.length q 0 (mx, none))).trans (scan_max lt mx _ fun c hc => ?_)
  obtain ⟨e, j, he, hs⟩ := mem_candsFrom score m q.length q 0 c (List.mem_of_mem_head? hc)
  rw [hs]
  exact hmx c.1 e j he

/-- the same for a scan over the keys alone (a score that does not depend on the position) -/
theorem fold_keys_eq_firstMin (lt : S → S → Bool) (mx : S) (sc : Entry V → S) (m : Store K V) (q : List K)
    (hmx : ∀ k e, lookup k m = some e → lt (sc e) mx = true) :
    (List.foldl (fun (st : S × Option K) (k : K) =>
        match lookup k m with
        | some e => if lt (sc e) st.1 then (sc e, some k) else st
        | none => st) (mx, none) q).2 = firstMin lt (cands (fun e _ _ => sc e) m q) := by
  rw [← foldl_enumerateFrom _ 0 q]
  exact fold_eq_firstMin lt mx (fun e _ _ => sc e) m q (fun k e _ => hmx k e)

omit [DecidableEq K] in
/-- `firstMin` only looks at the order of the scores: an order-preserving re-scoring does not change the victim -/
theorem firstMinAux_map (lt : S → S → Bool) {T : Type} (lt' : T → T → Bool) (f : S → T)
    (hf : ∀ a b, lt' (f a) (f b) = lt a b) : ∀ (cs : List (K × S)) (b : K × S),
    (firstMinAux lt' (b.1, f b.2) (cs.map (fun c => (c.1, f c.2)))).1 = (firstMinAux lt b cs).1
  | [], b => rfl
  | c :: cs, b => by
      simp only [List.map, firstMinAux, hf]
      by_cases h : lt c.2 b.2 = true
      · simp [h, firstMinAux_map lt lt' f hf cs c]
      · simp [h, firstMinAux_map lt lt' f hf cs b]

omit [DecidableEq K] in
theorem firstMin_map (lt : S → S → Bool) {T : Type} (lt' : T → T → Bool) (f : S → T)
    (hf : ∀ a b, lt' (f a) (f b) = lt a b) (cs : List (K × S)) :
    firstMin lt' (cs.map (fun c => (c.1, f c.2))) = firstMin lt cs := by
  cases cs with
  | nil => rfl
  | cons c cs => simp [firstMin, firstMinAux_map lt lt' f hf cs c]

theorem candsFrom_map {T : Type} (f : S → T) (score : Entry V → Nat → Nat → S) (m : Store K V) (len : Nat) :
    ∀ (q : List K) (i : Nat),
      candsFrom (fun e i len => f (score e i len)) m len i q = (candsFrom score m len i q).map (fun c => (c.1, f c.2))
  | [], _ => rfl
  | k :: q, i => by
      simp only [candsFrom]
      cases lookup k m <;> simp [candsFrom_map f score m len q (i + 1)]

/-- ARC: the float products `frequency as f64 * rank as f64` pick the victim the products in `Nat` pick, when `as f64`
    and `*` are exact and order-preserving on them -/
theorem firstMin_arc {F : Type} (A : F64 F)
    (hord : ∀ a b c d, A.lt (A.mul (A.ofNat a) (A.ofNat b)) (A.mul (A.ofNat c) (A.ofNat d)) = decide (a * b < c * d))
    (rk : Nat → Nat → Nat) (m : Store K V) (q : List K) :
    firstMin A.lt (cands (fun e i len => A.mul (A.ofNat e.hits) (A.ofNat (rk i len))) m q) =
      firstMin (fun a b => decide (a < b)) (cands (fun e i len => e.hits * rk i len) m q) := by
  have h1 := candsFrom_map (K := K) (fun p : Nat × Nat => A.mul (A.ofNat p.1) (A.ofNat p.2))
    (fun (e : Entry V) i len => (e.hits, rk i len)) m q.length q 0
  have h2 := candsFrom_map (K := K) (fun p : Nat × Nat => p.1 * p.2)
    (fun (e : Entry V) i len => (e.hits, rk i len)) m q.length q 0
  unfold cands
  rw [h1, h2,
    firstMin_map (fun (a b : Nat × Nat) => decide (a.1 * a.2 < b.1 * b.2)) A.lt _ (fun a b => hord a.1 a.2 b.1 b.2),
    firstMin_map (fun (a b : Nat × Nat) => decide (a.1 * a.2 < b.1 * b.2)) (fun a b => decide (a < b)) _ (fun a b => rfl)]

/-! ### `if let Some(pos) = o.iter().position(|x| *x == k) { o.remove(pos); }` and the re-queue `…; o.push_back(k)` -/

/-- stated with the translated text's own `match`: a use site closes by `exact` (the two matchers unfold to the same
    case analysis), no rewriting under the generated matcher is needed -/
theorem remove_position_eq (k : K) (q : List K) :
    (match position (fun x => decide (x = k)) q with
      | some pos => (let (_, o) := dequeRemove q pos; o)
      | _ => q) = q.erase k := by
  cases h : position (fun x => decide (x = k)) q with
  | none => exact (List.erase_of_not_mem (position_none k q h)).symm
  | some i => exact (position_some k q i h).2.1

theorem requeue_eq (k : K) (q : List K) :
    pushBack (match position (fun x => decide (x = k)) q with
      | some pos => (let (_, o) := dequeRemove q pos; o)
      | _ => q) k = erasePush k q :=
  congrArg (pushBack · k) (remove_position_eq k q)

/-- the async store paths first drop the key's old entry and its queue slots (`is_already_key_inserted`); the model does so
    only if there is an old entry — dropping a key that is not stored changes nothing -/
theorem dropOld_eq (k : K) (m : Store K V) (q : List K) :
    (if hasKey k m = true then (eraseKey k m, q.filter (fun x => x ≠ k)) else (m, q)) =
      (eraseKey k m, if hasKey k m = true then q.filter (fun x => x ≠ k) else q) := by
  split
  · rfl
  · rw [eraseKey_of_not_mem ((hasKey_false_iff k m).1 (by simpa using ‹¬hasKey k m = true›))]

/-! ### hit counters below `u64::MAX`; `estimate_memory` summed over the map -/

theorem hits_put {m : Store K V} (h : ∀ p, p ∈ m → p.2.hits < u64Max) (k : K) (v : V) (now : Nat) :
    ∀ p, p ∈ put k ⟨v, now, 0⟩ m → p.2.hits < u64Max := by
  intro p hp
  rcases List.mem_append.1 hp with hp | hp
  · exact h p (mem_eraseKey hp)
  · rw [List.mem_singleton.1 hp]; exact (by decide : 0 < u64Max)

theorem hits_lookup {m : Store K V} (h : ∀ p, p ∈ m → p.2.hits < u64Max) (k : K) (e : Entry V)
    (hl : lookup k m = some e) : e.hits < u64Max := h (k, e) (lookup_mem hl)

omit [DecidableEq K] in
theorem sum_values_eq_totalMem (size : V → Nat) : ∀ m : Store K V,
    RustLite.sum (List.map (fun e => size (Entry.val e)) (values m)) = totalMem size m
  | [] => rfl
  | p :: m => by
      have ih := sum_values_eq_totalMem size m
      simp only [values, List.map, RustLite.sum, totalMem, List.sum_cons] at ih ⊢
      rw [ih]

/-! ### the frequency bump -/

/-- writing an entry with one more hit through the reference is `bumpHits` -/
theorem mapSet_bump (k : K) : ∀ (m : Store K V) (e : Entry V), lookup k m = some e → e.hits < u64Max →
    mapSet m k { e with hits := saturatingAddU64 e.hits 1 } = bumpHits k m
  | [], e, h, _ => by simp [lookup] at h
  | (k', e') :: m, e, h, hb => by
      simp only [lookup] at h
      by_cases hk : k' = k
      · simp [hk] at h; subst h
        simp [mapSet, bumpHits, modify, hk, saturatingAddU64, Nat.succ_le_of_lt hb]
      · simp [hk] at h
        have ih := mapSet_bump k m e h hb
        simp only [mapSet, bumpHits] at ih
        simp [mapSet, bumpHits, modify, hk, ih]

theorem bumpHits_of_lookup_none {k : K} : ∀ {m : Store K V}, lookup k m = none → bumpHits k m = m
  | [], _ => rfl
  | (k', e) :: m, h => by
      simp only [lookup] at h
      split at h
      · cases h
      · next hk => simp only [bumpHits, modify, hk, if_false]; exact congrArg _ (bumpHits_of_lookup_none h)

theorem hasKey_bumpHits (k k' : K) (m : Store K V) : hasKey k' (bumpHits k m) = hasKey k' m :=
  Bool.eq_iff_iff.2 (by rw [hasKey_iff, hasKey_iff, keys_bumpHits])

/-! ### the random slot -/

omit [DecidableEq K] in
theorem random_slot (r : Nat) {q : List K} (h : q ≠ []) : ∃ k, q[r % q.length]? = some k :=
  ⟨_, List.getElem?_eq_getElem (Nat.mod_lt r (List.length_pos_iff.2 h))⟩

/-! ### `while let Some(k) = o.pop_front() { if map.contains_key(k) { map.remove(k); break } }` -/

/-- the FIFO / LRU loop is `popStored`, whatever state carries the store: `π` reads it, `upd` writes it back (and
    records what else the loop body records on a removal) -/
theorem whilePop_eq_popStored {σ : Type} (π : σ → Store K V) (upd : σ → Store K V → σ)
    (body : K → σ → Bool × σ)
    (hb : ∀ k s, body k s = if hasKey k (π s) then (true, upd s (eraseKey k (π s))) else (false, s)) :
    ∀ (q : List K) (s : σ), whilePop q s body =
      ((popStored (π s) q).2.1, if (popStored (π s) q).2.2 then upd s (popStored (π s) q).1 else s)
  | [], s => rfl
  | k :: q, s => by
      simp only [whilePop, popStored, hb]
      split
      · rfl
      · exact whilePop_eq_popStored π upd body hb q s

/-- the same when writing back an unchanged store changes nothing -/
theorem whilePop_eq_popStored' {σ : Type} (π : σ → Store K V) (upd : σ → Store K V → σ) (hupd : ∀ s, upd s (π s) = s)
    (body : K → σ → Bool × σ)
    (hb : ∀ k s, body k s = if hasKey k (π s) then (true, upd s (eraseKey k (π s))) else (false, s))
    (q : List K) (s : σ) : whilePop q s body = ((popStored (π s) q).2.1, upd s (popStored (π s) q).1) := by
  rw [whilePop_eq_popStored π upd body hb]
  cases h : (popStored (π s) q).2.2
  · rw [popStored_of_none _ _ h, hupd]; rfl
  · rfl

/-! ### `loop { … }` with fuel -/

theorem loopFuel_congr_inv {σ : Type} {f g : σ → Bool × σ} (Inv : σ → Prop)
    (h : ∀ s, Inv s → f s = g s) (hp : ∀ s, Inv s → Inv (g s).2) :
    ∀ (n : Nat) (st : σ), Inv st → loopFuel n st f = loopFuel n st g
  | 0, _, _ => rfl
  | n + 1, st, hi => by
      simp only [loopFuel, h st hi]
      split
      · rfl
      · exact loopFuel_congr_inv Inv h hp n _ (hp st hi)

theorem loopFuel_inv {σ : Type} {g : σ → Bool × σ} (Inv : σ → Prop) (hp : ∀ s, Inv s → Inv (g s).2) :
    ∀ (n : Nat) (st : σ), Inv st → Inv (loopFuel n st g)
  | 0, _, h => h
  | n + 1, st, h => by
      simp only [loopFuel]
      split
      · exact hp st h
      · exact loopFuel_inv Inv hp n _ (hp st h)

/-- a loop seen through a projection `π` of its state: if every iteration projects to an iteration of `g`, the loop
    projects to the loop of `g` -/
theorem loopFuel_map {σ τ : Type} (π : σ → τ) {f : σ → Bool × σ} {g : τ → Bool × τ}
    (h : ∀ s, (f s).1 = (g (π s)).1 ∧ π (f s).2 = (g (π s)).2) :
    ∀ (n : Nat) (s : σ), π (loopFuel n s f) = loopFuel n (π s) g
  | 0, _ => rfl
  | n + 1, s => by
      simp only [loopFuel, (h s).1]
      split
      · exact (h s).2
      · rw [loopFuel_map π h n, (h s).2]

/-! ### the memory loop of `insert_with_memory` on (store, queue, draws) -/

/-- one iteration of the memory loop as the source runs it, on (store, queue, remaining draws): stop when the total
    (plus `extra`, the size of a value not stored yet) fits; otherwise ONE eviction by the model's `evictMem`, stop when
    nothing could be evicted.  Only the random policy on a non-empty queue takes a draw. -/
def memIter (cfg : Cfg) (tl : Tlru S) (size : V → Nat) (now maxM extra : Nat) (st : Store K V × List K × List Nat) :
    Bool × Store K V × List K × List Nat :=
  if totalMem size st.1 + extra ≤ maxM then (true, st)
  else
    let res := evictMem cfg tl now (st.2.2.headD 0) st.1 st.2.1
    (!res.2.2, res.1, res.2.1, if cfg.policy = .random ∧ st.2.1 ≠ [] then st.2.2.tail else st.2.2)

/-- **The source's memory loop is the model's `memLoop`**: same store and queue after any number of iterations, for the
    same stream of draws (for the policies that do not draw, for ANY two streams); the remaining draws agree too unless
    the queue has run empty (where no later step looks at them). -/
theorem memIter_loop_eq_memLoop (cfg : Cfg) (tl : Tlru S) (size : V → Nat) (now maxM extra : Nat) :
    ∀ (fuel : Nat) (m : Store K V) (q : List K) (rs rs' : List Nat), (cfg.policy = .random → rs = rs') →
      (loopFuel fuel (m, q, rs) (memIter cfg tl size now maxM extra)).1 = (memLoop cfg tl size now maxM extra fuel rs' m q).1 ∧
      (loopFuel fuel (m, q, rs) (memIter cfg tl size now maxM extra)).2.1 = (memLoop cfg tl size now maxM extra fuel rs' m q).2.1 ∧
      (cfg.policy = .random →
        (loopFuel fuel (m, q, rs) (memIter cfg tl size now maxM extra)).2.2 = (memLoop cfg tl size now maxM extra fuel rs' m q).2.2 ∨
        (loopFuel fuel (m, q, rs) (memIter cfg tl size now maxM extra)).2.1 = [])
  | 0, m, q, rs, rs', hr => ⟨rfl, rfl, fun h => Or.inl (hr h)⟩
  | fuel + 1, m, q, rs, rs', hr => by
      simp only [loopFuel, memLoop, memIter]
      by_cases hfit : totalMem size m + extra ≤ maxM
      · simp only [hfit, if_true]
        exact ⟨trivial, trivial, fun h => Or.inl (hr h)⟩
      · simp only [hfit, if_false]
        have hev : evictMem cfg tl now (rs.headD 0) m q = evictMem cfg tl now (rs'.headD 0) m q := by
          by_cases hp : cfg.policy = .random
          · rw [hr hp]
          · exact evictMem_indep cfg tl now _ _ m q (Or.inl hp)
        rw [hev]
        -- an eviction by the random policy that evicted nothing met an empty queue
        have hempty : cfg.policy = .random → q = [] → evictMem cfg tl now (rs'.headD 0) m q = (m, [], false) := by
          intro hp hq; subst hq; simp only [evictMem, hp, evictRandom_nil]
        cases hres : evictMem cfg tl now (rs'.headD 0) m q with
        | mk m' rest =>
          obtain ⟨q', ev⟩ := rest
          cases ev with
          | false =>
            simp only [Bool.not_false, if_true, Bool.false_eq_true, if_false]
            refine ⟨trivial, trivial, fun hp => ?_⟩
            by_cases hq : q = []
            · right
              rw [hempty hp hq] at hres
              exact (congrArg (·.2.1) hres).symm
            · left
              simp [hp, hq, hr hp]
          | true =>
            simp only [Bool.not_true, Bool.false_eq_true, if_false, if_true]
            refine memIter_loop_eq_memLoop cfg tl size now maxM extra fuel m' q' _ rs'.tail (fun hp => ?_)
            have hq : q ≠ [] := fun hq => by rw [hempty hp hq] at hres; cases hres
            simp [hp, hq, hr hp]

/-- the entry-limit step after the memory loop of an engine is the entry-limit step after the model's loop: `π` reads
    (store, queue, draws) off the state the engine's loop carries, `hf` says its iteration `f` is `memIter` through `π` -/
theorem limitStep_memIter_loop (cfg : Cfg) (tl : Tlru S) (size : V → Nat) (now maxM extra : Nat) {σ : Type}
    (π : σ → Store K V × List K × List Nat) {f : σ → Bool × σ}
    (hf : ∀ s, (f s).1 = (memIter cfg tl size now maxM extra (π s)).1 ∧ π (f s).2 = (memIter cfg tl size now maxM extra (π s)).2)
    (fuel : Nat) (s : σ) :
    limitStep cfg tl now ((π (loopFuel fuel s f)).2.2.headD 0) (π (loopFuel fuel s f)).1 (π (loopFuel fuel s f)).2.1 =
      limitStep cfg tl now ((memLoop cfg tl size now maxM extra fuel (π s).2.2 (π s).1 (π s).2.1).2.2.headD 0)
        (memLoop cfg tl size now maxM extra fuel (π s).2.2 (π s).1 (π s).2.1).1
        (memLoop cfg tl size now maxM extra fuel (π s).2.2 (π s).1 (π s).2.1).2.1 := by
  rw [loopFuel_map π hf fuel s]
  generalize π s = st
  obtain ⟨m, q, rs⟩ := st
  obtain ⟨h1, h2, h3⟩ := memIter_loop_eq_memLoop cfg tl size now maxM extra fuel m q rs rs (fun _ => rfl)
  rw [← h1, ← h2]
  by_cases hp : cfg.policy = .random
  · rcases h3 hp with h | h
    · rw [h]
    · exact limitStep_indep cfg tl now _ _ _ _ (Or.inr h)
  · exact limitStep_indep cfg tl now _ _ _ _ (Or.inl hp)

/-! ### a lookup keeps every hit counter below `u64::MAX`

  A model lookup raises no hit counter by more than one (`Hist.get_hits_le`); this is what the
  translated engines' `get` needs. -/

theorem get_hits_lt (cfg : Cfg) (s : State K V) (k : K) (hh : ∀ p, p ∈ s.store → p.2.hits + 1 < u64Max)
    (p : K × Entry V) (h : p ∈ (Cachelito.get cfg s k).1.store) : p.2.hits < u64Max := by
  obtain ⟨p0, hp0, hle⟩ := Hist.get_hits_le cfg s k p h
  have := hh p0 hp0
  omega

end Cachelito.SourceLemmas
