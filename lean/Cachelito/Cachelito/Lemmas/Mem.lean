/-
  Lemmas about the memory footprint `totalMem`, the memory loop `memLoop` (as a chain of evictions; its fuel;
  the victim sequence `iterEvict` and the loop's minimality),
  the eviction phase of `insertMem` built on it, and histories that store through `insert_with_memory` only
  (core Lean only).
-/
import Cachelito.Lemmas.Inv

namespace Cachelito
variable {K V S : Type} [DecidableEq K]

/-! ### `totalMem` under the store primitives -/

section
set_option linter.unusedSectionVars false

@[simp] theorem totalMem_nil (size : V → Nat) : totalMem size ([] : Store K V) = 0 := rfl

@[simp] theorem totalMem_cons (size : V → Nat) (p : K × Entry V) (m : Store K V) :
    totalMem size (p :: m) = size p.2.val + totalMem size m := by
  simp [totalMem]

theorem totalMem_append (size : V → Nat) (a b : Store K V) :
    totalMem size (a ++ b) = totalMem size a + totalMem size b := by
  simp [totalMem]

end

theorem totalMem_filter_le (size : V → Nat) (p : K × Entry V → Bool) (m : Store K V) :
    totalMem size (m.filter p) ≤ totalMem size m := by
  induction m with
  | nil => exact Nat.le_refl _
  | cons a m ih =>
    rw [List.filter_cons]
    split
    · rw [totalMem_cons, totalMem_cons]; exact Nat.add_le_add_left ih _
    · rw [totalMem_cons]; exact Nat.le_trans ih (Nat.le_add_left _ _)

/-- `HashMap::remove` never increases the footprint -/
theorem totalMem_eraseKey_le (size : V → Nat) (k : K) (m : Store K V) :
    totalMem size (eraseKey k m) ≤ totalMem size m :=
  totalMem_filter_le size _ m

theorem totalMem_eraseKey_of_lookup (size : V → Nat) {k : K} {m : Store K V} {e : Entry V}
    (hn : (keys m).Nodup) (h : lookup k m = some e) :
    totalMem size (eraseKey k m) + size e.val = totalMem size m := by
  induction m with
  | nil => cases h
  | cons a m ih =>
    obtain ⟨x, e'⟩ := a
    have hn := List.nodup_cons.mp hn
    rw [eraseKey_cons]
    rw [lookup_cons] at h
    by_cases hx : x = k
    · rw [if_pos hx] at h
      cases h
      rw [if_pos hx, eraseKey_of_not_mem (hx ▸ hn.1), totalMem_cons]
      exact Nat.add_comm _ _
    · rw [if_neg hx] at h
      rw [if_neg hx, totalMem_cons, totalMem_cons, Nat.add_assoc, ih hn.2 h]

theorem totalMem_eraseKey_of_not_mem (size : V → Nat) {k : K} {m : Store K V} (hk : k ∉ keys m) :
    totalMem size (eraseKey k m) = totalMem size m := by
  rw [eraseKey_of_not_mem hk]

/-- `HashMap::insert`: the footprint of the others plus the new value -/
theorem totalMem_put (size : V → Nat) (k : K) (e : Entry V) (m : Store K V) :
    totalMem size (put k e m) = totalMem size (eraseKey k m) + size e.val := by
  simp [put, totalMem_append]

theorem totalMem_modify (size : V → Nat) (k : K) (f : Entry V → Entry V) (hf : ∀ e, (f e).val = e.val)
    (m : Store K V) : totalMem size (modify k f m) = totalMem size m := by
  induction m with
  | nil => rfl
  | cons a m ih =>
    obtain ⟨x, e⟩ := a
    rw [modify_cons]
    by_cases hx : x = k
    · rw [if_pos hx]; simp only [totalMem_cons, hf]
    · rw [if_neg hx]; simp only [totalMem_cons, ih]

theorem totalMem_bumpHits (size : V → Nat) (k : K) (m : Store K V) :
    totalMem size (bumpHits k m) = totalMem size m :=
  totalMem_modify size k (fun e => { e with hits := e.hits + 1 }) (fun _ => rfl) m

/-! ### `totalMem` under the operations that are not stores -/

theorem totalMem_hitUpdate (size : V → Nat) (cfg : Cfg) (k : K) (m : Store K V) (q : List K) :
    totalMem size (hitUpdate cfg k m q).1 = totalMem size m := by
  rw [hitUpdate_store]
  split
  · exact totalMem_bumpHits size k m
  · rfl

theorem totalMem_removeBoth_le (size : V → Nat) (cfg : Cfg) (k : K) (m : Store K V) (q : List K) :
    totalMem size (removeBoth cfg k m q).1 ≤ totalMem size m := by
  unfold removeBoth
  cases cfg.flavour <;> exact totalMem_eraseKey_le size k m

theorem totalMem_get_le (size : V → Nat) (cfg : Cfg) (s : State K V) (k : K) :
    totalMem size (get cfg s k).1.store ≤ totalMem size s.store := by
  unfold get
  cases lookup k s.store with
  | none => exact Nat.le_refl _
  | some e =>
    simp only
    split
    · exact totalMem_removeBoth_le size cfg k _ _
    · rw [totalMem_hitUpdate]; exact Nat.le_refl _

section
set_option linter.unusedSectionVars false

theorem totalMem_clear (size : V → Nat) (s : State K V) : totalMem size (clear s).store = 0 := rfl

end

theorem totalMem_invalidateWith_le (size : V → Nat) (p : K → Bool) (s : State K V) :
    totalMem size (invalidateWith p s).store ≤ totalMem size s.store := by
  unfold invalidateWith; exact totalMem_filter_le size _ _

/-! ### What an eviction (`Shrunk`) does to the footprint -/

theorem InvMQ.totalMem_nil {m : Store K V} (h : InvMQ m []) (size : V → Nat) : totalMem size m = 0 := by
  rw [h.store_nil]; rfl

theorem Shrunk.totalMem_le {m : Store K V} {q : List K} {r : Store K V × List K} (hs : Shrunk m q r)
    (size : V → Nat) : totalMem size r.1 ≤ totalMem size m := by
  obtain ⟨p, h1, _⟩ := hs
  rw [h1]; exact totalMem_filter_le size _ m

/-! ### The memory loop: its two equations and its induction principles

Facts about the loop's result that need no invariant on the way go through `memLoop_induction`
(`Lemmas/Inv.lean`); facts that relate the result to the start under `InvMQ` through `memLoop_rel`; the
number of iterations and the draws through `memLoop_char`.  `memLoop_congr` and `memLoop_fuel_irrelevant`
compare two runs of the loop and are inductions of their own. -/

theorem memLoop_of_fits {cfg : Cfg} {tl : Tlru S} {size : V → Nat} {now maxM extra fuel : Nat} {rs : List Nat}
    {m : Store K V} {q : List K} (hfit : totalMem size m + extra ≤ maxM) :
    memLoop cfg tl size now maxM extra fuel rs m q = (m, q, rs) := by
  cases fuel with
  | zero => rfl
  | succ fuel => rw [memLoop, if_pos hfit]

theorem memLoop_succ {cfg : Cfg} {tl : Tlru S} {size : V → Nat} {now maxM extra fuel : Nat} {rs : List Nat}
    {m : Store K V} {q : List K} (hfit : ¬ totalMem size m + extra ≤ maxM) :
    memLoop cfg tl size now maxM extra (fuel + 1) rs m q =
      if (evictMem cfg tl now (rs.headD 0) m q).2.2 = true then
        memLoop cfg tl size now maxM extra fuel rs.tail (evictMem cfg tl now (rs.headD 0) m q).1
          (evictMem cfg tl now (rs.headD 0) m q).2.1
      else ((evictMem cfg tl now (rs.headD 0) m q).1, (evictMem cfg tl now (rs.headD 0) m q).2.1, rs.tail) := by
  rw [memLoop, if_neg hfit]

/-- **The memory loop as a chain of evictions.**  Under the invariant, a relation `R` between the
    store/queue the loop starts from and the one it returns holds as soon as it is reflexive and
    stable under putting in front one successful `evictMem` iteration taken while the bound is exceeded. -/
theorem memLoop_rel {cfg : Cfg} {tl : Tlru S} {size : V → Nat} {now maxM extra : Nat}
    {R : Store K V → List K → Store K V → List K → Prop} (refl : ∀ m q, R m q m q)
    (step : ∀ {m q m' q'} (r : Nat), InvMQ m q → ¬ totalMem size m + extra ≤ maxM →
      (evictMem cfg tl now r m q).2.2 = true →
      R (evictMem cfg tl now r m q).1 (evictMem cfg tl now r m q).2.1 m' q' → R m q m' q')
    (fuel : Nat) (rs : List Nat) {m : Store K V} {q : List K} (h : InvMQ m q) :
    R m q (memLoop cfg tl size now maxM extra fuel rs m q).1
      (memLoop cfg tl size now maxM extra fuel rs m q).2.1 := by
  induction fuel generalizing rs m q with
  | zero => exact refl m q
  | succ fuel ih =>
    by_cases hfit : totalMem size m + extra ≤ maxM
    · rw [memLoop_of_fits hfit]; exact refl m q
    · have hs := evictMem_spec h cfg tl now (rs.headD 0)
      rw [memLoop_succ hfit]
      split
      · rename_i hev
        exact step _ h hfit hev (ih rs.tail (hs.inv h))
      · rcases hs with ⟨hb, _⟩ | ⟨_, _, h1, h2⟩
        · contradiction
        · rw [h1, h2]; exact refl m q

theorem memLoop_totalMem_le (cfg : Cfg) (tl : Tlru S) (size : V → Nat) (now maxM extra : Nat)
    (fuel : Nat) (rs : List Nat) {m : Store K V} {q : List K} (h : InvMQ m q) :
    totalMem size (memLoop cfg tl size now maxM extra fuel rs m q).1 ≤ totalMem size m :=
  (memLoop_shrunk cfg tl size now maxM extra fuel rs h).totalMem_le size

theorem memLoop_congr {S' : Type} {cfg cfg' : Cfg} {tl : Tlru S} {tl' : Tlru S'} {now : Nat}
    (hev : ∀ r (m : Store K V) q, evictMem cfg tl now r m q = evictMem cfg' tl' now r m q)
    (size : V → Nat) (maxM extra fuel : Nat) (rs : List Nat) (m : Store K V) (q : List K) :
    memLoop cfg tl size now maxM extra fuel rs m q = memLoop cfg' tl' size now maxM extra fuel rs m q := by
  induction fuel generalizing rs m q with
  | zero => rfl
  | succ fuel ih =>
    by_cases hfit : totalMem size m + extra ≤ maxM
    · rw [memLoop_of_fits hfit, memLoop_of_fits hfit]
    · rw [memLoop_succ hfit, memLoop_succ hfit, hev, ih]

/-! ### The victim sequence: `n`-fold `evictMem` -/

/-- `n` memory-loop iterations performed unconditionally (each consumes one random draw).  The states
    `iterEvict 0, iterEvict 1, …` are the policy's victim sequence from `(m, q)`: entry `i+1` is
    entry `i` with the victim chosen by `evictMem` removed. -/
def iterEvict (cfg : Cfg) (tl : Tlru S) (now : Nat) :
    Nat → List Nat → Store K V → List K → Store K V × List K × List Nat
  | 0, rs, m, q => (m, q, rs)
  | n + 1, rs, m, q =>
    iterEvict cfg tl now n rs.tail (evictMem cfg tl now (rs.headD 0) m q).1
      (evictMem cfg tl now (rs.headD 0) m q).2.1

theorem iterEvict_zero (cfg : Cfg) (tl : Tlru S) (now : Nat) (rs : List Nat) (m : Store K V) (q : List K) :
    iterEvict cfg tl now 0 rs m q = (m, q, rs) := rfl

theorem iterEvict_succ (cfg : Cfg) (tl : Tlru S) (now n : Nat) (rs : List Nat) (m : Store K V) (q : List K) :
    iterEvict cfg tl now (n + 1) rs m q =
      iterEvict cfg tl now n rs.tail (evictMem cfg tl now (rs.headD 0) m q).1
        (evictMem cfg tl now (rs.headD 0) m q).2.1 := rfl

theorem iterEvict_succ_last (cfg : Cfg) (tl : Tlru S) (now n : Nat) (rs : List Nat) (m : Store K V) (q : List K) :
    iterEvict cfg tl now (n + 1) rs m q =
      iterEvict cfg tl now 1 (iterEvict cfg tl now n rs m q).2.2 (iterEvict cfg tl now n rs m q).1
        (iterEvict cfg tl now n rs m q).2.1 := by
  induction n generalizing rs m q with
  | zero => rfl
  | succ n ih => rw [iterEvict_succ, ih]; rfl

theorem iterEvict_inv (cfg : Cfg) (tl : Tlru S) (now n : Nat) (rs : List Nat) {m : Store K V} {q : List K}
    (h : InvMQ m q) : InvMQ (iterEvict cfg tl now n rs m q).1 (iterEvict cfg tl now n rs m q).2.1 := by
  induction n generalizing rs m q with
  | zero => exact h
  | succ n ih => rw [iterEvict_succ]; exact ih _ ((evictMem_spec h cfg tl now _).inv h)

theorem iterEvict_draws (cfg : Cfg) (tl : Tlru S) (now n : Nat) (rs : List Nat) (m : Store K V) (q : List K) :
    (iterEvict cfg tl now n rs m q).2.2 = rs.drop n := by
  induction n generalizing rs m q with
  | zero => rfl
  | succ n ih => rw [iterEvict_succ, ih]; simp

theorem iterEvict_evicted (cfg : Cfg) (tl : Tlru S) (now n : Nat) (rs : List Nat) {m : Store K V} {q : List K}
    (h : InvMQ m q) :
    ∃ ev, Evicted (iterEvict cfg tl now n rs m q).1 (iterEvict cfg tl now n rs m q).2.1
      ((iterEvict cfg tl now (n + 1) rs m q).1, (iterEvict cfg tl now (n + 1) rs m q).2.1, ev) := by
  have hi := iterEvict_inv cfg tl now n rs h
  have hs := evictMem_spec hi cfg tl now ((iterEvict cfg tl now n rs m q).2.2.headD 0)
  rw [iterEvict_succ_last]
  exact ⟨_, hs⟩

theorem iterEvict_totalMem_le (cfg : Cfg) (tl : Tlru S) (now n : Nat) (rs : List Nat) {m : Store K V} {q : List K}
    (h : InvMQ m q) (size : V → Nat) :
    totalMem size (iterEvict cfg tl now (n + 1) rs m q).1 ≤ totalMem size (iterEvict cfg tl now n rs m q).1 := by
  obtain ⟨ev, he⟩ := iterEvict_evicted cfg tl now n rs h
  exact he.shrunk.totalMem_le size

theorem iterEvict_queue_length (cfg : Cfg) (tl : Tlru S) (now : Nat) (rs : List Nat) {m : Store K V} {q : List K}
    (h : InvMQ m q) (n : Nat) (hne : ∀ i, i < n → (iterEvict cfg tl now i rs m q).2.1 ≠ []) :
    (iterEvict cfg tl now n rs m q).2.1.length + n = q.length := by
  induction n with
  | zero => rfl
  | succ n ih =>
    have hprev := ih (fun i hi => hne i (Nat.lt_succ_of_lt hi))
    have hinv := iterEvict_inv cfg tl now n rs h
    have hs := evictMem_spec hinv cfg tl now ((iterEvict cfg tl now n rs m q).2.2.headD 0)
    have := hs.queue_length hinv (hs.length_of_nonempty hinv (hne n (Nat.lt_succ_self n))).2
    rw [iterEvict_succ_last, ← hprev, ← this]
    exact (Nat.succ_add_eq_add_succ _ _).symm

/-! ### Characterisation of the memory loop -/

/-- **General loop characterisation** (any `extra`).  Under the invariant and with at least
    `q.length + 1` units of fuel, the memory loop performs exactly `j` iterations of `evictMem`, where
    the total did not fit before any of them, and afterwards either the total fits or the queue is
    empty: the loop never stops because the fuel ran out. -/
theorem memLoop_char (cfg : Cfg) (tl : Tlru S) (size : V → Nat) (now maxM extra : Nat)
    (fuel : Nat) (rs : List Nat) {m : Store K V} {q : List K} (h : InvMQ m q) (hfuel : q.length + 1 ≤ fuel) :
    ∃ j, j ≤ q.length + 1 ∧
      memLoop cfg tl size now maxM extra fuel rs m q = iterEvict cfg tl now j rs m q ∧
      (∀ i, i < j → maxM < totalMem size (iterEvict cfg tl now i rs m q).1 + extra) ∧
      (totalMem size (iterEvict cfg tl now j rs m q).1 + extra ≤ maxM ∨
        (iterEvict cfg tl now j rs m q).2.1 = []) := by
  induction fuel generalizing rs m q with
  | zero => exact absurd hfuel (Nat.not_succ_le_zero _)
  | succ fuel ih =>
    by_cases hfit : totalMem size m + extra ≤ maxM
    · exact ⟨0, Nat.zero_le _, memLoop_of_fits hfit, fun i hi => absurd hi (Nat.not_lt_zero i),
        Or.inl hfit⟩
    · have hs := evictMem_spec h cfg tl now (rs.headD 0)
      -- the total does not fit before iteration `0`, nor (by `hb`) before the later ones
      have hbefore0 : ∀ {j}, (∀ i, i < j → maxM < totalMem size
            (iterEvict cfg tl now (i + 1) rs m q).1 + extra) → ∀ i, i < j + 1 →
            maxM < totalMem size (iterEvict cfg tl now i rs m q).1 + extra := by
        intro j hb i hi
        cases i with
        | zero => exact Nat.lt_of_not_le hfit
        | succ i => exact hb i (Nat.lt_of_succ_lt_succ hi)
      rw [memLoop_succ hfit]
      split
      · rename_i hev
        have hlen := hs.queue_length h hev
        obtain ⟨j, hj, heq, hbefore, hafter⟩ := ih rs.tail (hs.inv h) (hlen ▸ Nat.le_of_succ_le_succ hfuel)
        exact ⟨j + 1, Nat.succ_le_succ (hlen ▸ hj), heq, hbefore0 hbefore, hafter⟩
      · rcases hs with ⟨hb, _⟩ | ⟨_, h0, _, h2⟩
        · contradiction
        · exact ⟨1, Nat.succ_le_succ (Nat.zero_le _), rfl, hbefore0 (j := 0) (fun i hi => absurd hi (Nat.not_lt_zero i)),
            Or.inr (h2.trans h0)⟩

/-- fuel `q.length + 1` (what `insertMem` passes) never runs out: on exit the total fits or the queue is empty -/
theorem memLoop_fuel (cfg : Cfg) (tl : Tlru S) (size : V → Nat) (now maxM extra : Nat)
    (rs : List Nat) {m : Store K V} {q : List K} (h : InvMQ m q) :
    totalMem size (memLoop cfg tl size now maxM extra (q.length + 1) rs m q).1 + extra ≤ maxM ∨
      (memLoop cfg tl size now maxM extra (q.length + 1) rs m q).2.1 = [] := by
  obtain ⟨j, _, heq, _, hafter⟩ := memLoop_char cfg tl size now maxM extra _ rs h (Nat.le_refl _)
  rw [heq]; exact hafter

/-- if `extra` fits on its own the loop exits with the total fitting (an empty queue means an empty store) -/
theorem memLoop_fits (cfg : Cfg) (tl : Tlru S) (size : V → Nat) (now maxM extra : Nat)
    (rs : List Nat) {m : Store K V} {q : List K} (h : InvMQ m q) (hx : extra ≤ maxM) :
    totalMem size (memLoop cfg tl size now maxM extra (q.length + 1) rs m q).1 + extra ≤ maxM := by
  rcases memLoop_fuel cfg tl size now maxM extra rs h with hf | h0
  · exact hf
  · -- with an empty queue the store is empty
    have hinv := memLoop_inv cfg tl size now maxM extra (q.length + 1) rs h
    rw [h0] at hinv
    rw [hinv.totalMem_nil size, Nat.zero_add]; exact hx

/-- the result of the memory loop does not depend on the fuel once it is at least `q.length + 1`
    (so the fuel parameter is only a device to make the recursion structural) -/
theorem memLoop_fuel_irrelevant (cfg : Cfg) (tl : Tlru S) (size : V → Nat) (now maxM extra : Nat)
    (fuel : Nat) (rs : List Nat) {m : Store K V} {q : List K} (h : InvMQ m q) (hfuel : q.length + 1 ≤ fuel) :
    memLoop cfg tl size now maxM extra fuel rs m q =
      memLoop cfg tl size now maxM extra (q.length + 1) rs m q := by
  induction fuel generalizing rs m q with
  | zero => exact absurd hfuel (Nat.not_succ_le_zero _)
  | succ fuel ih =>
    by_cases hfit : totalMem size m + extra ≤ maxM
    · rw [memLoop_of_fits hfit, memLoop_of_fits hfit]
    · have hs := evictMem_spec h cfg tl now (rs.headD 0)
      rw [memLoop_succ (fuel := fuel) hfit, memLoop_succ (fuel := q.length) hfit]
      split
      · rename_i hev
        have hlen := hs.queue_length h hev
        rw [ih rs.tail (hs.inv h) (hlen ▸ Nat.le_of_succ_le_succ hfuel), hlen]
      · rfl

/-! ### The eviction phase of `insertMem` -/

theorem evictPhase_fits {cfg : Cfg} {maxM : Nat} (hm : cfg.maxMem = some maxM) (tl : Tlru S) (size : V → Nat)
    (now : Nat) {extra : Nat} (rs : List Nat) {m : Store K V} {q : List K} (h : InvMQ m q) (hx : extra ≤ maxM) :
    totalMem size (evictPhase cfg tl size now extra rs m q).1 + extra ≤ maxM := by
  rw [evictPhase_some hm]
  exact Nat.le_trans
    (Nat.add_le_add_right ((limitStep_shrunk (memLoop_inv cfg tl size now maxM extra _ rs h) cfg tl now _).totalMem_le size) _)
    (memLoop_fits cfg tl size now maxM extra rs h hx)

/-! ### The memory loops of `insertMem` -/

/-- the memory loop as run by the sync engines (`global`, `threadLocal`) inside `insertMem`: the
    value is already stored (`extra = 0`) -/
def syncLoop (cfg : Cfg) (tl : Tlru S) (size : V → Nat) (M : Nat) (rs : List Nat) (s : State K V) (k : K) (v : V) :
    Store K V × List K × List Nat :=
  memLoop cfg tl size s.now M 0 ((erasePush k s.queue).length + 1) rs
    (put k ⟨v, stamp cfg s.now, 0⟩ s.store) (erasePush k s.queue)

/-- the memory loop as run by the async engine inside `insertMem` (in a consistent state): any previous
    entry of `k` has been dropped, the value is not yet stored (`extra = size v`) -/
def asyncLoop (cfg : Cfg) (tl : Tlru S) (size : V → Nat) (M : Nat) (rs : List Nat) (s : State K V) (k : K) (v : V) :
    Store K V × List K × List Nat :=
  memLoop cfg tl size s.now M (size v) ((s.queue.filter (fun x => x ≠ k)).length + 1) rs
    (eraseKey k s.store) (s.queue.filter (fun x => x ≠ k))

/-! ### Histories whose stores all go through `insert_with_memory` -/

/-- every operation except the plain `insert` (which ignores `max_memory`; the generated code never
    calls it on a cache configured with `max_memory`) -/
def Op.viaMem : Op K V → Bool
  | .insert _ _ => false
  | _ => true

def AllViaMem (ops : List (Op K V × List Nat)) : Prop := ∀ p, p ∈ ops → p.1.viaMem = true

instance (ops : List (Op K V × List Nat)) : Decidable (AllViaMem ops) := by
  unfold AllViaMem; infer_instance

section
omit [DecidableEq K]

theorem AllViaMem.tail {a : Op K V × List Nat} {ops : List (Op K V × List Nat)} (h : AllViaMem (a :: ops)) :
    AllViaMem ops := fun p hp => h p (List.mem_cons_of_mem _ hp)

theorem AllViaMem.head {a : Op K V × List Nat} {ops : List (Op K V × List Nat)} (h : AllViaMem (a :: ops)) :
    a.1.viaMem = true := h a List.mem_cons_self

theorem AllViaMem.take {ops : List (Op K V × List Nat)} (h : AllViaMem ops) (i : Nat) :
    AllViaMem (ops.take i) := fun p hp => h p (List.mem_of_mem_take hp)

end

/-! ### The footprint of a sub-list of a store -/

set_option linter.unusedSectionVars false in
theorem totalMem_sublist_le (size : V → Nat) {m m' : Store K V} (h : m'.Sublist m) :
    totalMem size m' ≤ totalMem size m := by
  induction h with
  | slnil => exact Nat.le_refl _
  | cons a _ ih => simp only [totalMem, List.map_cons, List.sum_cons] at ih ⊢; omega
  | cons_cons a _ ih => simp only [totalMem, List.map_cons, List.sum_cons] at ih ⊢; omega

/-! ### Store and footprint after a conditional invalidation (C13) -/

theorem invalidateWith_store (p : K → Bool) (s : State K V) :
    (invalidateWith p s).store = s.store.filter (fun e => !p e.1) := rfl

set_option linter.unusedSectionVars false in
theorem totalMem_filter_add (size : V → Nat) (q : K × Entry V → Bool) (m : Store K V) :
    totalMem size (m.filter q) + totalMem size (m.filter (fun e => !q e)) = totalMem size m := by
  induction m with
  | nil => rfl
  | cons a m ih =>
    unfold totalMem at ih ⊢
    by_cases ha : q a = true
    · simp only [List.filter_cons, ha, if_true, Bool.not_true, Bool.false_eq_true, if_false, List.map_cons,
        List.sum_cons]
      omega
    · simp only [Bool.not_eq_true] at ha
      simp only [List.filter_cons, ha, Bool.not_false, if_true, List.map_cons, List.sum_cons, Bool.false_eq_true,
        if_false]
      omega

end Cachelito
