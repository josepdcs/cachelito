/-
  Lemmas about the memory-estimator model (`Cachelito/MemEst.lean`).
  The recursive facts are proved by mutual structural recursion over `Shape` / `List Shape`.  The
  model's functions are structurally recursive, so every defining equation holds by `rfl`: a case is
  either the induction hypothesis up to unfolding, or begins with `show` of the equation it is about.
-/
import Cachelito.MemEst

namespace Cachelito.MemEst

/-! ### `inline` on each constructor -/

theorem inline_prim (L : Layout) {i : _} : inline L (.prim i) = i := rfl
theorem inline_user (L : Layout) {i e : _} : inline L (.user i e) = i := rfl
theorem inline_str (L : Layout) {c : _} : inline L (.str c) = L.str := rfl
theorem inline_strRef (L : Layout) {n : _} : inline L (.strRef n) = L.fatRef := rfl
theorem inline_sliceRef (L : Layout) {xs : _} : inline L (.sliceRef xs) = L.fatRef := rfl
theorem inline_vec (L : Layout) {ei c xs : _} : inline L (.vec ei c xs) = L.vec := rfl
theorem inline_opt (L : Layout) {i o : _} : inline L (.opt i o) = i := rfl
theorem inline_res (L : Layout) {i k v : _} : inline L (.res i k v) = i := rfl
theorem inline_tup2 (L : Layout) {i a b : _} : inline L (.tup2 i a b) = i := rfl
theorem inline_tup3 (L : Layout) {i a b c : _} : inline L (.tup3 i a b c) = i := rfl
theorem inline_box (L : Layout) {v : _} : inline L (.box v) = L.ptr := rfl
theorem inline_arc (L : Layout) {v : _} : inline L (.arc v) = L.ptr := rfl
theorem inline_rc (L : Layout) {v : _} : inline L (.rc v) = L.ptr := rfl
theorem inline_entry (L : Layout) {i v : _} : inline L (.entry i v) = i := rfl

/-! ### The exact equation satisfied by the code -/

theorem sub_inline {e i o b : Nat} (h : e = i + o + b) : e - i = o + b := by
  rw [h, Nat.add_assoc, Nat.add_sub_cancel_left]

mutual
/-- What the estimator computes, for every well-formed value: inline size + owned heap + the bytes of
    borrowed data it (over-)counts. -/
theorem estimate_eq (L : Layout) : ∀ v : Shape, WF v →
    estimate L v = inline L v + ownedHeap L v + borrowed L v
  | .prim _, _ | .str _, _ | .strRef _, _ | .opt _ none, _ => rfl
  | .user _ _, h => (Nat.add_sub_of_le (of_decide_eq_true h)).symm
  | .sliceRef xs, h => congrArg (L.fatRef + ·) (estimateSum_eq L xs h)
  | .vec ei c xs, h => by
      show L.vec + c * ei + extrasSum L xs = L.vec + (c * ei + ownedSum L xs) + borrowedSum L xs
      rw [extrasSum_eq L xs h]; simp only [Nat.add_assoc]
  | .opt i (some v), h | .res i _ v, h | .entry i v, h =>
      (congrArg (i + ·) (sub_inline (estimate_eq L v h))).trans (Nat.add_assoc _ _ _).symm
  | .tup2 i a b, h => by
      have h' := Bool.and_eq_true_iff.mp h
      show i + (estimate L a - inline L a) + (estimate L b - inline L b) =
        i + (ownedHeap L a + ownedHeap L b) + (borrowed L a + borrowed L b)
      rw [sub_inline (estimate_eq L a h'.1), sub_inline (estimate_eq L b h'.2), Nat.add_assoc,
        Nat.add_add_add_comm, ← Nat.add_assoc]
  | .tup3 i a b c, h => by
      have h' := Bool.and_eq_true_iff.mp h
      have h'' := Bool.and_eq_true_iff.mp h'.1
      show i + (estimate L a - inline L a) + (estimate L b - inline L b) + (estimate L c - inline L c) =
        i + (ownedHeap L a + ownedHeap L b + ownedHeap L c) + (borrowed L a + borrowed L b + borrowed L c)
      rw [sub_inline (estimate_eq L a h''.1), sub_inline (estimate_eq L b h''.2),
        sub_inline (estimate_eq L c h'.2)]; ac_rfl
  | .box v, h | .arc v, h | .rc v, h =>
      (congrArg (L.ptr + ·) (estimate_eq L v h)).trans (Nat.add_assoc _ _ _).symm
theorem estimateSum_eq (L : Layout) : ∀ xs : List Shape, wfList xs = true →
    estimateSum L xs = footSum L xs
  | [], _ => rfl
  | x :: xs, h => by
      have h' := Bool.and_eq_true_iff.mp h
      show estimate L x + estimateSum L xs = inline L x + ownedHeap L x + borrowed L x + footSum L xs
      rw [estimate_eq L x h'.1, estimateSum_eq L xs h'.2]
theorem extrasSum_eq (L : Layout) : ∀ xs : List Shape, wfList xs = true →
    extrasSum L xs = ownedSum L xs + borrowedSum L xs
  | [], _ => rfl
  | x :: xs, h => by
      have h' := Bool.and_eq_true_iff.mp h
      show estimate L x - inline L x + extrasSum L xs =
        ownedHeap L x + ownedSum L xs + (borrowed L x + borrowedSum L xs)
      rw [sub_inline (estimate_eq L x h'.1), extrasSum_eq L xs h'.2, Nat.add_add_add_comm]
end

/-! ### Values that own everything they reach borrow nothing -/

mutual
/-- a value without `&str` / `&[T]` inside has no borrowed bytes counted -/
theorem borrowed_eq_zero (L : Layout) : ∀ v : Shape, allOwned v = true → borrowed L v = 0
  | .prim _, _ | .user _ _, _ | .str _, _ | .opt _ none, _ => rfl
  | .vec _ _ xs, h => borrowedSum_eq_zero L xs h
  | .opt _ (some v), h | .res _ _ v, h | .box v, h | .arc v, h | .rc v, h | .entry _ v, h =>
      borrowed_eq_zero L v h
  | .tup2 _ a b, h =>
      have h' := Bool.and_eq_true_iff.mp h
      Nat.add_eq_zero_iff.mpr ⟨borrowed_eq_zero L a h'.1, borrowed_eq_zero L b h'.2⟩
  | .tup3 _ a b c, h =>
      have h' := Bool.and_eq_true_iff.mp h
      have h'' := Bool.and_eq_true_iff.mp h'.1
      Nat.add_eq_zero_iff.mpr ⟨Nat.add_eq_zero_iff.mpr
        ⟨borrowed_eq_zero L a h''.1, borrowed_eq_zero L b h''.2⟩, borrowed_eq_zero L c h'.2⟩
theorem borrowedSum_eq_zero (L : Layout) : ∀ xs : List Shape, allOwnedList xs = true →
    borrowedSum L xs = 0
  | [], _ => rfl
  | x :: xs, h =>
      have h' := Bool.and_eq_true_iff.mp h
      Nat.add_eq_zero_iff.mpr ⟨borrowed_eq_zero L x h'.1, borrowedSum_eq_zero L xs h'.2⟩
end

/-! ### Built-in values are well-formed -/

mutual
/-- a value without user estimators inside is well-formed -/
theorem wf_of_builtin : ∀ v : Shape, builtin v = true → wf v = true
  | .prim _, _ | .str _, _ | .strRef _, _ | .opt _ none, _ => rfl
  | .sliceRef xs, h | .vec _ _ xs, h => wfList_of_builtin xs h
  | .opt _ (some v), h | .res _ _ v, h | .box v, h | .arc v, h | .rc v, h | .entry _ v, h =>
      wf_of_builtin v h
  | .tup2 _ a b, h =>
      have h' := Bool.and_eq_true_iff.mp h
      Bool.and_eq_true_iff.mpr ⟨wf_of_builtin a h'.1, wf_of_builtin b h'.2⟩
  | .tup3 _ a b c, h =>
      have h' := Bool.and_eq_true_iff.mp h
      have h'' := Bool.and_eq_true_iff.mp h'.1
      Bool.and_eq_true_iff.mpr ⟨Bool.and_eq_true_iff.mpr
        ⟨wf_of_builtin a h''.1, wf_of_builtin b h''.2⟩, wf_of_builtin c h'.2⟩
theorem wfList_of_builtin : ∀ xs : List Shape, builtinList xs = true → wfList xs = true
  | [], _ => rfl
  | x :: xs, h =>
      have h' := Bool.and_eq_true_iff.mp h
      Bool.and_eq_true_iff.mpr ⟨wf_of_builtin x h'.1, wfList_of_builtin xs h'.2⟩
end

/-! ### No unchecked subtraction underflows -/

theorem csub_of_le {a b : Nat} (h : b ≤ a) : csub a b = some (a - b) := if_pos h

/-- a checked subtraction of a larger number fails (Rust: panic) -/
theorem csub_eq_none {a b : Nat} (h : a < b) : csub a b = none := if_neg (Nat.not_le_of_gt h)

theorem inline_le_estimate (L : Layout) (v : Shape) (h : WF v) : inline L v ≤ estimate L v :=
  Nat.le.intro ((estimate_eq L v h).trans (Nat.add_assoc _ _ _)).symm

theorem bind_some {α β : Type} {o : Option α} {e : α} (f : α → Option β) (ho : o = some e) :
    (do let e ← o; f e) = f e := by subst ho; rfl

theorem bind_csub {α : Type} {o : Option Nat} {e i : Nat} (f : Nat → Option α) (ho : o = some e)
    (hi : i ≤ e) : (do let e ← o; let d ← csub e i; f d) = f (e - i) := by
  subst ho; exact congrArg (Option.bind · f) (csub_of_le hi)

theorem bind_csub_none {α : Type} {o : Option Nat} {e i : Nat} (f : Nat → Option α) (ho : o = some e)
    (hi : e < i) : (do let e ← o; let d ← csub e i; f d) = none := by
  subst ho; exact congrArg (Option.bind · f) (csub_eq_none hi)

mutual
/-- The checked estimator agrees with the truncating one on well-formed values. -/
theorem estimateChecked_eq (L : Layout) : ∀ v : Shape, WF v →
    estimateChecked L v = some (estimate L v)
  | .prim _, _ | .user _ _, _ | .str _, _ | .strRef _, _ | .opt _ none, _ => rfl
  | .sliceRef xs, h => bind_some _ (estimateSumChecked_eq L xs h)
  | .vec _ _ xs, h => bind_some _ (extrasSumChecked_eq L xs h)
  | .opt _ (some v), h | .res _ _ v, h =>
      bind_csub _ (estimateChecked_eq L v h) (inline_le_estimate L v h)
  | .tup2 _ a b, h =>
      have h' := Bool.and_eq_true_iff.mp h
      (bind_csub _ (estimateChecked_eq L a h'.1) (inline_le_estimate L a h'.1)).trans
        (bind_csub _ (estimateChecked_eq L b h'.2) (inline_le_estimate L b h'.2))
  | .tup3 _ a b c, h =>
      have h' := Bool.and_eq_true_iff.mp h
      have h'' := Bool.and_eq_true_iff.mp h'.1
      ((bind_csub _ (estimateChecked_eq L a h''.1) (inline_le_estimate L a h''.1)).trans
        (bind_csub _ (estimateChecked_eq L b h''.2) (inline_le_estimate L b h''.2))).trans
        (bind_csub _ (estimateChecked_eq L c h'.2) (inline_le_estimate L c h'.2))
  | .box v, h | .arc v, h | .rc v, h | .entry _ v, h => bind_some _ (estimateChecked_eq L v h)
theorem estimateSumChecked_eq (L : Layout) : ∀ xs : List Shape, wfList xs = true →
    estimateSumChecked L xs = some (estimateSum L xs)
  | [], _ => rfl
  | x :: xs, h =>
      have h' := Bool.and_eq_true_iff.mp h
      (bind_some _ (estimateChecked_eq L x h'.1)).trans (bind_some _ (estimateSumChecked_eq L xs h'.2))
theorem extrasSumChecked_eq (L : Layout) : ∀ xs : List Shape, wfList xs = true →
    extrasSumChecked L xs = some (extrasSum L xs)
  | [], _ => rfl
  | x :: xs, h =>
      have h' := Bool.and_eq_true_iff.mp h
      (bind_some _ (estimateChecked_eq L x h'.1)).trans (bind_some _ (extrasSumChecked_eq L xs h'.2))
end

/-! ### Whenever the checked estimator succeeds it agrees with the truncating one -/

/-- `ih` is an induction hypothesis `estimateChecked_some L v` (or `…Sum…_some L xs`) with the result left
    open: whatever `o` returns is `a`. -/
theorem of_bind {α β : Type} {o : Option α} {a : α} {f : α → Option β} {r : β}
    (ih : ∀ e, o = some e → e = a) (h : (do let e ← o; f e) = some r) : f a = some r := by
  cases o with
  | none => cases h
  | some e => cases ih e rfl; exact h

theorem of_bind_csub {α : Type} {o : Option Nat} {a i : Nat} {f : Nat → Option α} {r : α}
    (ih : ∀ e, o = some e → e = a) (h : (do let e ← o; let d ← csub e i; f d) = some r) :
    f (a - i) = some r := by
  have h := of_bind ih h
  by_cases hi : i ≤ a
  · rwa [← bind_csub f rfl hi]
  · have : (do let d ← csub a i; f d) = none := congrArg (Option.bind · f) (if_neg hi : csub a i = none)
    cases this.symm.trans h

mutual
/-- If the checked estimator does not panic, the truncating transcription computes the same number
    (no well-formedness needed): `estimate` is faithful to the Rust code on every non-panicking run. -/
theorem estimateChecked_some (L : Layout) : ∀ (v : Shape) (n : Nat),
    estimateChecked L v = some n → n = estimate L v
  | .prim _, _, h | .user _ _, _, h | .str _, _, h | .strRef _, _, h | .opt _ none, _, h =>
      (Option.some.inj h).symm
  | .sliceRef xs, _, h => (Option.some.inj (of_bind (estimateSumChecked_some L xs) h :)).symm
  | .vec _ _ xs, _, h => (Option.some.inj (of_bind (extrasSumChecked_some L xs) h :)).symm
  | .opt _ (some v), _, h | .res _ _ v, _, h =>
      (Option.some.inj (of_bind_csub (estimateChecked_some L v) h :)).symm
  | .tup2 _ a b, _, h =>
      have h := (of_bind_csub (estimateChecked_some L a) h :)
      (Option.some.inj (of_bind_csub (estimateChecked_some L b) h :)).symm
  | .tup3 _ a b c, _, h =>
      have h := (of_bind_csub (estimateChecked_some L a) h :)
      have h := (of_bind_csub (estimateChecked_some L b) h :)
      (Option.some.inj (of_bind_csub (estimateChecked_some L c) h :)).symm
  | .box v, _, h | .arc v, _, h | .rc v, _, h | .entry _ v, _, h =>
      (Option.some.inj (of_bind (estimateChecked_some L v) h :)).symm
theorem estimateSumChecked_some (L : Layout) : ∀ (xs : List Shape) (n : Nat),
    estimateSumChecked L xs = some n → n = estimateSum L xs
  | [], _, h => (Option.some.inj h).symm
  | x :: xs, _, h =>
      have h := (of_bind (estimateChecked_some L x) h :)
      (Option.some.inj (of_bind (estimateSumChecked_some L xs) h :)).symm
theorem extrasSumChecked_some (L : Layout) : ∀ (xs : List Shape) (n : Nat),
    extrasSumChecked L xs = some n → n = extrasSum L xs
  | [], _, h => (Option.some.inj h).symm
  | x :: xs, _, h =>
      have h := (of_bind (estimateChecked_some L x) h :)
      (Option.some.inj (of_bind (extrasSumChecked_some L xs) h :)).symm
end

end Cachelito.MemEst
