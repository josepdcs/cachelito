/-
  Lemmas about association-list stores and queues (core Lean only).
-/
import Cachelito.Basic

set_option linter.unusedSectionVars false

namespace Cachelito
variable {K V : Type} [DecidableEq K]

/-! ### `keys` and the defining equations -/

@[simp] theorem keys_nil : keys ([] : Store K V) = [] := rfl
@[simp] theorem keys_cons (p : K × Entry V) (m : Store K V) : keys (p :: m) = p.1 :: keys m := rfl
@[simp] theorem keys_append (a b : Store K V) : keys (a ++ b) = keys a ++ keys b := by
  simp [keys]

@[simp] theorem length_keys (m : Store K V) : (keys m).length = m.length := by simp [keys]

@[simp] theorem eraseKey_nil (k : K) : eraseKey k ([] : Store K V) = [] := rfl

theorem eraseKey_cons (k x : K) (e : Entry V) (m : Store K V) :
    eraseKey k ((x, e) :: m) = if x = k then eraseKey k m else (x, e) :: eraseKey k m := by
  unfold eraseKey
  by_cases h : x = k <;> simp [h]

theorem lookup_cons (k x : K) (e : Entry V) (m : Store K V) :
    lookup k ((x, e) :: m) = if x = k then some e else lookup k m := rfl

theorem modify_cons (k x : K) (f : Entry V → Entry V) (e : Entry V) (m : Store K V) :
    modify k f ((x, e) :: m) = if x = k then (x, f e) :: m else (x, e) :: modify k f m := rfl

theorem keys_filter_key (p : K → Bool) (m : Store K V) :
    keys (m.filter (fun e => p e.1)) = (keys m).filter p := by
  unfold keys; rw [List.filter_map]; rfl

theorem keys_eraseKey (k : K) (m : Store K V) :
    keys (eraseKey k m) = (keys m).filter (fun x => x ≠ k) :=
  keys_filter_key (fun x => x ≠ k) m

theorem keys_put (k : K) (e : Entry V) (m : Store K V) :
    keys (put k e m) = (keys m).filter (fun x => x ≠ k) ++ [k] := by
  simp [put, keys_eraseKey]

/-! ### Lists of keys: removing one key, and the queue operations -/

theorem filter_ne_of_not_mem {q : List K} {k : K} (hk : k ∉ q) : q.filter (fun x => x ≠ k) = q :=
  List.filter_eq_self.mpr fun _ hx => decide_eq_true fun hh => hk (hh ▸ hx)

theorem filter_ne_of_head {k : K} {q : List K} (h : (k :: q).Nodup) :
    (k :: q).filter (fun x => x ≠ k) = q := by
  rw [List.filter_cons, if_neg (fun hh => (of_decide_eq_true hh : k ≠ k) rfl)]
  exact filter_ne_of_not_mem (List.nodup_cons.mp h).1

theorem nodup_filter_ne_append {q : List K} (h : q.Nodup) (k : K) : (q.filter (fun x => x ≠ k) ++ [k]).Nodup := by
  rw [List.nodup_append]
  refine ⟨List.Pairwise.filter _ h, List.pairwise_singleton _ _, ?_⟩
  intro a ha b hb
  rw [List.mem_singleton.mp hb]
  exact of_decide_eq_true (List.mem_filter.mp ha).2

theorem mem_filter_ne_append {k x : K} {q : List K} : x ∈ q.filter (fun y => y ≠ k) ++ [k] ↔ x ∈ q ∨ x = k := by
  rw [List.mem_append, List.mem_filter, List.mem_singleton]
  constructor
  · rintro (h | h)
    · exact Or.inl h.1
    · exact Or.inr h
  · rintro (h | h)
    · by_cases hxk : x = k
      · exact Or.inr hxk
      · exact Or.inl ⟨h, decide_eq_true hxk⟩
    · exact Or.inr h

theorem erase_eq_filter_of_nodup {q : List K} (h : q.Nodup) (k : K) : q.erase k = q.filter (fun x => x ≠ k) := by
  induction q with
  | nil => rfl
  | cons a q ih =>
    simp only [List.nodup_cons] at h
    by_cases hak : a = k
    · subst hak
      simp only [List.erase_cons_head, List.filter_cons, ne_eq, not_true_eq_false, decide_false]
      symm; apply List.filter_eq_self.mpr
      intro x hx; simp; intro hh; exact h.1 (hh ▸ hx)
    · have : (a == k) = false := by simp [hak]
      simp [this, hak, ih h.2]

theorem eraseIdx_eq_filter_of_nodup {q : List K} (h : q.Nodup) {i : Nat} {k : K} (hi : q[i]? = some k) :
    q.eraseIdx i = q.filter (fun x => x ≠ k) := by
  induction q generalizing i with
  | nil => simp at hi
  | cons a q ih =>
    cases i with
    | zero =>
      simp at hi; subst hi
      rw [List.eraseIdx_cons_zero, filter_ne_of_head h]
    | succ i =>
      simp at hi
      have hk : k ∈ q := List.mem_of_getElem? hi
      have hn := List.nodup_cons.mp h
      have hak : a ≠ k := fun hh => hn.1 (hh ▸ hk)
      simp [List.eraseIdx_cons_succ, hak, ih hn.2 hi]

theorem nodup_erase_append {q : List K} (h : q.Nodup) (k : K) : (q.erase k ++ [k]).Nodup := by
  rw [erase_eq_filter_of_nodup h]; exact nodup_filter_ne_append h k

/-- two duplicate-free lists with the same members have the same length -/
theorem length_eq_of_nodup_of_mem_iff {a b : List K} (ha : a.Nodup) (hb : b.Nodup)
    (h : ∀ x, x ∈ a ↔ x ∈ b) : a.length = b.length :=
  ((List.perm_ext_iff_of_nodup ha hb).mpr h).length_eq

theorem mem_moveToEnd {k x : K} {q : List K} : x ∈ moveToEnd k q ↔ x ∈ q := by
  unfold moveToEnd
  split
  · rename_i h
    by_cases hxk : x = k <;> simp [hxk, h, List.mem_erase_of_ne]
  · rfl

theorem nodup_moveToEnd {k : K} {q : List K} (h : q.Nodup) : (moveToEnd k q).Nodup := by
  unfold moveToEnd
  split
  · exact nodup_erase_append h k
  · exact h

theorem mem_erasePush {k x : K} {q : List K} : x ∈ erasePush k q ↔ x ∈ q ∨ x = k := by
  unfold erasePush
  by_cases hxk : x = k <;> simp [hxk, List.mem_erase_of_ne]

theorem erasePush_eq {q : List K} (h : q.Nodup) (k : K) :
    erasePush k q = q.filter (fun x => x ≠ k) ++ [k] := by
  unfold erasePush; rw [erase_eq_filter_of_nodup h]

theorem dropLast_erasePush (k : K) (q : List K) : (erasePush k q).dropLast = q.erase k := by
  simp [erasePush]

theorem nodup_retainPush {k : K} {q : List K} (h : q.Nodup) : (retainPush k q).Nodup :=
  nodup_filter_ne_append h k

theorem mem_retainPush {k x : K} {q : List K} : x ∈ retainPush k q ↔ x ∈ q ∨ x = k :=
  mem_filter_ne_append

/-! ### `lookup` -/

theorem lookup_eq_none_iff (k : K) (m : Store K V) : lookup k m = none ↔ k ∉ keys m := by
  induction m with
  | nil => simp [lookup]
  | cons a m ih =>
    obtain ⟨k', e⟩ := a
    by_cases h : k' = k
    · simp [lookup, h]
    · simp [lookup, h, ih, Ne.symm h]

theorem lookup_mem {k : K} {m : Store K V} {e : Entry V} (h : lookup k m = some e) : (k, e) ∈ m := by
  induction m with
  | nil => cases h
  | cons a m ih =>
    rw [lookup] at h
    split at h
    · rename_i hk; cases h; cases hk; exact List.mem_cons_self
    · exact List.mem_cons_of_mem _ (ih h)

theorem mem_keys_of_lookup {k : K} {m : Store K V} {e : Entry V} (h : lookup k m = some e) : k ∈ keys m :=
  List.mem_map.mpr ⟨(k, e), lookup_mem h, rfl⟩

theorem hasKey_iff (k : K) (m : Store K V) : hasKey k m = true ↔ k ∈ keys m := by
  unfold hasKey
  cases h : lookup k m with
  | none => simp [(lookup_eq_none_iff k m).mp h]
  | some e => simp [mem_keys_of_lookup h]

theorem hasKey_false_iff (k : K) (m : Store K V) : hasKey k m = false ↔ k ∉ keys m := by
  rw [← hasKey_iff]; simp

theorem lookup_isSome_of_mem_keys {k : K} {m : Store K V} (h : k ∈ keys m) : ∃ e, lookup k m = some e := by
  have := (hasKey_iff k m).mpr h
  unfold hasKey at this
  exact Option.isSome_iff_exists.mp this

theorem mem_lookup_of_nodup {k : K} {m : Store K V} {e : Entry V} (hn : (keys m).Nodup)
    (h : (k, e) ∈ m) : lookup k m = some e := by
  induction m with
  | nil => simp at h
  | cons a m ih =>
    obtain ⟨k', e'⟩ := a
    simp only [keys_cons, List.nodup_cons] at hn
    rcases List.mem_cons.mp h with h | h
    · cases h; simp [lookup]
    · have : k ∈ keys m := by simp only [keys, List.mem_map]; exact ⟨(k, e), h, rfl⟩
      have hne : k' ≠ k := fun hh => hn.1 (hh ▸ this)
      simp [lookup, hne, ih hn.2 h]

theorem lookup_filter_key (p : K → Bool) (k : K) (m : Store K V) :
    lookup k (m.filter (fun e => p e.1)) = if p k then lookup k m else none := by
  induction m with
  | nil => simp [lookup]
  | cons a m ih =>
    obtain ⟨x, e⟩ := a
    rw [List.filter_cons]
    by_cases hx : x = k
    · subst hx
      cases hp : p x
      · simp only [Bool.false_eq_true, if_false]; rw [ih, hp]; rfl
      · simp only [if_true, lookup_cons]
    · cases hp : p x
      · simp only [Bool.false_eq_true, if_false, lookup_cons, if_neg hx]; exact ih
      · simp only [if_true, lookup_cons, if_neg hx]; exact ih

theorem lookup_eraseKey_self (k : K) (m : Store K V) : lookup k (eraseKey k m) = none :=
  (lookup_filter_key (fun x => x ≠ k) k m).trans (if_neg fun h => (of_decide_eq_true h : k ≠ k) rfl)

theorem lookup_eraseKey_ne {k k' : K} (h : k' ≠ k) (m : Store K V) :
    lookup k' (eraseKey k m) = lookup k' m :=
  (lookup_filter_key (fun x => x ≠ k) k' m).trans (if_pos (decide_eq_true h))

theorem lookup_eraseKey_some {k k' : K} {m : Store K V} {e : Entry V}
    (h : lookup k' (eraseKey k m) = some e) : k' ≠ k ∧ lookup k' m = some e := by
  by_cases hk : k' = k
  · subst hk; rw [lookup_eraseKey_self] at h; cases h
  · rw [lookup_eraseKey_ne hk] at h; exact ⟨hk, h⟩

theorem lookup_append (k : K) (a b : Store K V) :
    lookup k (a ++ b) = (lookup k a).orElse (fun _ => lookup k b) := by
  induction a with
  | nil => simp [lookup]
  | cons p a ih =>
    obtain ⟨x, e⟩ := p
    by_cases hx : x = k <;> simp [lookup, hx, ih]

theorem lookup_put_self (k : K) (e : Entry V) (m : Store K V) : lookup k (put k e m) = some e := by
  simp [put, lookup_append, lookup_eraseKey_self, lookup]

theorem lookup_put_ne {k k' : K} (h : k' ≠ k) (e : Entry V) (m : Store K V) :
    lookup k' (put k e m) = lookup k' m := by
  have h2 : ¬ k = k' := fun hh => h hh.symm
  simp only [put, lookup_append, lookup_eraseKey_ne h, lookup, h2, if_false]
  cases lookup k' m <;> simp

theorem lookup_put (k k' : K) (e : Entry V) (m : Store K V) :
    lookup k' (put k e m) = if k' = k then some e else lookup k' m := by
  by_cases hk : k' = k
  · subst hk; rw [lookup_put_self, if_pos rfl]
  · rw [lookup_put_ne hk, if_neg hk]

/-! ### `modify` -/

theorem keys_modify (k : K) (f : Entry V → Entry V) (m : Store K V) : keys (modify k f m) = keys m := by
  induction m with
  | nil => rfl
  | cons a m ih =>
    obtain ⟨x, e⟩ := a
    by_cases hx : x = k <;> simp [modify, hx, ih]

@[simp] theorem keys_bumpHits (k : K) (m : Store K V) : keys (bumpHits k m) = keys m := keys_modify _ _ _

@[simp] theorem length_modify (k : K) (f : Entry V → Entry V) (m : Store K V) :
    (modify k f m).length = m.length := by
  rw [← length_keys, keys_modify, length_keys]

theorem lookup_modify_self (k : K) (f : Entry V → Entry V) (m : Store K V) :
    lookup k (modify k f m) = (lookup k m).map f := by
  induction m with
  | nil => rfl
  | cons a m ih =>
    obtain ⟨x, e⟩ := a
    by_cases hx : x = k <;> simp [modify, lookup, hx, ih]

theorem lookup_modify_ne {k k' : K} (h : k' ≠ k) (f : Entry V → Entry V) (m : Store K V) :
    lookup k' (modify k f m) = lookup k' m := by
  induction m with
  | nil => rfl
  | cons a m ih =>
    obtain ⟨x, e⟩ := a
    rw [modify_cons, lookup_cons]
    by_cases hx : x = k
    · have hx' : ¬ x = k' := fun hh => h (hh ▸ hx)
      rw [if_pos hx, lookup_cons, if_neg hx', if_neg hx']
    · rw [if_neg hx, lookup_cons]
      by_cases hx' : x = k'
      · rw [if_pos hx', if_pos hx']
      · rw [if_neg hx', if_neg hx']; exact ih

/-- values are never changed by `modify` when `f` keeps `val` -/
theorem lookup_modify_val (k k' : K) (f : Entry V → Entry V) (hf : ∀ e, (f e).val = e.val) (m : Store K V) :
    (lookup k' (modify k f m)).map (·.val) = (lookup k' m).map (·.val) := by
  by_cases h : k' = k
  · subst h; rw [lookup_modify_self]; cases lookup k' m <;> simp [hf]
  · rw [lookup_modify_ne h]

/-! ### Keys and sizes after `eraseKey` and `put` -/

theorem not_mem_keys_eraseKey (k : K) (m : Store K V) : k ∉ keys (eraseKey k m) := by
  rw [keys_eraseKey]; exact fun h => of_decide_eq_true (List.mem_filter.mp h).2 rfl

theorem mem_keys_put {k x : K} {e : Entry V} {m : Store K V} : x ∈ keys (put k e m) ↔ x ∈ keys m ∨ x = k := by
  rw [keys_put]; exact mem_filter_ne_append

theorem nodup_keys_eraseKey {m : Store K V} (h : (keys m).Nodup) (k : K) : (keys (eraseKey k m)).Nodup := by
  rw [keys_eraseKey]; exact List.Pairwise.filter _ h

theorem nodup_keys_put {m : Store K V} (h : (keys m).Nodup) (k : K) (e : Entry V) : (keys (put k e m)).Nodup := by
  rw [keys_put]; exact nodup_filter_ne_append h k

theorem eraseKey_of_not_mem {m : Store K V} {k : K} (hk : k ∉ keys m) : eraseKey k m = m := by
  induction m with
  | nil => rfl
  | cons a m ih =>
    obtain ⟨x, e⟩ := a
    simp only [keys_cons, List.mem_cons, not_or] at hk
    rw [eraseKey_cons, if_neg (fun hh => hk.1 hh.symm), ih hk.2]

theorem eraseKey_after_put (k : K) (e : Entry V) (m : Store K V) : eraseKey k (put k e m) = eraseKey k m := by
  simp [put, eraseKey, List.filter_append, List.filter_filter]

theorem length_put_of_not_mem {m : Store K V} {k : K} (hk : k ∉ keys m) (e : Entry V) :
    (put k e m).length = m.length + 1 := by
  rw [put, eraseKey_of_not_mem hk, List.length_append]; rfl

theorem length_eraseKey_of_mem {m : Store K V} (hn : (keys m).Nodup) {k : K} (hk : k ∈ keys m) :
    (eraseKey k m).length + 1 = m.length := by
  induction m with
  | nil => cases hk
  | cons a m ih =>
    obtain ⟨x, e⟩ := a
    rw [keys_cons, List.nodup_cons] at hn
    rw [eraseKey_cons]
    by_cases h : x = k
    · rw [if_pos h, eraseKey_of_not_mem (h ▸ hn.1)]; rfl
    · rw [if_neg h]
      exact congrArg (· + 1) (ih hn.2 ((List.mem_cons.mp hk).resolve_left (Ne.symm h)))

theorem length_eraseKey_le (k : K) (m : Store K V) : (eraseKey k m).length ≤ m.length :=
  List.length_filter_le _ _

theorem length_put_eq (k : K) (e : Entry V) (m : Store K V) :
    (put k e m).length = (eraseKey k m).length + 1 := by
  simp [put]

theorem length_put_fresh {k : K} {m : Store K V} (hk : k ∉ keys m) (e : Entry V) :
    (put k e m).length = m.length + 1 := by
  rw [length_put_eq, eraseKey_of_not_mem hk]

theorem eraseKey_eraseKey (k : K) (m : Store K V) : eraseKey k (eraseKey k m) = eraseKey k m := by
  simp [eraseKey, List.filter_filter]

theorem eraseKey_comm (a b : K) (m : Store K V) :
    eraseKey a (eraseKey b m) = eraseKey b (eraseKey a m) := by
  unfold eraseKey
  rw [List.filter_filter, List.filter_filter]
  congr 1; funext p; exact Bool.and_comm _ _

theorem put_eraseKey (k : K) (e : Entry V) (m : Store K V) : put k e (eraseKey k m) = put k e m := by
  simp [put, eraseKey_eraseKey]

theorem lookup_eraseKey_sub {k x : K} {m : Store K V} {e : Entry V} (h : lookup x (eraseKey k m) = some e) :
    x ≠ k ∧ lookup x m = some e := by
  by_cases hxk : x = k
  · subst hxk; rw [lookup_eraseKey_self] at h; cases h
  · exact ⟨hxk, by rwa [lookup_eraseKey_ne hxk] at h⟩

theorem lookup_put_sub {k x : K} {e0 e : Entry V} {m : Store K V} (h : lookup x (put k e0 m) = some e) :
    (x = k ∧ e = e0) ∨ (x ≠ k ∧ lookup x m = some e) := by
  by_cases hxk : x = k
  · subst hxk; rw [lookup_put_self] at h; exact Or.inl ⟨rfl, (Option.some.inj h).symm⟩
  · exact Or.inr ⟨hxk, by rwa [lookup_put_ne hxk] at h⟩

theorem mem_eraseKey {k : K} {m : Store K V} {p : K × Entry V} (h : p ∈ eraseKey k m) : p ∈ m :=
  (List.mem_filter.1 h).1

/-! ### Sub-lists of stores and the lengths of store and queue after one primitive -/

theorem keys_sublist {m' m : Store K V} (h : m'.Sublist m) : (keys m').Sublist (keys m) :=
  List.Sublist.map _ h

theorem eraseKey_sublist (k : K) (m : Store K V) : (eraseKey k m).Sublist m := List.filter_sublist

theorem length_moveToEnd (k : K) (q : List K) : (Cachelito.moveToEnd k q).length = q.length := by
  unfold Cachelito.moveToEnd
  split
  · rename_i h
    rw [List.length_append, List.length_erase_of_mem h]
    have := List.length_pos_of_mem h
    simp; omega
  · rfl

theorem length_erasePush_le (k : K) (q : List K) : (Cachelito.erasePush k q).length ≤ q.length + 1 := by
  unfold Cachelito.erasePush
  rw [List.length_append]
  have := (List.erase_sublist (a := k) (l := q)).length_le
  simp; omega

theorem sum_map_le_of_nodup_subset (g : K → Nat) {l l' : List K} (hn : l.Nodup) (hs : ∀ x, x ∈ l → x ∈ l') :
    (l.map g).sum ≤ (l'.map g).sum := by
  induction l generalizing l' with
  | nil => simp
  | cons a l ih =>
    have ha : a ∈ l' := hs a List.mem_cons_self
    have hn' := List.nodup_cons.mp hn
    have hsub : ∀ x, x ∈ l → x ∈ l'.erase a := by
      intro x hx
      have hxa : x ≠ a := fun hh => hn'.1 (hh ▸ hx)
      exact (List.mem_erase_of_ne hxa).mpr (hs x (List.mem_cons_of_mem _ hx))
    have := ih hn'.2 hsub
    rw [((List.perm_cons_erase ha).map g).sum_nat]
    simp only [List.map_cons, List.sum_cons]; omega

end Cachelito
