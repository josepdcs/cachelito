/-
  Ghost stamps (`lastStore`, `lastUse`) and the order of the eviction queue (core Lean only).

  Under FIFO the queue is strictly increasing in the step index of the latest store of each key, under
  LRU in the step index of its latest use (store or successful lookup); every FIFO/LRU eviction pops
  the head of the queue, hence removes the minimum.  The last two sections are consequences: the sync newcomer at
  the back of the queue survives its own store (`evictPhase_keeps_last`, C11), and the next overflow of a full cache
  (`insert_full_head`, C13).
-/
import Cachelito.Lemmas.Mem

set_option linter.unusedSectionVars false

namespace Cachelito
variable {K V S : Type} [DecidableEq K]
variable (cfg : Cfg) (tl : Tlru S) (size : V → Nat)

/-! ### Ghost stamps -/

def upd (f : K → Nat) (k : K) (v : Nat) : K → Nat := fun x => if x = k then v else f x

/-- Ghost bookkeeping that the implementation does not have: `n` = number of operations performed so
    far; `lastStore k` = 1-based index of the latest operation that stored `k` (`insert` /
    `insert_with_memory`), `lastUse k` = 1-based index of the latest operation that stored `k` or
    looked it up successfully; `0` = never. -/
structure Ghost (K : Type) where
  n : Nat
  lastStore : K → Nat
  lastUse : K → Nat

def Ghost.init : Ghost K := ⟨0, fun _ => 0, fun _ => 0⟩

/-- Ghost update for one operation.  It reads only the operation and the *output* the model
    produced for it (a lookup counts as a use iff it returned `some _`); it never reads the state. -/
def gstep (g : Ghost K) (op : Op K V) (o : Out V) : Ghost K :=
  match op with
  | .insert k _ => ⟨g.n + 1, upd g.lastStore k (g.n + 1), upd g.lastUse k (g.n + 1)⟩
  | .insertMem k _ => ⟨g.n + 1, upd g.lastStore k (g.n + 1), upd g.lastUse k (g.n + 1)⟩
  | .get k =>
    (match o with
     | .val (some _) => ⟨g.n + 1, g.lastStore, upd g.lastUse k (g.n + 1)⟩
     | _ => ⟨g.n + 1, g.lastStore, g.lastUse⟩)
  | _ => ⟨g.n + 1, g.lastStore, g.lastUse⟩

/-- the ghost as a fold over the operations of a history and the outputs observed for them -/
def ghostOf : Ghost K → List (Op K V) → List (Out V) → Ghost K
  | g, op :: ops, o :: os => ghostOf (gstep g op o) ops os
  | g, _, _ => g

/-- the stamps after a history run from the empty cache: a function of the history and of the
    outputs of `run` only -/
def stamps (cfg : Cfg) (tl : Tlru S) (size : V → Nat) (ops : List (Op K V × List Nat)) : Ghost K :=
  ghostOf Ghost.init (ops.map (·.1)) (run cfg tl size (State.init : State K V) ops).2

/-- `run` with the ghost carried along in the state.  No proof goes through it (`stamps` is a fold over
    the operations and the outputs of `run` by definition); `grun_eq` records that carrying the ghost
    along and then forgetting it is `run`: the ghost never influences the model. -/
def grun (cfg : Cfg) (tl : Tlru S) (size : V → Nat) :
    State K V × Ghost K → List (Op K V × List Nat) → (State K V × Ghost K) × List (Out V)
  | sg, [] => (sg, [])
  | sg, (op, rs) :: ops =>
    let r := step cfg tl size rs sg.1 op
    let r2 := grun cfg tl size (r.1, gstep sg.2 op r.2) ops
    (r2.1, r.2 :: r2.2)

/-- erasing the ghost from the augmented run gives exactly `run`; the ghost component is `ghostOf`
    of the operations and the outputs of `run` -/
theorem grun_eq (s : State K V) (g : Ghost K)
    (ops : List (Op K V × List Nat)) :
    grun cfg tl size (s, g) ops =
      (((run cfg tl size s ops).1, ghostOf g (ops.map (·.1)) (run cfg tl size s ops).2),
       (run cfg tl size s ops).2) := by
  induction ops generalizing s g with
  | nil => rfl
  | cons a ops ih =>
    obtain ⟨op, rs⟩ := a
    simp only [grun, run, List.map_cons, ghostOf]
    rw [ih]

theorem ghostOf_append (g : Ghost K) (a b : List (Op K V)) (oa ob : List (Out V))
    (h : oa.length = a.length) :
    ghostOf g (a ++ b) (oa ++ ob) = ghostOf (ghostOf g a oa) b ob := by
  induction a generalizing g oa with
  | nil =>
    cases oa with
    | nil => rfl
    | cons _ _ => cases h
  | cons x a ih =>
    cases oa with
    | nil => cases h
    | cons o oa => exact ih _ _ (Nat.succ.inj h)

/-- the stamps after one more operation are the stamps so far updated by `gstep` with the output of
    that operation -/
theorem stamps_snoc (ops : List (Op K V × List Nat))
    (op : Op K V) (rs : List Nat) :
    (stamps cfg tl size (ops ++ [(op, rs)]) : Ghost K) =
      gstep (stamps cfg tl size ops) op
        (step cfg tl size rs (run cfg tl size (State.init : State K V) ops).1 op).2 := by
  unfold stamps
  rw [run_append, List.map_append, ghostOf_append _ _ _ _ _ (by rw [run_length, List.length_map])]
  simp only [run, List.map_cons, List.map_nil, ghostOf]

/-! ### Sorted queues -/

/-- the queue is strictly increasing in the stamp `f` (front = smallest) -/
abbrev SortedBy (f : K → Nat) (q : List K) : Prop := q.Pairwise (fun a b => f a < f b)

/-- the stamp that orders the queue: last use under LRU, last store otherwise (FIFO) -/
def Ghost.stamp (g : Ghost K) (p : Policy) : K → Nat :=
  match p with
  | .lru => g.lastUse
  | _ => g.lastStore

/-- The async engine refreshes recency on a hit only when a bound is configured
    (`async_global_cache.rs:369-383`).  This is the side condition of the LRU order invariant for the
    async flavour; without any bound nothing is ever evicted (`store_unbounded_keeps`).  It holds for
    free under FIFO, in the sync flavours, and whenever a bound is configured. -/
def RefreshOK (cfg : Cfg) : Prop :=
  cfg.flavour = .async → cfg.policy = .lru → (cfg.limit.isSome || cfg.maxMem.isSome) = true

theorem RefreshOK.of_fifo {cfg : Cfg} (hp : cfg.policy = .fifo) : RefreshOK cfg :=
  fun _ h => by rw [hp] at h; cases h

theorem RefreshOK.of_bound {cfg : Cfg} (h : (cfg.limit.isSome || cfg.maxMem.isSome) = true) : RefreshOK cfg :=
  fun _ _ => h

/-- all stamps lie in the past and the queue is sorted by the policy's stamp -/
def OrdInv (cfg : Cfg) (s : State K V) (g : Ghost K) : Prop :=
  (∀ x, g.lastStore x ≤ g.n) ∧ (∀ x, g.lastUse x ≤ g.n) ∧ SortedBy (g.stamp cfg.policy) s.queue

theorem ordInv_init : OrdInv cfg (State.init : State K V) (Ghost.init : Ghost K) := by
  refine ⟨fun _ => Nat.le_refl _, fun _ => Nat.le_refl _, ?_⟩
  simp [State.init, SortedBy]

/-- moving (or adding) `k` to the back with a fresh, larger stamp keeps the queue sorted -/
theorem sortedBy_upd_push {f : K → Nat} {q : List K} {n : Nat} (h : SortedBy f q) (hb : ∀ x, f x ≤ n) (k : K) :
    SortedBy (upd f k (n + 1)) (q.filter (fun x => x ≠ k) ++ [k]) := by
  rw [SortedBy, List.pairwise_append]
  refine ⟨?_, List.pairwise_singleton _ _, ?_⟩
  · refine List.Pairwise.imp_of_mem ?_ (List.Pairwise.filter _ h)
    intro a b ha hb' hab
    rw [upd, upd, if_neg (of_decide_eq_true (List.mem_filter.mp ha).2),
      if_neg (of_decide_eq_true (List.mem_filter.mp hb').2)]
    exact hab
  · intro a ha b hb'
    rw [List.mem_singleton.mp hb', upd, upd, if_neg (of_decide_eq_true (List.mem_filter.mp ha).2), if_pos rfl]
    exact Nat.lt_succ_of_le (hb a)

/-- in a sorted queue every key of a dropped prefix is older than every key of the remaining suffix -/
theorem older_of_suffix {f : K → Nat} {q q' : List K} (hs : SortedBy f q) (hsuf : q' <:+ q) :
    ∀ x y, x ∈ q → x ∉ q' → y ∈ q' → f x < f y := by
  obtain ⟨t, rfl⟩ := hsuf
  intro x y hx hnx hy
  rw [SortedBy, List.pairwise_append] at hs
  have hxt : x ∈ t := by
    rcases List.mem_append.mp hx with h | h
    · exact h
    · exact absurd h hnx
  exact hs.2.2 x hxt y hy

theorem suffix_append_right {a b : List K} (h : a <:+ b) (c : List K) : a ++ c <:+ b ++ c := by
  obtain ⟨t, rfl⟩ := h
  exact ⟨t, by simp⟩

/-! ### Queue shapes -/

/-- a FIFO hit leaves the queue alone (all flavours) -/
theorem hitUpdate_queue_fifo (hp : cfg.policy = .fifo) (k : K) (m : Store K V) (q : List K) :
    (hitUpdate cfg k m q).2 = q := by
  unfold hitUpdate
  cases cfg.flavour <;> simp [hp, Policy.refreshes]

/-- an LRU hit moves the key to the back (async: provided a bound is configured) -/
theorem hitUpdate_queue_lru (hp : cfg.policy = .lru) (hok : RefreshOK cfg) {k : K}
    {m : Store K V} {q : List K} (h : InvMQ m q) (hk : k ∈ keys m) :
    (hitUpdate cfg k m q).2 = q.filter (fun x => x ≠ k) ++ [k] := by
  have hkq : k ∈ q := (h.2.2 k).mpr hk
  unfold hitUpdate
  cases hf : cfg.flavour <;> simp only [hp, Policy.refreshes, Policy.bumps, if_true, Bool.false_eq_true, if_false]
  case async =>
    have hb := hok hf hp
    have hh : hasKey k m = true := (hasKey_iff k m).mpr hk
    simp only [hb, hh, Bool.and_self, if_true]
    rfl
  all_goals
    unfold moveToEnd; rw [if_pos hkq, erase_eq_filter_of_nodup h.2.1]

/-! ### FIFO/LRU evictions pop the queue head -/

theorem popStored_suffix (m : Store K V) (q : List K) : (popStored m q).2.1 <:+ q := by
  induction q with
  | nil => exact List.suffix_refl _
  | cons k q ih =>
    simp only [popStored]
    split
    · exact List.suffix_cons k q
    · exact List.IsSuffix.trans ih (List.suffix_cons k q)

theorem popOne_suffix (m : Store K V) (q : List K) : (popOne m q).2.1 <:+ q := by
  cases q with
  | nil => exact List.suffix_refl _
  | cons k q => exact List.suffix_cons k q

theorem evictLimit_fifo_lru {cfg : Cfg} (hp : cfg.policy = .fifo ∨ cfg.policy = .lru) (tl : Tlru S) (now r : Nat)
    (m : Store K V) (q : List K) : evictLimit cfg tl now r m q = popStored m q := by
  unfold evictLimit
  rcases hp with hp | hp <;> rw [hp]

theorem evictMem_fifo_lru {cfg : Cfg} (hp : cfg.policy = .fifo ∨ cfg.policy = .lru) (tl : Tlru S) (now r : Nat)
    (m : Store K V) (q : List K) :
    evictMem cfg tl now r m q = popStored m q ∨ evictMem cfg tl now r m q = popOne m q := by
  unfold evictMem
  rcases hp with hp | hp <;> rw [hp] <;> cases cfg.flavour <;> first | exact Or.inl rfl | exact Or.inr rfl

/-- one entry-limit eviction under FIFO/LRU removes exactly the queue head -/
theorem evictLimit_head {cfg : Cfg} (hp : cfg.policy = .fifo ∨ cfg.policy = .lru) (tl : Tlru S) (now r : Nat)
    {m : Store K V} {k : K} {rest : List K} (h : InvMQ m (k :: rest)) :
    evictLimit cfg tl now r m (k :: rest) = (eraseKey k m, rest, true) := by
  rw [evictLimit_fifo_lru hp]; exact popStored_head h

theorem limitStep_head {cfg : Cfg} (hp : cfg.policy = .fifo ∨ cfg.policy = .lru) (tl : Tlru S) (now r : Nat)
    {m : Store K V} {a : K} {rest : List K} (h : InvMQ m (a :: rest)) {n : Nat} (hl : cfg.limit = some n)
    (ho : overLimit cfg n m (a :: rest) = true) :
    limitStep cfg tl now r m (a :: rest) = (eraseKey a m, rest) := by
  rw [limitStep_some hl, ho, evictLimit_head hp tl now r h]; rfl

/-- one memory-loop eviction under FIFO/LRU removes exactly the queue head -/
theorem evictMem_head {cfg : Cfg} (hp : cfg.policy = .fifo ∨ cfg.policy = .lru) (tl : Tlru S) (now r : Nat)
    {m : Store K V} {k : K} {rest : List K} (h : InvMQ m (k :: rest)) :
    evictMem cfg tl now r m (k :: rest) = (eraseKey k m, rest, true) := by
  rcases evictMem_fifo_lru hp tl now r m (k :: rest) with he | he <;> rw [he]
  · exact popStored_head h
  · rfl

/-- the entry-limit step under FIFO/LRU leaves a suffix of the queue -/
theorem limitStep_suffix {cfg : Cfg} (hp : cfg.policy = .fifo ∨ cfg.policy = .lru) (tl : Tlru S) (now r : Nat)
    (m : Store K V) (q : List K) : (limitStep cfg tl now r m q).2 <:+ q := by
  rcases limitStep_eq_or cfg tl now r m q with he | he <;> rw [he]
  · exact List.suffix_refl _
  · rw [evictLimit_fifo_lru hp]; exact popStored_suffix m q

/-- the memory loop under FIFO/LRU leaves a suffix of the queue -/
theorem memLoop_suffix {cfg : Cfg} (hp : cfg.policy = .fifo ∨ cfg.policy = .lru) (tl : Tlru S) (size : V → Nat)
    (now maxM extra fuel : Nat) (rs : List Nat) (m : Store K V) (q : List K) :
    (memLoop cfg tl size now maxM extra fuel rs m q).2.1 <:+ q :=
  memLoop_induction (P := fun _ q' => q' <:+ q)
    (fun r m' q' hq' => by
      rcases evictMem_fifo_lru hp tl now r m' q' with he | he <;> rw [he]
      · exact (popStored_suffix m' q').trans hq'
      · exact (popOne_suffix m' q').trans hq')
    size maxM extra fuel rs (List.suffix_refl q)

theorem evictPhase_suffix {cfg : Cfg} (hp : cfg.policy = .fifo ∨ cfg.policy = .lru) (tl : Tlru S) (size : V → Nat)
    (now extra : Nat) (rs : List Nat) (m : Store K V) (q : List K) :
    (evictPhase cfg tl size now extra rs m q).2 <:+ q := by
  unfold evictPhase
  cases cfg.maxMem with
  | none => exact limitStep_suffix hp tl now _ m q
  | some maxM => exact (limitStep_suffix hp tl now _ _ _).trans (memLoop_suffix hp tl size now maxM extra _ rs m q)

theorem victims_oldest {m : Store K V} {q : List K} {r : Store K V × List K} (h : InvMQ m q) {f : K → Nat}
    (hs : SortedBy f q) (hr : Shrunk m q r) (hsuf : r.2 <:+ q) :
    ∀ x y, x ∈ keys m → x ∉ keys r.1 → y ∈ keys r.1 → f x < f y := by
  intro x y hx hnx hy
  have h' := hr.inv h
  exact older_of_suffix hs hsuf x y ((h.2.2 x).mpr hx) (fun hh => hnx ((h'.2.2 x).mp hh)) ((h'.2.2 y).mpr hy)

/-! ### Shape of the queue after a store -/

theorem storeVia_queue_suffix {cfg : Cfg} {ev : Store K V → List K → Store K V × List K}
    (hev : ∀ m q, (ev m q).2 <:+ q) {s : State K V} (h : Inv s) (k : K) (v : V) :
    (storeVia cfg ev s k v).queue <:+ s.queue.filter (fun x => x ≠ k) ++ [k] := by
  by_cases hf : cfg.flavour = .async
  · rw [storeVia_async hf ev h]
    exact suffix_append_right (hev _ _) [k]
  · rw [storeVia_sync hf, ← erasePush_eq h.2.1 k]
    exact hev _ _

/-- a store operation of `k` that does not take the oversize path -/
def IsStore (cfg : Cfg) (size : V → Nat) (op : Op K V) (k : K) : Prop :=
  (∃ v, op = .insert k v) ∨ (∃ v, op = .insertMem k v ∧ oversize cfg size v = false)

theorem store_queue_suffix {cfg : Cfg} (hp : cfg.policy = .fifo ∨ cfg.policy = .lru) (tl : Tlru S)
    (size : V → Nat) (rs : List Nat) {s : State K V} (h : Inv s) {op : Op K V} {k : K} (hop : IsStore cfg size op k) :
    (step cfg tl size rs s op).1.queue <:+ s.queue.filter (fun x => x ≠ k) ++ [k] := by
  rcases hop with ⟨v, rfl⟩ | ⟨v, rfl, hno⟩
  · rw [step_insert, insert_eq_storeVia]
    exact storeVia_queue_suffix (limitStep_suffix hp tl s.now _) h k v
  · rw [step_insertMem, insertMem_eq_storeVia hno]
    exact storeVia_queue_suffix (evictPhase_suffix hp tl size s.now _ rs) h k v

/-- FIFO/LRU: after any store of `k` the queue is a sublist of "old queue without `k`, then `k`" -/
theorem store_queue_sublist {cfg : Cfg} (hp : cfg.policy = .fifo ∨ cfg.policy = .lru) (tl : Tlru S)
    (size : V → Nat) (rs : List Nat) {s : State K V} (h : Inv s) {op : Op K V} {k : K} {v : V}
    (hop : op = .insert k v ∨ op = .insertMem k v) :
    (step cfg tl size rs s op).1.queue.Sublist (s.queue.filter (fun x => x ≠ k) ++ [k]) := by
  rcases hop with rfl | rfl
  · exact (store_queue_suffix hp tl size rs h (Or.inl ⟨v, rfl⟩)).sublist
  · cases hov : oversize cfg size v
    · exact (store_queue_suffix hp tl size rs h (Or.inr ⟨v, rfl, hov⟩)).sublist
    · rw [step_insertMem, insertMem_oversize hov tl rs h]
      exact List.sublist_append_left _ _

/-! ### The order invariant is preserved by every operation -/

theorem Ghost.stamp_store (g : Ghost K) (p : Policy) (k : K) :
    (⟨g.n + 1, upd g.lastStore k (g.n + 1), upd g.lastUse k (g.n + 1)⟩ : Ghost K).stamp p =
      upd (g.stamp p) k (g.n + 1) := by
  cases p <;> rfl

theorem bounds_upd {f : K → Nat} {n : Nat} (h : ∀ x, f x ≤ n) (k : K) : ∀ x, upd f k (n + 1) x ≤ n + 1 := by
  intro x; unfold upd; split
  · exact Nat.le_refl _
  · exact Nat.le_succ_of_le (h x)

theorem bounds_succ {f : K → Nat} {n : Nat} (h : ∀ x, f x ≤ n) : ∀ x, f x ≤ n + 1 :=
  fun x => Nat.le_succ_of_le (h x)

theorem OrdInv.stamp_le {cfg : Cfg} (hp : cfg.policy = .fifo ∨ cfg.policy = .lru) {s : State K V} {g : Ghost K}
    (ho : OrdInv cfg s g) : ∀ x, g.stamp cfg.policy x ≤ g.n := by
  rcases hp with hp | hp <;> rw [hp]
  · exact ho.1
  · exact ho.2.1

theorem OrdInv.of_sublist {cfg : Cfg} {s s' : State K V} {g : Ghost K} (ho : OrdInv cfg s g)
    (hq : s'.queue.Sublist s.queue) : OrdInv cfg s' ⟨g.n + 1, g.lastStore, g.lastUse⟩ :=
  ⟨bounds_succ ho.1, bounds_succ ho.2.1, List.Pairwise.sublist hq ho.2.2⟩

theorem get_ordInv {cfg : Cfg} (hp : cfg.policy = .fifo ∨ cfg.policy = .lru) (hok : RefreshOK cfg)
    {s : State K V} {g : Ghost K} (hi : Inv s) (ho : OrdInv cfg s g) (k : K) :
    OrdInv cfg (get cfg s k).1 (gstep g (.get k : Op K V) (.val (get cfg s k).2)) := by
  cases hl : lookup k s.store with
  | none => rw [get_miss hl]; exact ho.of_sublist (List.Sublist.refl _)
  | some e =>
    cases hx : expired cfg s.now e with
    | true =>
      rw [get_expired hl hx]
      refine ho.of_sublist ?_
      simp only [removeBoth_eq hi cfg k]
      exact List.filter_sublist
    | false =>
      rw [get_hit hl hx]
      obtain ⟨hb1, hb2, hs⟩ := ho
      refine ⟨bounds_succ hb1, bounds_upd hb2 k, ?_⟩
      simp only [gstep]
      rcases hp with hp | hp
      · simp only [hitUpdate_queue_fifo cfg hp]
        rw [hp] at hs ⊢; exact hs
      · simp only [hitUpdate_queue_lru cfg hp hok hi (mem_keys_of_lookup hl)]
        rw [hp] at hs ⊢
        exact sortedBy_upd_push hs hb2 k

theorem store_ordInv {cfg : Cfg} (hp : cfg.policy = .fifo ∨ cfg.policy = .lru) {s s' : State K V} {g : Ghost K}
    (ho : OrdInv cfg s g) {k : K} (hq : s'.queue.Sublist (s.queue.filter (fun x => x ≠ k) ++ [k])) :
    OrdInv cfg s' ⟨g.n + 1, upd g.lastStore k (g.n + 1), upd g.lastUse k (g.n + 1)⟩ := by
  refine ⟨bounds_upd ho.1 k, bounds_upd ho.2.1 k, ?_⟩
  rw [Ghost.stamp_store]
  exact List.Pairwise.sublist hq (sortedBy_upd_push ho.2.2 (ho.stamp_le hp) k)

/-- **Every operation preserves the order invariant** (FIFO: all flavours; LRU: sync flavours, and the
    async flavour when a bound is configured). -/
theorem step_ordInv {cfg : Cfg} (hp : cfg.policy = .fifo ∨ cfg.policy = .lru) (hok : RefreshOK cfg)
    (tl : Tlru S) (size : V → Nat) (rs : List Nat) {s : State K V} {g : Ghost K} (hi : Inv s)
    (ho : OrdInv cfg s g) (op : Op K V) :
    OrdInv cfg (step cfg tl size rs s op).1 (gstep g op (step cfg tl size rs s op).2) := by
  cases op with
  | get k => exact get_ordInv hp hok hi ho k
  | insert k v => exact store_ordInv hp ho (store_queue_sublist hp tl size rs hi (Or.inl rfl))
  | insertMem k v => exact store_ordInv hp ho (store_queue_sublist hp tl size rs hi (Or.inr rfl))
  | clear => exact ho.of_sublist (List.nil_sublist _)
  | invalidateWith p => exact ho.of_sublist (invalidateWith_shrunk p hi).queue_sublist
  | tick ms => exact ho.of_sublist (List.Sublist.refl _)

/-- the order invariant holds after every history run from the empty cache (the predicate carried along
    also says which state has been reached: that is what lets `stamps_snoc` speak of the step taken) -/
theorem run_ordInv {cfg : Cfg} (hp : cfg.policy = .fifo ∨ cfg.policy = .lru) (hok : RefreshOK cfg)
    (tl : Tlru S) (size : V → Nat) (ops : List (Op K V × List Nat)) :
    OrdInv cfg (run cfg tl size (State.init : State K V) ops).1 (stamps cfg tl size ops) :=
  (run_induction (cfg := cfg) (tl := tl) (size := size)
    (P := fun h s => s = (run cfg tl size (State.init : State K V) h).1 ∧ Inv s ∧ OrdInv cfg s (stamps cfg tl size h))
    (fun h rs s op hP => by
      obtain ⟨hs, hi, ho⟩ := hP
      refine ⟨by rw [hs, run_append]; rfl, step_inv cfg tl size rs s op hi, ?_⟩
      rw [stamps_snoc, ← hs]; exact step_ordInv hp hok tl size rs hi ho op)
    [] State.init ops ⟨rfl, inv_init, ordInv_init cfg⟩).2.2

/-! ### Victims are older than survivors, for a whole store operation -/

theorem gstep_stamp_of_isStore {cfg : Cfg} {size : V → Nat} {op : Op K V} {k : K} (hop : IsStore cfg size op k)
    (g : Ghost K) (o : Out V) (p : Policy) : (gstep g op o).stamp p = upd (g.stamp p) k (g.n + 1) := by
  rcases hop with ⟨v, rfl⟩ | ⟨v, rfl, _⟩ <;> exact Ghost.stamp_store g p k

/-- **One store, any pressure.**  From a consistent state whose queue is sorted by the policy's stamp,
    a FIFO/LRU store (plain or memory-aware, not oversize) removes only keys whose stamp is smaller
    than the stamp of every key held afterwards (survivors and the newcomer, which carries the
    freshest stamp). -/
theorem store_victims_older {cfg : Cfg} (hp : cfg.policy = .fifo ∨ cfg.policy = .lru) (tl : Tlru S)
    (size : V → Nat) (rs : List Nat) {s : State K V} {g : Ghost K} (hi : Inv s) (ho : OrdInv cfg s g)
    {op : Op K V} {k : K} (hop : IsStore cfg size op k) :
    ∀ x y, x ∈ keys s.store → x ∉ keys (step cfg tl size rs s op).1.store →
      y ∈ keys (step cfg tl size rs s op).1.store →
      (gstep g op (step cfg tl size rs s op).2).stamp cfg.policy x <
        (gstep g op (step cfg tl size rs s op).2).stamp cfg.policy y := by
  have hsorted := sortedBy_upd_push ho.2.2 (ho.stamp_le hp) k
  have hi' := step_inv cfg tl size rs s op hi
  intro x y hx hnx hy
  rw [gstep_stamp_of_isStore hop]
  have hxq : x ∈ s.queue.filter (fun x => x ≠ k) ++ [k] := mem_filter_ne_append.mpr (Or.inl ((hi.2.2 x).mpr hx))
  exact older_of_suffix hsorted (store_queue_suffix hp tl size rs hi hop) x y hxq
    (fun hh => hnx ((hi'.2.2 x).mp hh)) ((hi'.2.2 y).mpr hy)

/-! ### Without a bound nothing is removed -/

/-- without any bound a store removes nothing (all flavours, all policies) -/
theorem store_unbounded_keeps (hl : cfg.limit = none) (hm : cfg.maxMem = none) (tl : Tlru S)
    (size : V → Nat) (rs : List Nat) (s : State K V) {op : Op K V} {k : K} (hop : IsStore cfg size op k) :
    ∀ x, x ∈ keys s.store → x ∈ keys (step cfg tl size rs s op).1.store := by
  intro x hx
  rcases hop with ⟨v, rfl⟩ | ⟨v, rfl, hno⟩
  · rw [step_insert, insert_eq_storeVia, storeVia_noevict (limitStep_none hl tl s.now _)]
    exact mem_keys_put.mpr (Or.inl hx)
  · rw [step_insertMem, insertMem_eq_storeVia hno, storeVia_noevict (evictPhase_unbounded hl hm tl size s.now _ rs)]
    exact mem_keys_put.mpr (Or.inl hx)

/-! ### Sync FIFO/LRU: the newcomer sits at the back of the queue and is never its own victim

  Used by `Wrap.storeOp_sync_fifo_lru_present` (C11: a refresh lands). -/

theorem ne_of_nodup_cons_append {h k : K} {rest : List K} (hn : (h :: (rest ++ [k])).Nodup) : h ≠ k := by
  intro hh; subst hh
  exact (List.nodup_cons.mp hn).1 (List.mem_append_right _ List.mem_cons_self)

theorem totalMem_singleton {m : Store K V} {k : K} {e : Entry V} (size : V → Nat) (h : InvMQ m [k])
    (hk : lookup k m = some e) : totalMem size m = size e.val := by
  have h0 : InvMQ (eraseKey k m) [] := by
    have := h.remove k
    rwa [filter_ne_of_head h.2.1] at this
  rw [← totalMem_eraseKey_of_lookup size h.1 hk, h0.totalMem_nil]
  exact Nat.zero_add _

theorem memLoop_keeps_last {cfg : Cfg} (hp : cfg.policy = .fifo ∨ cfg.policy = .lru) (tl : Tlru S)
    (size : V → Nat) (now maxM fuel : Nat) (rs : List Nat) {m : Store K V} {q' : List K} {k : K}
    {e : Entry V} (h : InvMQ m (q' ++ [k])) (hk : lookup k m = some e) (hsz : size e.val ≤ maxM) :
    (∃ q'', (memLoop cfg tl size now maxM 0 fuel rs m (q' ++ [k])).2.1 = q'' ++ [k]) ∧
    lookup k (memLoop cfg tl size now maxM 0 fuel rs m (q' ++ [k])).1 = some e := by
  -- the loop only evicts while over the bound; with `k` alone left it is not, so the head it pops is never `k`
  refine memLoop_rel (extra := 0)
    (R := fun m q m' q' => (∃ q0, q = q0 ++ [k]) → lookup k m = some e →
      (∃ q'', q' = q'' ++ [k]) ∧ lookup k m' = some e)
    (fun _ _ hq hl => ⟨hq, hl⟩) ?_ fuel rs h ⟨q', rfl⟩ hk
  intro m q m' q' r hinv hover _ ih hq hl
  obtain ⟨q0, rfl⟩ := hq
  cases q0 with
  | nil => rw [totalMem_singleton size hinv hl] at hover; exact absurd hsz hover
  | cons hd rest =>
    have hne : hd ≠ k := ne_of_nodup_cons_append hinv.2.1
    rw [List.cons_append, evictMem_head hp tl now r (k := hd) (rest := rest ++ [k]) hinv] at ih
    exact ih ⟨rest, rfl⟩ ((lookup_eraseKey_ne (Ne.symm hne) m).trans hl)

theorem limitStep_keeps_last {cfg : Cfg} (hp : cfg.policy = .fifo ∨ cfg.policy = .lru)
    (hf : cfg.flavour ≠ .async) (hl : cfg.limit ≠ some 0) (tl : Tlru S) (now r : Nat)
    {m : Store K V} {q' : List K} {k : K} (h : InvMQ m (q' ++ [k])) :
    lookup k (limitStep cfg tl now r m (q' ++ [k])).1 = lookup k m := by
  unfold limitStep
  cases hlim : cfg.limit with
  | none => rfl
  | some n =>
    simp only
    split
    · rename_i ho
      cases q' with
      | nil =>
        have hn : n ≠ 0 := fun hn => hl (by rw [hlim, hn])
        rw [overLimit_sync_iff hf] at ho
        exact absurd ho (by simp only [List.nil_append, List.length_singleton]; omega)
      | cons hd rest =>
        have hne : hd ≠ k := ne_of_nodup_cons_append h.2.1
        have hev := evictLimit_head hp tl now r (m := m) (k := hd) (rest := rest ++ [k]) h
        simp only [List.cons_append, hev]
        exact lookup_eraseKey_ne (Ne.symm hne) m
    · rfl

theorem evictPhase_keeps_last {cfg : Cfg} (hp : cfg.policy = .fifo ∨ cfg.policy = .lru)
    (hf : cfg.flavour ≠ .async) (hl : cfg.limit ≠ some 0) (tl : Tlru S) (size : V → Nat) (now : Nat)
    (rs : List Nat) {m : Store K V} {q' : List K} {k : K} {e : Entry V} (h : InvMQ m (q' ++ [k]))
    (hk : lookup k m = some e) (hsz : ∀ maxM, cfg.maxMem = some maxM → size e.val ≤ maxM) :
    lookup k (evictPhase cfg tl size now 0 rs m (q' ++ [k])).1 = some e := by
  unfold evictPhase
  split
  · rw [limitStep_keeps_last hp hf hl tl _ _ h]; exact hk
  · rename_i maxM hm
    have h1 := memLoop_keeps_last hp tl size now maxM ((q' ++ [k]).length + 1) rs h hk (hsz maxM hm)
    have h1i := memLoop_inv cfg tl size now maxM 0 ((q' ++ [k]).length + 1) rs h
    generalize memLoop cfg tl size now maxM 0 ((q' ++ [k]).length + 1) rs m (q' ++ [k]) = r1 at h1 h1i
    obtain ⟨m1, q1, rs1⟩ := r1
    obtain ⟨⟨q'', hq⟩, hk1⟩ := h1
    simp only at hq hk1 h1i ⊢
    subst hq
    rw [limitStep_keeps_last hp hf hl tl _ _ h1i]; exact hk1

/-! ### The next overflow of a full cache (C13) -/

/-- **A FIFO/LRU store into a full cache evicts the queue head.**  Consistent state, `limit = n`, exactly
    `n` entries, queue `a :: rest`, fresh key `k`: afterwards the queue is `rest ++ [k]` and the store
    holds the old keys without `a`, then `k`.  All flavours. -/
theorem insert_full_head {cfg : Cfg} (hp : cfg.policy = .fifo ∨ cfg.policy = .lru) (tl : Tlru S) (r : Nat)
    {s : State K V} (h : Inv s) {a : K} {rest : List K} (hq : s.queue = a :: rest) {k : K}
    (hk : k ∉ keys s.store) {n : Nat} (hl : cfg.limit = some n) (hfull : s.store.length = n) (v : V) :
    (insert cfg tl r s k v).queue = rest ++ [k] ∧
    keys (insert cfg tl r s k v).store = (keys s.store).filter (fun x => x ≠ a) ++ [k] := by
  have hkq : k ∉ s.queue := fun hh => hk ((h.2.2 k).mp hh)
  have hka : k ≠ a := by
    intro hh; apply hkq; rw [hq, hh]; exact List.mem_cons_self
  by_cases hf : cfg.flavour = .async
  · have ho : overLimit cfg n s.store (a :: rest) = true := by unfold overLimit; rw [hf]; simp [hfull]
    rw [insert_eq_storeVia, storeVia_async hf _ h, eraseKey_of_not_mem hk, filter_ne_of_not_mem hkq, hq,
      limitStep_head hp tl s.now r (hq ▸ h) hl ho]
    refine ⟨rfl, ?_⟩
    show keys (put k _ (eraseKey a s.store)) = _
    rw [keys_put, keys_eraseKey, filter_ne_of_not_mem fun hh => hk (List.mem_filter.mp hh).1]
  · have hq0 : erasePush k s.queue = a :: (rest ++ [k]) := by
      unfold erasePush
      rw [List.erase_of_not_mem hkq, hq]; rfl
    have h0 := InvMQ.put_erasePush h k (⟨v, stamp cfg s.now, 0⟩ : Entry V)
    rw [hq0] at h0
    have ho : overLimit cfg n (put k ⟨v, stamp cfg s.now, 0⟩ s.store) (a :: (rest ++ [k])) = true := by
      have hlen : (a :: (rest ++ [k])).length = n + 1 := by rw [h0.length_eq, length_put_of_not_mem hk, hfull]
      rw [overLimit_sync_iff hf, hlen]; exact Nat.lt_succ_self n
    rw [insert_eq_storeVia, storeVia_sync hf, hq0, limitStep_head hp tl s.now r h0 hl ho]
    refine ⟨rfl, ?_⟩
    show keys (eraseKey a (put k _ s.store)) = _
    rw [keys_eraseKey, keys_put, filter_ne_of_not_mem hk, List.filter_append]
    simp only [List.filter_cons, List.filter_nil, ne_eq, hka, not_false_eq_true, decide_true, if_true]

end Cachelito
