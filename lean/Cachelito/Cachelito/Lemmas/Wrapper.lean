/-
  Lemmas about the generated wrapper (`Cachelito.callFn`): what a lookup can do to the entry of one key
  (no bookkeeping invariant assumed), exact equations for the two paths of a call (served from the cache /
  body executed), which events a call's trace contains, what the engine store behind a call does (through
  `Hist.insert_sub` / `Hist.insertMem_sub`), and histories of calls of ONE function on its own cache
  (`runCalls`).  Everything lives in `namespace Cachelito.Wrap`.  Facts about the engine alone
  are in the engine's lemma files: a hit keeps values (`Lemmas/Inv.lean`), fresh entries are not expired and
  re-storing a held key never overflows (`Lemmas/Hist.lean`), a sync FIFO/LRU newcomer is never its own victim
  (`Lemmas/Order.lean`; C11: a refresh lands).
-/
import Cachelito.Wrapper
import Cachelito.Lemmas.Inv
import Cachelito.Lemmas.Order
import Cachelito.Lemmas.Hist
import Cachelito.Lemmas.Mem

set_option linter.unusedSectionVars false

namespace Cachelito.Wrap

-- for the `decide` examples of C09–C11, which compare traces
deriving instance DecidableEq for TraceEv

variable {K V S : Type} [DecidableEq K]

open Hist (Sub)

/-! ### The engine stores -/

theorem storeVia_noevict {cfg : Cfg} {ev : Store K V → List K → Store K V × List K} (hev : ∀ m q, ev m q = (m, q))
    (s : State K V) (k : K) (v : V) : (storeVia cfg ev s k v).store = put k ⟨v, stamp cfg s.now, 0⟩ s.store :=
  Cachelito.storeVia_noevict hev s k v

theorem eraseKey_put (k : K) (e : Entry V) (m : Store K V) : eraseKey k (put k e m) = eraseKey k m :=
  eraseKey_after_put k e m

theorem insertMem_oversize (cfg : Cfg) (tl : Tlru S) (size : V → Nat)
    (rs : List Nat) (s : State K V) (k : K) (v : V) (ho : oversize cfg size v = true) :
    lookup k (insertMem cfg tl size rs s k v).store = none := by
  rw [Hist.insertMem_oversize_store ho]; exact lookup_eraseKey_self k _

/-! ### What a lookup does -/

section
variable (cfg : Cfg) (s : State K V) (k : K)

theorem exists_of_map_val_eq {a b : Option (Entry V)} (h : a.map (·.val) = b.map (·.val)) {e : Entry V}
    (ha : a = some e) : ∃ e', b = some e' ∧ e'.val = e.val := by
  subst ha
  cases b with
  | none => cases h
  | some e' => exact ⟨e', rfl, (Option.some.inj h).symm⟩

/-- **The three outcomes of a lookup**: the key is absent (miss, store untouched); its entry is expired
    (miss, entry removed); its entry is live (hit with its value, hit counter bumped iff the policy counts
    hits). -/
theorem get_outcomes :
    (lookup k s.store = none ∧ (get cfg s k).2 = none ∧ (get cfg s k).1.store = s.store) ∨
    (∃ e, lookup k s.store = some e ∧ expired cfg s.now e = true ∧ (get cfg s k).2 = none ∧
      (get cfg s k).1.store = eraseKey k s.store) ∨
    (∃ e, lookup k s.store = some e ∧ expired cfg s.now e = false ∧ (get cfg s k).2 = some e.val ∧
      (get cfg s k).1.store = if cfg.policy.bumps then bumpHits k s.store else s.store) := by
  cases hl : lookup k s.store with
  | none => rw [get_miss hl]; exact Or.inl ⟨rfl, rfl, rfl⟩
  | some e =>
    cases hx : expired cfg s.now e with
    | false => rw [get_hit hl hx]; exact Or.inr (Or.inr ⟨e, rfl, hx, rfl, hitUpdate_store cfg k s.store s.queue⟩)
    | true => rw [get_expired hl hx]; exact Or.inr (Or.inl ⟨e, rfl, hx, rfl, Hist.removeBoth_store cfg k s.store s.queue⟩)

theorem get_now : (get cfg s k).1.now = s.now := Hist.get_now cfg s k

/-- A lookup never adds an entry and never changes a value: every entry held afterwards was held
    before with the same value (only hit counters move). -/
theorem get_sub_val {x : K} {e' : Entry V}
    (h : lookup x (get cfg s k).1.store = some e') : ∃ e, lookup x s.store = some e ∧ e.val = e'.val := by
  obtain ⟨e, he, hv, _⟩ := Hist.get_vb cfg s k x e' h
  exact ⟨e, he, hv.symm⟩

theorem get_absent (x : K) (h : lookup x s.store = none) :
    lookup x (get cfg s k).1.store = none := by
  cases hl : lookup x (get cfg s k).1.store with
  | none => rfl
  | some e' =>
    obtain ⟨e, he, _⟩ := get_sub_val cfg s k hl
    rw [h] at he; cases he

/-- a lookup that misses leaves the key absent (it was absent, or its expired entry was removed) -/
theorem get_none_absent (cfg : Cfg) (s : State K V) (k : K) (h : (get cfg s k).2 = none) :
    lookup k (get cfg s k).1.store = none := by
  rcases get_outcomes cfg s k with ⟨hl, _, hs⟩ | ⟨_, _, _, _, hs⟩ | ⟨_, _, _, hr, _⟩
  · rw [hs]; exact hl
  · rw [hs]; exact lookup_eraseKey_self k _
  · rw [hr] at h; cases h

/-- the value a lookup returns is still held under the key afterwards (where it came from is
    `Hist.get_some_elim`) -/
theorem get_some_held {v : V} (h : (get cfg s k).2 = some v) :
    ∃ e', lookup k (get cfg s k).1.store = some e' ∧ e'.val = v := by
  obtain ⟨e, hl, hx, hv⟩ := Hist.get_some_elim h
  have hs : (get cfg s k).1.store = if cfg.policy.bumps then bumpHits k s.store else s.store := by
    rw [get_hit hl hx]; exact hitUpdate_store cfg k s.store s.queue
  rw [hs]
  obtain ⟨e', h1, h2⟩ := exists_of_map_val_eq (lookup_hit_val cfg k k s.store).symm hl
  exact ⟨e', h1, h2.trans hv⟩

theorem get_keeps_nottl (ht : cfg.ttl = none) (s : State K V) (k x : K) {e : Entry V}
    (h : lookup x s.store = some e) : ∃ e', lookup x (get cfg s k).1.store = some e' ∧ e'.val = e.val := by
  rcases get_outcomes cfg s k with ⟨_, _, hs⟩ | ⟨e0, _, hx, _, _⟩ | ⟨_, _, _, _, hs⟩
  · rw [hs]; exact ⟨e, h, rfl⟩
  · rw [Hist.expired_nottl cfg ht] at hx; cases hx
  · rw [hs]; exact exists_of_map_val_eq (lookup_hit_val cfg k x s.store).symm h

end

/-! ### The two paths of a generated call -/

section
variable (spec : FnSpec) (tl : Tlru S) (size : V → Nat) (isOk : V → Bool) (rs : List Nat) (s : State K V) (c : CallIn K V)

/-- the engine store the macro selected (`insert_with_memory` / `insert`, resp. their `_result` forms) -/
def storeOp (spec : FnSpec) (tl : Tlru S) (size : V → Nat) (rs : List Nat) (s : State K V) (k : K) (v : V) :
    State K V :=
  if spec.useMem then insertMem spec.cfg tl size rs s k v else insert spec.cfg tl (rs.headD 0) s k v

/-- would the result of this call be handed to the engine if the body ran? -/
def wouldStore (spec : FnSpec) (isOk : V → Bool) (c : CallIn K V) : Bool :=
  shouldStore spec isOk (c.cacheIf c.key c.bodyVal) c.bodyVal

/-- does this call execute the body?  (lookup missed, or `invalidate_on` declared the cached value stale) -/
def runsBody (spec : FnSpec) (s : State K V) (c : CallIn K V) : Bool :=
  match (get spec.cfg s c.key).2 with
  | none => true
  | some cached => spec.hasInvalidateOn && c.invalidateOn c.key cached

/-- the `invalidate_on` consultation of this call, if any -/
def checkPart (spec : FnSpec) (s : State K V) (c : CallIn K V) : List (TraceEv K V) :=
  match (get spec.cfg s c.key).2 with
  | none => []
  | some cached =>
    if spec.hasInvalidateOn then [TraceEv.checkCalled c.key cached (c.invalidateOn c.key cached)] else []

/-- the `cache_if` consultation that follows an execution of the body, if a predicate is configured -/
def predPart (spec : FnSpec) (c : CallIn K V) : List (TraceEv K V) :=
  if spec.hasCacheIf then [TraceEv.predCalled c.key c.bodyVal (c.cacheIf c.key c.bodyVal)] else []

/-- the end of the trace of a call that ran the body: the store, if it happens, and the return -/
def tailPart (spec : FnSpec) (isOk : V → Bool) (c : CallIn K V) : List (TraceEv K V) :=
  if wouldStore spec isOk c then [TraceEv.stored c.key c.bodyVal, TraceEv.returned c.bodyVal false]
  else [TraceEv.returned c.bodyVal false]

theorem runsBody_of_none (h : (get spec.cfg s c.key).2 = none) : runsBody spec s c = true := by
  unfold runsBody; rw [h]

theorem runsBody_of_some {cached : V}
    (h : (get spec.cfg s c.key).2 = some cached) :
    runsBody spec s c = (spec.hasInvalidateOn && c.invalidateOn c.key cached) := by
  unfold runsBody; rw [h]

theorem runsBody_noinv (hI : spec.hasInvalidateOn = false) :
    runsBody spec s c = (get spec.cfg s c.key).2.isNone := by
  unfold runsBody
  cases (get spec.cfg s c.key).2 <;> simp [hI]

theorem checkPart_of_none (h : (get spec.cfg s c.key).2 = none) : checkPart spec s c = [] := by
  unfold checkPart; rw [h]

theorem checkPart_of_some {cached : V}
    (h : (get spec.cfg s c.key).2 = some cached) (hI : spec.hasInvalidateOn = true) :
    checkPart spec s c = [TraceEv.checkCalled c.key cached (c.invalidateOn c.key cached)] := by
  unfold checkPart; rw [h, hI]; rfl

theorem predPart_nopred (hC : spec.hasCacheIf = false) :
    predPart spec c = [] := by
  unfold predPart; rw [hC]; rfl

theorem predPart_pred (hC : spec.hasCacheIf = true) :
    predPart spec c = [TraceEv.predCalled c.key c.bodyVal (c.cacheIf c.key c.bodyVal)] := by
  unfold predPart; rw [hC]; rfl

theorem tailPart_stored (hw : wouldStore spec isOk c = true) :
    tailPart spec isOk c = [TraceEv.stored c.key c.bodyVal, TraceEv.returned c.bodyVal false] := by
  unfold tailPart; rw [hw]; rfl

theorem tailPart_not_stored
    (hw : wouldStore spec isOk c = false) : tailPart spec isOk c = [TraceEv.returned c.bodyVal false] := by
  unfold tailPart; rw [hw]; rfl

/-- **Body path.**  When the body runs, the call returns the body's value, its trace is
    `check? , bodyRun, pred?, stored?, returned`, and the state is the post-lookup state, passed through
    the engine store exactly when `shouldStore` holds. -/
theorem callFn_body (h : runsBody spec s c = true) :
    callFn spec tl size isOk rs s c =
      (if wouldStore spec isOk c then storeOp spec tl size rs (get spec.cfg s c.key).1 c.key c.bodyVal
         else (get spec.cfg s c.key).1,
       c.bodyVal,
       checkPart spec s c ++ [TraceEv.bodyRun] ++ predPart spec c ++ tailPart spec isOk c) := by
  unfold runsBody at h
  unfold callFn checkPart predPart tailPart wouldStore storeOp
  generalize get spec.cfg s c.key = g at h ⊢
  obtain ⟨s1, o⟩ := g
  cases o with
  | none =>
    simp only
    cases shouldStore spec isOk (c.cacheIf c.key c.bodyVal) c.bodyVal <;> rfl
  | some cached =>
    simp only [Bool.and_eq_true] at h
    simp only [h.1, h.2, if_true]
    cases shouldStore spec isOk (c.cacheIf c.key c.bodyVal) c.bodyVal <;> rfl

theorem hit_of_not_runsBody {spec : FnSpec} {s : State K V} {c : CallIn K V} (h : runsBody spec s c = false) :
    ∃ cached, (get spec.cfg s c.key).2 = some cached := by
  unfold runsBody at h
  cases hg : (get spec.cfg s c.key).2 with
  | none => rw [hg] at h; cases h
  | some cached => exact ⟨cached, rfl⟩

/-- **Cache path.**  When the body does not run, the call returns the value the lookup produced, the
    state is the post-lookup state, and the trace is `check?, returned (from cache)`. -/
theorem callFn_hit {cached : V} (hg : (get spec.cfg s c.key).2 = some cached)
    (h : runsBody spec s c = false) :
    callFn spec tl size isOk rs s c =
      ((get spec.cfg s c.key).1, cached, checkPart spec s c ++ [TraceEv.returned cached true]) := by
  unfold runsBody at h
  unfold callFn checkPart
  generalize get spec.cfg s c.key = g at h hg ⊢
  obtain ⟨s1, o⟩ := g
  cases hg
  cases hi : spec.hasInvalidateOn
  · rfl
  · simp only [hi, Bool.true_and] at h
    simp only [h, if_true, Bool.false_eq_true, if_false]; rfl

/-- **Cache path, spelled out**: the lookup produced `v` and no `invalidate_on` check declares it stale -/
theorem callFn_of_get_some {v : V} (hg : (get spec.cfg s c.key).2 = some v)
    (hs : spec.hasInvalidateOn = true → c.invalidateOn c.key v = false) :
    callFn spec tl size isOk rs s c =
      ((get spec.cfg s c.key).1, v,
       (if spec.hasInvalidateOn then [TraceEv.checkCalled c.key v false] else []) ++ [TraceEv.returned v true]) := by
  have hb := runsBody_of_some spec s c hg
  cases hi : spec.hasInvalidateOn with
  | false => rw [hi] at hb; rw [callFn_hit spec tl size isOk rs s c hg hb]; simp only [checkPart, hg, hi]; rfl
  | true =>
    rw [hi, hs hi] at hb
    rw [callFn_hit spec tl size isOk rs s c hg hb]; simp only [checkPart, hg, hi, hs hi]

theorem runsBody_of_absent (h : lookup c.key s.store = none) : runsBody spec s c = true :=
  runsBody_of_none spec s c (congrArg Prod.snd (get_miss h))

/-- **The state after a call**, both paths in one equation: the post-lookup state, passed through the engine
    store exactly when the body ran and `shouldStore` held. -/
theorem callFn_state :
    (callFn spec tl size isOk rs s c).1 =
      if runsBody spec s c && wouldStore spec isOk c
      then storeOp spec tl size rs (get spec.cfg s c.key).1 c.key c.bodyVal
      else (get spec.cfg s c.key).1 := by
  cases hb : runsBody spec s c
  · obtain ⟨cached, hg⟩ := hit_of_not_runsBody hb
    rw [callFn_hit spec tl size isOk rs s c hg hb]; rfl
  · rw [callFn_body spec tl size isOk rs s c hb]; rfl

theorem callFn_state_stored (hb : runsBody spec s c = true) (hw : wouldStore spec isOk c = true) :
    (callFn spec tl size isOk rs s c).1 = storeOp spec tl size rs (get spec.cfg s c.key).1 c.key c.bodyVal := by
  rw [callFn_state, hb, hw]; rfl

/-! ### Which events a call's trace contains -/

theorem mem_checkPart {spec : FnSpec} {s : State K V} {c : CallIn K V} {ev : TraceEv K V} :
    ev ∈ checkPart spec s c ↔
      spec.hasInvalidateOn = true ∧
        ∃ v, (get spec.cfg s c.key).2 = some v ∧ ev = .checkCalled c.key v (c.invalidateOn c.key v) := by
  unfold checkPart
  cases (get spec.cfg s c.key).2 with
  | none => simp
  | some v => cases spec.hasInvalidateOn <;> simp

theorem mem_predPart {spec : FnSpec} {c : CallIn K V} {ev : TraceEv K V} :
    ev ∈ predPart spec c ↔
      spec.hasCacheIf = true ∧ ev = .predCalled c.key c.bodyVal (c.cacheIf c.key c.bodyVal) := by
  unfold predPart
  cases spec.hasCacheIf <;> simp

theorem mem_tailPart {spec : FnSpec} {isOk : V → Bool} {c : CallIn K V} {ev : TraceEv K V} :
    ev ∈ tailPart spec isOk c ↔
      (wouldStore spec isOk c = true ∧ ev = .stored c.key c.bodyVal) ∨ ev = .returned c.bodyVal false := by
  unfold tailPart
  cases wouldStore spec isOk c <;> simp

/-- **The events of a call.**  Besides the `invalidate_on` consultation, a call that runs the body records
    `bodyRun`, the `cache_if` consultation, the store and the return of the fresh value; one that does not
    records only the return of the cached value. -/
theorem mem_trace_iff (ev : TraceEv K V) :
    ev ∈ (callFn spec tl size isOk rs s c).2.2 ↔
      ev ∈ checkPart spec s c ∨
      (if runsBody spec s c then ev = .bodyRun ∨ ev ∈ predPart spec c ∨ ev ∈ tailPart spec isOk c
       else ∃ v, (get spec.cfg s c.key).2 = some v ∧ ev = .returned v true) := by
  cases hb : runsBody spec s c
  · obtain ⟨cached, hg⟩ := hit_of_not_runsBody hb
    rw [callFn_hit spec tl size isOk rs s c hg hb, hg]
    simp
  · rw [callFn_body spec tl size isOk rs s c hb]
    simp

/-- a `stored` event in a trace is this call's key and body value, and occurs iff the body ran and
    `shouldStore` held -/
theorem stored_mem_iff (k : K) (v : V) :
    TraceEv.stored k v ∈ (callFn spec tl size isOk rs s c).2.2 ↔
      (runsBody spec s c = true ∧ wouldStore spec isOk c = true ∧ k = c.key ∧ v = c.bodyVal) := by
  rw [mem_trace_iff, mem_checkPart, mem_predPart, mem_tailPart]
  cases runsBody spec s c <;> simp

theorem bodyRun_mem_iff :
    TraceEv.bodyRun ∈ (callFn spec tl size isOk rs s c).2.2 ↔ runsBody spec s c = true := by
  rw [mem_trace_iff, mem_checkPart, mem_predPart, mem_tailPart]
  cases runsBody spec s c <;> simp

theorem served_mem_iff (v : V) :
    TraceEv.returned v true ∈ (callFn spec tl size isOk rs s c).2.2 ↔
      (runsBody spec s c = false ∧ (get spec.cfg s c.key).2 = some v) := by
  rw [mem_trace_iff, mem_checkPart, mem_predPart, mem_tailPart]
  cases runsBody spec s c <;> simp

theorem checkCalled_mem {k : K} {v : V} {st : Bool}
    (h : TraceEv.checkCalled k v st ∈ (callFn spec tl size isOk rs s c).2.2) :
    spec.hasInvalidateOn = true ∧ k = c.key ∧ (get spec.cfg s c.key).2 = some v ∧
      st = c.invalidateOn c.key v := by
  rw [mem_trace_iff] at h
  rcases h with h | h
  · obtain ⟨hi, v', hg, he⟩ := mem_checkPart.mp h
    cases he
    exact ⟨hi, rfl, hg, rfl⟩
  · exfalso
    cases hb : runsBody spec s c <;> simp [hb, mem_predPart, mem_tailPart] at h

/-- events that record an execution: the body, or the `cache_if` predicate -/
def TraceEv.isExec : TraceEv K V → Bool
  | .bodyRun => true
  | .predCalled _ _ _ => true
  | _ => false

theorem filter_isExec_checkPart :
    (checkPart spec s c).filter TraceEv.isExec = [] := by
  unfold checkPart
  cases (get spec.cfg s c.key).2 with
  | none => rfl
  | some v => cases spec.hasInvalidateOn <;> rfl

theorem filter_isExec_predPart :
    (predPart spec c).filter TraceEv.isExec = predPart spec c := by
  unfold predPart
  cases spec.hasCacheIf <;> rfl

theorem filter_isExec_tailPart :
    (tailPart spec isOk c).filter TraceEv.isExec = [] := by
  unfold tailPart
  cases wouldStore spec isOk c <;> rfl

/-- **The execution events of a call** are `bodyRun` followed by the `cache_if` consultation if the body
    ran, and none otherwise. -/
theorem filter_isExec_trace :
    (callFn spec tl size isOk rs s c).2.2.filter TraceEv.isExec =
      if runsBody spec s c then TraceEv.bodyRun :: predPart spec c else [] := by
  cases hb : runsBody spec s c
  · obtain ⟨cached, hg⟩ := hit_of_not_runsBody hb
    rw [callFn_hit spec tl size isOk rs s c hg hb, if_neg Bool.false_ne_true]
    simp only [List.filter_append, filter_isExec_checkPart]; rfl
  · rw [callFn_body spec tl size isOk rs s c hb, if_pos rfl]
    simp only [List.filter_append, filter_isExec_checkPart, filter_isExec_predPart, filter_isExec_tailPart,
      List.append_nil]
    rfl

/-! ### The engine store behind a call -/

/-- what the engine store does to each key, whichever of the two stores the macro selected (the
    oversize path of the memory-aware store, which stores nothing, included) -/
theorem storeOp_sub (k : K) (v : V) :
    Sub (storeOp spec tl size rs s k v).store (put k ⟨v, stamp spec.cfg s.now, 0⟩ s.store) := by
  unfold storeOp
  split
  · exact Hist.insertMem_sub spec.cfg tl size rs s k v
  · exact Hist.insert_sub spec.cfg tl _ s k v

/-- no eviction pressure: no entry limit and no effective memory bound (`max_memory` absent, or the
    plain store selected) -/
def NoEvict (spec : FnSpec) : Prop :=
  spec.cfg.limit = none ∧ (spec.cfg.maxMem = none ∨ spec.useMem = false)

/-- no eviction pressure and no expiry -/
def NoPressure (spec : FnSpec) : Prop := NoEvict spec ∧ spec.cfg.ttl = none

theorem storeOp_noevict (hne : NoEvict spec) (tl : Tlru S) (size : V → Nat)
    (rs : List Nat) (s : State K V) (k : K) (v : V) :
    (storeOp spec tl size rs s k v).store = put k ⟨v, stamp spec.cfg s.now, 0⟩ s.store := by
  unfold storeOp
  split
  · rename_i hu
    rcases hne.2 with hm | hm
    · have hov : oversize spec.cfg size v = false := by unfold oversize; rw [hm]
      rw [insertMem_eq_storeVia hov]
      exact storeVia_noevict (evictPhase_unbounded hne.1 hm tl size _ _ rs) s k v
    · rw [hm] at hu; cases hu
  · rw [insert_eq_storeVia]
    exact storeVia_noevict (limitStep_none hne.1 tl _ _) s k v

theorem storeOp_async_self (hf : spec.cfg.flavour = .async) (tl : Tlru S) (size : V → Nat)
    (rs : List Nat) (s : State K V) (k : K) (v : V)
    (hno : spec.useMem = true → oversize spec.cfg size v = false) :
    lookup k (storeOp spec tl size rs s k v).store = some ⟨v, stamp spec.cfg s.now, 0⟩ := by
  unfold storeOp
  split
  · rename_i hu
    rw [insertMem_eq_storeVia (hno hu)]; exact storeVia_async_self hf _ s k v
  · rw [insert_eq_storeVia]; exact storeVia_async_self hf _ s k v

theorem storeOp_now (k : K) (v : V) : (storeOp spec tl size rs s k v).now = s.now := by
  unfold storeOp
  split
  · exact (Hist.insertMem_frame _ _ _ _ _ _ _).1
  · exact (Hist.insert_frame _ _ _ _ _ _).1

theorem callFn_now : (callFn spec tl size isOk rs s c).1.now = s.now := by
  rw [callFn_state]
  split
  · rw [storeOp_now, get_now]
  · exact get_now _ _ _

theorem callFn_inv (h : Inv s) : Inv (callFn spec tl size isOk rs s c).1 := by
  have hg := get_inv spec.cfg s c.key h
  rw [callFn_state]
  split
  · unfold storeOp
    split
    · exact insertMem_inv _ _ _ _ _ _ _ hg
    · exact insert_inv _ _ _ _ _ _ hg
  · exact hg

/-! ### Histories of calls of one function on its own cache -/

/-- one event of a single-function history: a call (with the random draws its store may consume) or a
    clock tick -/
inductive WEv (K V : Type)
  | call (c : CallIn K V) (rs : List Nat)
  | tick (ms : Nat)

/-- advance the virtual clock -/
def tickState (ms : Nat) (s : State K V) : State K V := { s with now := s.now + ms }

/-- run a history of calls of `spec` and clock ticks; the output lists, per call, the returned value and
    the trace -/
def runCalls (spec : FnSpec) (tl : Tlru S) (size : V → Nat) (isOk : V → Bool) :
    State K V → List (WEv K V) → State K V × List (V × List (TraceEv K V))
  | s, [] => (s, [])
  | s, .call c rs :: h =>
    let r := callFn spec tl size isOk rs s c
    let r2 := runCalls spec tl size isOk r.1 h
    (r2.1, (r.2.1, r.2.2) :: r2.2)
  | s, .tick ms :: h => runCalls spec tl size isOk (tickState ms s) h

/-- the calls of a history, in order -/
def callsOf : List (WEv K V) → List (CallIn K V)
  | [] => []
  | .call c _ :: h => c :: callsOf h
  | .tick _ :: h => callsOf h

theorem callsOf_append (a b : List (WEv K V)) : callsOf (a ++ b) = callsOf a ++ callsOf b := by
  induction a with
  | nil => rfl
  | cons e a ih => cases e <;> simp [callsOf, ih]

theorem runCalls_append (a b : List (WEv K V)) :
    (runCalls spec tl size isOk s (a ++ b)).1 =
      (runCalls spec tl size isOk (runCalls spec tl size isOk s a).1 b).1 := by
  induction a generalizing s with
  | nil => rfl
  | cons e a ih => cases e <;> exact ih _

/-- **Invariants of histories.**  A state property kept by every tick, and by every call that satisfies
    `Q`, holds after any history all of whose calls satisfy `Q`. -/
theorem runCalls_invariant (P : State K V → Prop) (Q : CallIn K V → Prop)
    (hcall : ∀ s c rs, Q c → P s → P (callFn spec tl size isOk rs s c).1)
    (htick : ∀ s ms, P s → P (tickState ms s))
    (h : List (WEv K V)) (s : State K V) (hQ : ∀ c ∈ callsOf h, Q c) (hs : P s) :
    P (runCalls spec tl size isOk s h).1 := by
  induction h generalizing s with
  | nil => exact hs
  | cons ev h ih =>
    cases ev with
    | call c rs =>
      exact ih _ (fun c' hc' => hQ c' (List.mem_cons_of_mem _ hc')) (hcall s c rs (hQ c List.mem_cons_self) hs)
    | tick ms => exact ih _ hQ (htick s ms hs)

/-- every state reached by a single-function history from a consistent state is consistent -/
theorem runCalls_inv (spec : FnSpec) (tl : Tlru S) (size : V → Nat) (isOk : V → Bool)
    (s : State K V) (h : List (WEv K V)) (hi : Inv s) : Inv (runCalls spec tl size isOk s h).1 :=
  runCalls_invariant spec tl size isOk Inv (fun _ => True)
    (fun s c rs _ hs => callFn_inv spec tl size isOk rs s c hs) (fun _ _ hs => hs) h s (fun _ _ => trivial) hi

/-- every value held under `k` satisfies `A` (vacuous when `k` is absent) -/
def HeldSat (k : K) (A : V → Prop) (s : State K V) : Prop := ∀ e, lookup k s.store = some e → A e.val

theorem heldSat_false_iff (k : K) (s : State K V) : HeldSat k (fun _ => False) s ↔ lookup k s.store = none := by
  unfold HeldSat
  cases lookup k s.store <;> simp

theorem heldSat_init (k : K) (A : V → Prop) : HeldSat k A (State.init : State K V) :=
  fun _ he => nomatch he

/-- One call keeps "every value held under `k` satisfies `A`", provided that — if it is a call for `k`
    whose result would be stored — its body value satisfies `A`. -/
theorem callFn_heldSat (k : K) (A : V → Prop)
    (hc : c.key = k → wouldStore spec isOk c = true → A c.bodyVal) (h : HeldSat k A s) :
    HeldSat k A (callFn spec tl size isOk rs s c).1 := by
  have hg : HeldSat k A (get spec.cfg s c.key).1 := by
    intro e' he'
    obtain ⟨e, he, hv⟩ := get_sub_val spec.cfg s c.key he'
    rw [← hv]; exact h e he
  rw [callFn_state]
  split
  · rename_i hcond
    simp only [Bool.and_eq_true] at hcond
    intro e he
    rcases (storeOp_sub spec tl size rs _ c.key c.bodyVal).put_cases he with ⟨hk, hev⟩ | ⟨_, hold⟩
    · rw [hev]; exact hc hk.symm hcond.2
    · exact hg e hold
  · exact hg

/-- **Histories.**  Over any history, "every value held under `k` satisfies `A`" is kept provided every
    call for `k` whose result would be stored has a body value satisfying `A`. -/
theorem runCalls_heldSat (k : K)
    (A : V → Prop) (h : List (WEv K V)) (s : State K V)
    (hc : ∀ c ∈ callsOf h, c.key = k → wouldStore spec isOk c = true → A c.bodyVal)
    (hs : HeldSat k A s) : HeldSat k A (runCalls spec tl size isOk s h).1 :=
  runCalls_invariant spec tl size isOk (HeldSat k A) _
    (fun s c rs hq hs => callFn_heldSat spec tl size isOk rs s c k A hq hs) (fun _ _ hs => hs) h s hc hs

/-- `k` is held with value `v` -/
def ValAt (k : K) (v : V) (s : State K V) : Prop := ∃ e, lookup k s.store = some e ∧ e.val = v

/-- does the call leave an entry of `k` with value `v` alone?  Yes if it is for another key; for `k`
    itself, if no `invalidate_on` check declares `v` stale.  Nothing is asked about what a call for `k` would
    store: without a TTL such a call is served (`not_runsBody_of_valAt`) and stores nothing. -/
def Keeps (spec : FnSpec) (k : K) (v : V) (c : CallIn K V) : Prop :=
  c.key = k → (spec.hasInvalidateOn = false ∨ c.invalidateOn k v = false)

/-- without a TTL, a call for a held key whose value no `invalidate_on` check declares stale does not
    run the body -/
theorem not_runsBody_of_valAt (ht : spec.cfg.ttl = none) (s : State K V) (c : CallIn K V)
    (v : V) (hk : Keeps spec c.key v c) (h : ValAt c.key v s) :
    (get spec.cfg s c.key).2 = some v ∧ runsBody spec s c = false := by
  obtain ⟨e, he, hv⟩ := h
  have hget : (get spec.cfg s c.key).2 = some v := by
    rw [← hv]; exact (Hist.get_served_iff he).mpr (Hist.expired_nottl spec.cfg ht _ _)
  refine ⟨hget, ?_⟩
  rw [runsBody_of_some spec s c hget]
  rcases hk rfl with h1 | h1 <;> simp [h1]

theorem callFn_valAt (hnp : NoPressure spec) (tl : Tlru S) (size : V → Nat) (isOk : V → Bool)
    (rs : List Nat) (s : State K V) (c : CallIn K V) (k : K) (v : V) (hk : Keeps spec k v c)
    (h : ValAt k v s) : ValAt k v (callFn spec tl size isOk rs s c).1 := by
  have hg : ValAt k v (get spec.cfg s c.key).1 := by
    obtain ⟨e, he, hv⟩ := h
    obtain ⟨e1, he1, hv1⟩ := get_keeps_nottl spec.cfg hnp.2 s c.key k he
    exact ⟨e1, he1, hv1.trans hv⟩
  rw [callFn_state]
  split
  · rename_i hcond
    have hck : c.key ≠ k := by
      intro hck; subst hck
      rw [(not_runsBody_of_valAt spec hnp.2 s c v hk h).2] at hcond
      cases hcond
    obtain ⟨e1, he1, hv1⟩ := hg
    exact ⟨e1, by rw [storeOp_noevict spec hnp.1, lookup_put_ne (Ne.symm hck)]; exact he1, hv1⟩
  · exact hg

theorem runCalls_valAt (hnp : NoPressure spec) (tl : Tlru S) (size : V → Nat) (isOk : V → Bool)
    (k : K) (v : V) (h : List (WEv K V)) (s : State K V)
    (hc : ∀ c ∈ callsOf h, Keeps spec k v c) (hs : ValAt k v s) :
    ValAt k v (runCalls spec tl size isOk s h).1 :=
  runCalls_invariant spec tl size isOk (ValAt k v) _
    (fun s c rs hq hs => callFn_valAt spec hnp tl size isOk rs s c k v hq hs) (fun _ _ hs => hs) h s hc hs

/-- without a TTL, a call for a held key whose value no `invalidate_on` check declares stale is served
    from the cache: it returns the held value and the body does not run -/
theorem callFn_served (ht : spec.cfg.ttl = none) (tl : Tlru S) (size : V → Nat)
    (isOk : V → Bool) (rs : List Nat) (s : State K V) (c : CallIn K V) (v : V)
    (hk : Keeps spec c.key v c) (h : ValAt c.key v s) :
    (callFn spec tl size isOk rs s c).2 =
      (v, (if spec.hasInvalidateOn then [TraceEv.checkCalled c.key v false] else []) ++
            [TraceEv.returned v true]) := by
  obtain ⟨hget, _⟩ := not_runsBody_of_valAt spec ht s c v hk h
  rw [callFn_of_get_some spec tl size isOk rs s c hget
    fun hi => (hk rfl).resolve_left fun h0 => Bool.noConfusion (h0.symm.trans hi)]

/-- **Stored, then served.**  Without eviction pressure or expiry: once a call has run the body and its
    result was handed to the engine, then after any further history whose calls leave that entry alone
    (`Keeps`: other keys, or the same key with no `invalidate_on` check declaring it stale), a call for
    the key that also `Keeps` it returns that value from the cache; its trace is the (non-stale)
    `invalidate_on` consultation, if configured, and `returned (from cache)` — no body, no predicate. -/
theorem stored_then_served (hnp : NoPressure spec) (tl : Tlru S) (size : V → Nat)
    (isOk : V → Bool) (s : State K V) (c : CallIn K V) (rs : List Nat)
    (hb : runsBody spec s c = true) (hw : wouldStore spec isOk c = true)
    (h2 : List (WEv K V)) (hkeep : ∀ c0 ∈ callsOf h2, Keeps spec c.key c.bodyVal c0)
    (c' : CallIn K V) (rs' : List Nat) (hk : c'.key = c.key) (hkeep' : Keeps spec c.key c.bodyVal c') :
    (callFn spec tl size isOk rs'
        (runCalls spec tl size isOk (callFn spec tl size isOk rs s c).1 h2).1 c').2 =
      (c.bodyVal, (if spec.hasInvalidateOn then [TraceEv.checkCalled c.key c.bodyVal false] else []) ++
            [TraceEv.returned c.bodyVal true]) := by
  have hstore : ValAt c.key c.bodyVal (callFn spec tl size isOk rs s c).1 := by
    rw [callFn_state_stored spec tl size isOk rs s c hb hw]
    exact ⟨_, by rw [storeOp_noevict spec hnp.1]; exact lookup_put_self _ _ _, rfl⟩
  have hlater := runCalls_valAt spec hnp tl size isOk c.key c.bodyVal h2 _ hkeep hstore
  rw [← hk] at hlater hkeep' ⊢
  exact callFn_served spec hnp.2 tl size isOk rs' _ c' c.bodyVal hkeep' hlater

theorem runCalls_length (h : List (WEv K V)) :
    (runCalls spec tl size isOk s h).2.length = (callsOf h).length := by
  induction h generalizing s with
  | nil => rfl
  | cons ev h ih =>
    cases ev with
    | call c rs => simp only [runCalls, callsOf, List.length_cons, ih]
    | tick ms => exact ih _

theorem runCalls_forall_zip (Q : CallIn K V → V × List (TraceEv K V) → Prop)
    (hQ : ∀ (s : State K V) (c : CallIn K V) (rs : List Nat), Q c (callFn spec tl size isOk rs s c).2)
    (s : State K V) (h : List (WEv K V)) :
    ∀ p ∈ (callsOf h).zip (runCalls spec tl size isOk s h).2, Q p.1 p.2 := by
  induction h generalizing s with
  | nil => intro p hp; cases hp
  | cons ev h ih =>
    cases ev with
    | call c rs =>
      intro p hp
      rcases List.mem_cons.mp hp with hp | hp
      · subst hp; exact hQ s c rs
      · exact ih _ p hp
    | tick ms => exact ih _

/-! ### `shouldStore` in the configurations the properties fix -/

/-- Result function, no `cache_if`: stored iff `Ok` (sync via `insert_result*`, async via `is_ok()`) -/
theorem wouldStore_result_nopred (hR : spec.isResult = true) (hC : spec.hasCacheIf = false) :
    wouldStore spec isOk c = isOk c.bodyVal := by
  unfold wouldStore shouldStore
  cases spec.isAsync <;> simp [hR, hC]

/-- no `cache_if`, not a (recognised) Result: always stored -/
theorem wouldStore_plain
    (hR : spec.isResult = false) (hC : spec.hasCacheIf = false) : wouldStore spec isOk c = true := by
  unfold wouldStore shouldStore
  cases spec.isAsync <;> simp [hR, hC]

/-! ### Freshly stored entries are not expired -/

theorem get_fresh (cfg : Cfg) (ht : cfg.ttl ≠ some 0) (s : State K V) (k : K) (v : V) (hits : Nat)
    (h : lookup k s.store = some ⟨v, stamp cfg s.now, hits⟩) : (get cfg s k).2 = some v :=
  (Hist.get_served_iff h).mpr (Hist.expired_fresh cfg ht s.now v hits)

end

/-! ### Sync FIFO/LRU: the newcomer sits at the back of the queue and is never its own victim -/

/-- **Sync FIFO/LRU, limit ≥ 1, value not oversize:** after the engine store the fresh entry is held —
    the newcomer is at the back of the queue and evictions pop the front. -/
theorem storeOp_sync_fifo_lru_present (spec : FnSpec) (hp : spec.cfg.policy = .fifo ∨ spec.cfg.policy = .lru)
    (hf : spec.cfg.flavour ≠ .async) (hl : spec.cfg.limit ≠ some 0) (tl : Tlru S) (size : V → Nat)
    (rs : List Nat) (s : State K V) (k : K) (v : V) (hi : Inv s)
    (hno : spec.useMem = true → oversize spec.cfg size v = false) :
    lookup k (storeOp spec tl size rs s k v).store = some ⟨v, stamp spec.cfg s.now, 0⟩ := by
  have h0 : InvMQ (put k (⟨v, stamp spec.cfg s.now, 0⟩ : Entry V) s.store) (s.queue.erase k ++ [k]) :=
    InvMQ.put_erasePush hi k _
  have hk0 : lookup k (put k (⟨v, stamp spec.cfg s.now, 0⟩ : Entry V) s.store) = some ⟨v, stamp spec.cfg s.now, 0⟩ :=
    lookup_put_self _ _ _
  unfold storeOp
  split
  · rename_i hu
    have hno' := hno hu
    rw [insertMem_eq_storeVia hno', storeVia_sync hf, if_neg hf]
    refine evictPhase_keeps_last hp hf hl tl size s.now rs h0 hk0 (fun maxM hm => ?_)
    unfold oversize at hno'
    rw [hm] at hno'
    exact Nat.le_of_not_gt (by simpa using hno')
  · rw [insert_eq_storeVia, storeVia_sync hf]
    exact (limitStep_keeps_last hp hf hl tl s.now _ h0).trans hk0

end Cachelito.Wrap
