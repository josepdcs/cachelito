/-
  Lemmas about the fine-grained interleaving model `Cachelito.ConcDataFine` (C18 at the granularity of the
  nested store-lock sections of the sync `insert_with_memory`).

  A system step is described once (`cstepFine_mid`, inversion `cstepFine_some`), a micro-step once
  (`FineMicro`, `microF_spec`): the micro-step of `ConcData`, or one of the five steps inside the split queue
  section.  Every invariant is proved by cases on that description; in the first case it is the corresponding
  lemma of `Lemmas/ConcData`.  The fine model has states without a coarse analogue (a store write between two
  loop iterations), so the coarse invariants are not transported by a simulation.

  `FThread`, `FState`, `FState.start`, `QuiescentF`, `AllDoneF` and their boolean versions are `ConcData`'s
  `Thread`, `CState`, … with `FPend` for `Pend` and nothing else changed; `crunFine_invariant` and `forall_startF`
  are the twins of `crunWith_invariant` and `forall_start`.

  §1  shape of `cstepFine`, lifting of invariants along schedules, the queue mutex
  §2  shape of `microF`; store-only steps
  §3  values
  §4  the in-flight invariant `SyncInv` + the local facts a thread inside its queue section relies on
  §5  the entry bound with stores in flight and a queue section in progress
  §6  the memory bound (ghost "not yet past the final fitting read" keys)
  §7  well-formedness, quiescence
  §8  one thread alone computes `trackMemStep`; the coarse model is the uninterrupted fine model
-/
import Cachelito.ConcDataFine
import Cachelito.Lemmas.ConcData

set_option linter.unusedSectionVars false

namespace Cachelito.ConcDataFine
open Cachelito Cachelito.ConcData

variable {K V S : Type} [DecidableEq K]
variable {cfg : Cfg} {tl : Tlru S} {size : V → Nat}

/-! ## §1 Shape of a step -/

/-- the stepping thread after a micro-step with result `r` -/
def applyRes (op : Op K V) (rs : List Nat) (rest : List (Op K V × List Nat)) (d : List (Op K V × Out V)) :
    FRes K V → FThread K V
  | .more p => ⟨(op, rs) :: rest, some p, d⟩
  | .fin op' o => ⟨rest, none, d ++ [(op', o)]⟩

theorem applyRes_pend (op : Op K V) (rs : List Nat) (rest : List (Op K V × List Nat)) (d : List (Op K V × Out V))
    (r : FRes K V) : (applyRes op rs rest d r).pend = resPend r := by cases r <;> rfl

/-- **The step of the thread at position `|l1|`** (at the head of its program): refused if its micro-step needs
    the queue mutex while another thread is inside a queue section; otherwise one micro-step on the shared
    state, and the thread list changes at that thread only. -/
theorem cstepFine_mid (s : State K V) (l1 l2 : List (FThread K V))
    (op : Op K V) (rs : List Nat) (rest : List (Op K V × List Nat)) (pend : Option (FPend K V))
    (d : List (Op K V × Out V)) :
    cstepFine cfg tl size ⟨s, l1 ++ ⟨(op, rs) :: rest, pend, d⟩ :: l2⟩ l1.length =
      if needsO cfg op pend && !(l1 ++ l2).all (fun t => !holdsO t.pend) then none
      else some ⟨(microF cfg tl size s op rs pend).1,
                 l1 ++ applyRes op rs rest d (microF cfg tl size s op rs pend).2 :: l2⟩ := by
  have her : (l1 ++ (⟨(op, rs) :: rest, pend, d⟩ : FThread K V) :: l2).eraseIdx l1.length = l1 ++ l2 := by
    rw [List.eraseIdx_append_of_length_le (Nat.le_refl _)]; simp
  simp only [cstepFine, othersFree, her, List.getElem?_append_right (Nat.le_refl _), Nat.sub_self,
    List.getElem?_cons_zero]
  split
  · rfl
  · generalize microF cfg tl size s op rs pend = r
    obtain ⟨s', r⟩ := r
    cases r <;> simp [applyRes]

theorem cstepFine_some {c c' : FState K V} {i : Nat}
    (h : cstepFine cfg tl size c i = some c') :
    ∃ l1 l2 op rs rest pend d, c.threads = l1 ++ ⟨(op, rs) :: rest, pend, d⟩ :: l2 ∧
      (needsO cfg op pend = true → ∀ x, x ∈ l1 ++ l2 → holdsO x.pend = false) ∧
      c' = ⟨(microF cfg tl size c.shared op rs pend).1,
            l1 ++ applyRes op rs rest d (microF cfg tl size c.shared op rs pend).2 :: l2⟩ := by
  obtain ⟨s, ts⟩ := c
  cases ht : ts[i]? with
  | none => simp [cstepFine, ht] at h
  | some t =>
    obtain ⟨l1, l2, rfl, rfl, _⟩ := split_of_getElem? ht
    obtain ⟨prog, pend, d⟩ := t
    cases prog with
    | nil => simp [cstepFine] at h
    | cons a rest =>
      obtain ⟨op, rs⟩ := a
      rw [cstepFine_mid] at h
      split at h
      · cases h
      · rename_i hfree
        refine ⟨l1, l2, op, rs, rest, pend, d, rfl, ?_, (Option.some.inj h).symm⟩
        intro hn x hx
        cases hall : (l1 ++ l2).all (fun t => !holdsO t.pend) with
        | false => rw [hn, hall] at hfree; exact absurd rfl hfree
        | true => simpa using List.all_eq_true.mp hall x hx

/-- `cstepFine_mid` when no other thread is inside a queue section: the step is enabled whatever it needs (used
    to run a thread uninterrupted, §8) -/
theorem cstepFine_at {s : State K V} {l1 l2 : List (FThread K V)}
    {op : Op K V} {rs : List Nat} {rest : List (Op K V × List Nat)} {pend : Option (FPend K V)}
    {d : List (Op K V × Out V)} (hfree : ∀ x, x ∈ l1 ++ l2 → holdsO x.pend = false) :
    cstepFine cfg tl size ⟨s, l1 ++ ⟨(op, rs) :: rest, pend, d⟩ :: l2⟩ l1.length =
      some ⟨(microF cfg tl size s op rs pend).1,
            l1 ++ applyRes op rs rest d (microF cfg tl size s op rs pend).2 :: l2⟩ := by
  have : (l1 ++ l2).all (fun t => !holdsO t.pend) = true :=
    List.all_eq_true.mpr (fun x hx => by rw [hfree x hx]; rfl)
  rw [cstepFine_mid, this, Bool.not_true, Bool.and_false]
  rfl

theorem crunFine_invariant (cfg : Cfg) (tl : Tlru S) (size : V → Nat) (P : FState K V → Prop)
    (hstep : ∀ c i c', P c → cstepFine cfg tl size c i = some c' → P c')
    (sch : List ThreadId) (c : FState K V) (h : P c) : P (crunFine cfg tl size sch c) := by
  induction sch generalizing c with
  | nil => exact h
  | cons i sch ih =>
    simp only [crunFine]
    cases hs : cstepFine cfg tl size c i with
    | none => exact ih c h
    | some c' => exact ih c' (hstep c i c' h hs)

theorem forall_startF {T : FThread K V → Prop} (s : State K V) {progs : List (List (Op K V × List Nat))}
    (h : ∀ prog, prog ∈ progs → T (FThread.start prog)) : ∀ t, t ∈ (FState.start s progs).threads → T t := by
  intro t ht
  obtain ⟨prog, hprog, rfl⟩ := List.mem_map.mp ht
  exact h prog hprog

/-! ### keys collected from the local states -/

theorem keysBy_perm_mid (g : Option (FPend K V) → List K) (l1 l2 : List (FThread K V)) (t : FThread K V) :
    (keysBy g (l1 ++ t :: l2)).Perm (g t.pend ++ keysBy g (l1 ++ l2)) :=
  List.perm_middle.flatMap_right _

theorem keysBy_eq_nil {g : Option (FPend K V) → List K} {l : List (FThread K V)}
    (h : ∀ t, t ∈ l → g t.pend = []) : keysBy g l = [] := by
  unfold keysBy
  rw [List.flatMap_eq_nil_iff]
  exact h

theorem hkeys_eq_nil_iff {p : Option (FPend K V)} : hkeys p = [] ↔ holdsO p = false := by
  cases p with
  | none => exact ⟨fun _ => rfl, fun _ => rfl⟩
  | some fp => cases fp with
    | base p => exact ⟨fun _ => rfl, fun _ => rfl⟩
    | _ => exact ⟨nofun, nofun⟩

theorem holdsO_of_hkeys_nil {p : Option (FPend K V)} (h : hkeys p = []) : holdsO p = false :=
  hkeys_eq_nil_iff.mp h

theorem holdKeys_free {l : List (FThread K V)} (h : ∀ x, x ∈ l → holdsO x.pend = false) : holdKeys l = [] :=
  keysBy_eq_nil (fun t ht => hkeys_eq_nil_iff.mpr (h t ht))

theorem keysBy_start (g : Option (FPend K V) → List K) (hg : g none = []) (s : State K V)
    (progs : List (List (Op K V × List Nat))) : keysBy g (FState.start s progs).threads = [] :=
  keysBy_eq_nil (forall_startF s fun _ _ => hg)

theorem keysBy_of_quiescent (g : Option (FPend K V) → List K) (hg : g none = []) {c : FState K V}
    (hq : QuiescentF c) : keysBy g c.threads = [] :=
  keysBy_eq_nil (fun t ht => by rw [hq t ht]; exact hg)

/-! ### the queue mutex -/

/-- number of threads inside a (multi-step) queue-mutex section -/
def holders (ts : List (FThread K V)) : Nat := (ts.filter (fun t => holdsO t.pend)).length

theorem holders_mid (l1 l2 : List (FThread K V)) (t : FThread K V) :
    holders (l1 ++ t :: l2) = (if holdsO t.pend then 1 else 0) + holders (l1 ++ l2) := by
  unfold holders
  simp only [List.filter_append, List.filter_cons, List.length_append]
  split <;> simp <;> omega

theorem holders_eq_zero {l : List (FThread K V)} : holders l = 0 ↔ ∀ x, x ∈ l → holdsO x.pend = false := by
  unfold holders
  rw [List.length_eq_zero_iff, List.filter_eq_nil_iff]
  simp

theorem holders_start (s : State K V) (progs : List (List (Op K V × List Nat))) :
    holders (FState.start s progs).threads = 0 :=
  holders_eq_zero.mpr (forall_startF s fun _ _ => rfl)

theorem length_holdKeys_le (l : List (FThread K V)) : (holdKeys l).length ≤ holders l := by
  induction l with
  | nil => exact Nat.le_refl _
  | cons t l ih =>
    have h1 := holders_mid [] l t
    have h2 : (hkeys t.pend).length ≤ if holdsO t.pend then 1 else 0 := by
      cases t.pend with
      | none => exact Nat.le_refl _
      | some fp => cases fp <;> exact Nat.le_refl _
    rw [List.nil_append, List.nil_append] at h1
    show (hkeys t.pend ++ holdKeys l).length ≤ _
    rw [h1, List.length_append]
    omega

/-! ## §2 Shape of a micro-step -/

theorem holdsO_liftRes (r : Res K V) : holdsO (resPend (liftRes r)) = false := by cases r <;> rfl

theorem hkeys_liftRes (r : Res K V) : hkeys (resPend (liftRes r)) = [] := by cases r <;> rfl

theorem fkeys_liftRes (r : Res K V) : fkeys (resPend (liftRes r)) = resKeys r := by cases r <;> rfl

theorem fkeys_map_base (cp : Option (Pend K V)) : fkeys (cp.map FPend.base) = ownKeys cp := by cases cp <;> rfl

theorem hkeys_map_base (cp : Option (Pend K V)) : hkeys (cp.map FPend.base) = [] := by cases cp <;> rfl

theorem fkeys_of_holds {p : Option (FPend K V)} (h : holdsO p = true) : fkeys p = [] := by
  cases p with
  | none => rfl
  | some fp => cases fp with
    | base p => cases h
    | _ => rfl

/-- the entry of the split queue section is taken exactly for a sync `insert_with_memory` in flight with
    a memory bound configured -/
theorem fineEntry_some {cfg : Cfg} {p : Pend K V} {k : K} {v : V} {rs : List Nat} {maxM : Nat}
    (h : fineEntry cfg p = some (k, v, rs, maxM)) :
    p = .trackMem k v rs ∧ isAsync cfg = false ∧ cfg.maxMem = some maxM := by
  cases p <;> simp only [fineEntry] at h <;> try (cases h)
  split at h
  · cases h
  · rename_i ha
    cases hm : cfg.maxMem with
    | none => rw [hm] at h; cases h
    | some m =>
      rw [hm] at h
      simp only [Option.some.injEq, Prod.mk.injEq] at h
      obtain ⟨rfl, rfl, rfl, rfl⟩ := h
      exact ⟨rfl, by simpa using ha, rfl⟩

theorem fineEntry_sync_mem {cfg : Cfg} (ha : isAsync cfg = false) {maxM : Nat} (hM : cfg.maxMem = some maxM)
    (k : K) (v : V) (rs : List Nat) : fineEntry cfg (.trackMem k v rs : Pend K V) = some (k, v, rs, maxM) := by
  simp [fineEntry, ha, hM]

theorem fineEntry_no_mem {cfg : Cfg} (hM : cfg.maxMem = none) (p : Pend K V) : fineEntry cfg p = none := by
  cases p <;> simp [fineEntry, hM]

theorem microF_base_coarse (s : State K V) (op : Op K V) (rs : List Nat)
    {p : Pend K V} (h : fineEntry cfg p = none) :
    microF cfg tl size s op rs (some (.base p)) = liftStep (micro false cfg tl size s op rs (some p)) := by
  simp only [microF, h]

/-! The five steps inside the split queue section, one equation per branch. -/

theorem microF_enter (ha : isAsync cfg = false) {maxM : Nat} (hM : cfg.maxMem = some maxM)
    (s : State K V) (op : Op K V) (rs : List Nat) (k : K) (v : V) (rs' : List Nat) :
    microF cfg tl size s op rs (some (.base (.trackMem k v rs'))) =
      ({ s with queue := erasePush k s.queue },
       .more (if entrySize size k s.store > maxM then .oversize k v else .loopRead k v rs')) := by
  by_cases h : entrySize size k s.store > maxM
  · simp only [microF, fineEntry_sync_mem ha hM, enterStep, h, if_true]
  · simp only [microF, fineEntry_sync_mem ha hM, enterStep, h, if_false]

theorem microF_loopRead_fits (s : State K V) (op : Op K V) (rs : List Nat)
    (k : K) (v : V) (rs' : List Nat) (h : ∀ M, cfg.maxMem = some M → totalMem size s.store ≤ M) :
    microF cfg tl size s op rs (some (.loopRead k v rs')) = (s, .more (.limit k v (rs'.headD 0))) := by
  show loopReadStep cfg size s k v rs' = _
  unfold loopReadStep
  cases hM : cfg.maxMem with
  | none => rfl
  | some M => exact if_pos (h M hM)

theorem microF_loopRead_over {M : Nat} (hM : cfg.maxMem = some M)
    (s : State K V) (op : Op K V) (rs : List Nat) (k : K) (v : V) (rs' : List Nat)
    (h : ¬ totalMem size s.store ≤ M) :
    microF cfg tl size s op rs (some (.loopRead k v rs')) = (s, .more (.loopEvict k v rs')) := by
  show loopReadStep cfg size s k v rs' = _
  unfold loopReadStep
  rw [hM]
  exact if_neg h

theorem microF_loopEvict (s : State K V) (op : Op K V) (rs : List Nat)
    (k : K) (v : V) (rs' : List Nat) :
    microF cfg tl size s op rs (some (.loopEvict k v rs')) =
      ({ s with store := (evictMem cfg tl s.now (rs'.headD 0) s.store s.queue).1,
                queue := (evictMem cfg tl s.now (rs'.headD 0) s.store s.queue).2.1 },
       .more (if (evictMem cfg tl s.now (rs'.headD 0) s.store s.queue).2.2 then .loopRead k v rs'.tail
              else .limit k v (rs'.tail.headD 0))) := by
  show loopEvictStep cfg tl s k v rs' = _
  unfold loopEvictStep
  by_cases h : (evictMem cfg tl s.now (rs'.headD 0) s.store s.queue).2.2 = true
  · simp only [h, if_true]
  · simp only [h, Bool.false_eq_true, if_false]

/-- **One micro-step of the fine model**: the micro-step of `ConcData` (first steps, and every continuation
    that is not the entry of the split queue section), or one of the steps inside that section. -/
inductive FineMicro (cfg : Cfg) (tl : Tlru S) (size : V → Nat) (s : State K V) (op : Op K V) (rs : List Nat) :
    Option (FPend K V) → State K V × FRes K V → Prop
  | coarse (cp : Option (Pend K V)) : (∀ p, cp = some p → fineEntry cfg p = none) →
      FineMicro cfg tl size s op rs (cp.map FPend.base) (liftStep (micro false cfg tl size s op rs cp))
  | enter (k : K) (v : V) (rs' : List Nat) (maxM : Nat) (p' : FPend K V) : isAsync cfg = false →
      cfg.maxMem = some maxM →
      (p' = .oversize k v ∧ entrySize size k s.store > maxM ∨ p' = .loopRead k v rs') →
      FineMicro cfg tl size s op rs (some (.base (.trackMem k v rs')))
        ({ s with queue := erasePush k s.queue }, .more p')
  | oversize (k : K) (v : V) :
      FineMicro cfg tl size s op rs (some (.oversize k v))
        ({ s with store := eraseKey k s.store, queue := s.queue.dropLast }, .fin (.insertMem k v) .unit)
  | fits (k : K) (v : V) (rs' : List Nat) : (∀ M, cfg.maxMem = some M → totalMem size s.store ≤ M) →
      FineMicro cfg tl size s op rs (some (.loopRead k v rs')) (s, .more (.limit k v (rs'.headD 0)))
  | over (k : K) (v : V) (rs' : List Nat) (M : Nat) : cfg.maxMem = some M → ¬ totalMem size s.store ≤ M →
      FineMicro cfg tl size s op rs (some (.loopRead k v rs')) (s, .more (.loopEvict k v rs'))
  | evict (k : K) (v : V) (rs' : List Nat) (p' : FPend K V) :
      (p' = .loopRead k v rs'.tail ∧ (evictMem cfg tl s.now (rs'.headD 0) s.store s.queue).2.2 = true ∨
       p' = .limit k v (rs'.tail.headD 0) ∧ (evictMem cfg tl s.now (rs'.headD 0) s.store s.queue).2.2 = false) →
      FineMicro cfg tl size s op rs (some (.loopEvict k v rs'))
        ({ s with store := (evictMem cfg tl s.now (rs'.headD 0) s.store s.queue).1,
                  queue := (evictMem cfg tl s.now (rs'.headD 0) s.store s.queue).2.1 }, .more p')
  | limit (k : K) (v : V) (r : Nat) :
      FineMicro cfg tl size s op rs (some (.limit k v r))
        ({ s with store := (limitStep cfg tl s.now r s.store s.queue).1,
                  queue := (limitStep cfg tl s.now r s.store s.queue).2 }, .fin (.insertMem k v) .unit)

theorem microF_spec (cfg : Cfg) (tl : Tlru S) (size : V → Nat) (s : State K V) (op : Op K V) (rs : List Nat)
    (pend : Option (FPend K V)) : FineMicro cfg tl size s op rs pend (microF cfg tl size s op rs pend) := by
  cases pend with
  | none => exact .coarse none (fun p h => nomatch h)
  | some fp =>
    cases fp with
    | base p =>
      cases hfe : fineEntry cfg p with
      | none =>
        rw [microF_base_coarse s op rs hfe]
        exact .coarse (some p) (fun p' h => by cases h; exact hfe)
      | some x =>
        obtain ⟨k, v, rs', maxM⟩ := x
        obtain ⟨rfl, ha, hM⟩ := fineEntry_some hfe
        rw [microF_enter ha hM]
        refine .enter k v rs' maxM _ ha hM ?_
        by_cases hov : entrySize size k s.store > maxM
        · rw [if_pos hov]; exact Or.inl ⟨rfl, hov⟩
        · rw [if_neg hov]; exact Or.inr rfl
    | oversize k v => exact .oversize k v
    | loopRead k v rs' =>
      by_cases h : ∀ M, cfg.maxMem = some M → totalMem size s.store ≤ M
      · rw [microF_loopRead_fits s op rs k v rs' h]; exact .fits k v rs' h
      · cases hM : cfg.maxMem with
        | none => exact absurd (fun M hM' => by rw [hM] at hM'; cases hM') h
        | some M =>
          have hover : ¬ totalMem size s.store ≤ M :=
            fun hfit => h (fun M' hM' => by rw [hM] at hM'; cases hM'; exact hfit)
          rw [microF_loopRead_over hM s op rs k v rs' hover]
          exact .over k v rs' M hM hover
    | loopEvict k v rs' =>
      rw [microF_loopEvict]
      refine .evict k v rs' _ ?_
      cases (evictMem cfg tl s.now (rs'.headD 0) s.store s.queue).2.2
      · exact Or.inr ⟨rfl, rfl⟩
      · exact Or.inl ⟨rfl, rfl⟩
    | limit k v r => exact .limit k v r

variable {s : State K V} {op : Op K V} {rs : List Nat} {pend : Option (FPend K V)} {r : State K V × FRes K V}

/-- a micro-step that ends inside a queue section needed the queue mutex -/
theorem FineMicro.needs_mutex (hm : FineMicro cfg tl size s op rs pend r) (h : holdsO (resPend r.2) = true) :
    needsO cfg op pend = true := by
  cases hm with
  | coarse cp _ => simp only [liftStep, holdsO_liftRes] at h; cases h
  | _ => rfl

theorem needsO_of_holds (cfg : Cfg) (op : Op K V) {pend : Option (FPend K V)} (h : holdsO pend = true) :
    needsO cfg op pend = true := by
  cases pend with
  | none => cases h
  | some fp => cases fp with
    | base p => cases h
    | _ => rfl

/-- **The queue mutex is respected**: a step keeps "at most one thread is inside a queue section". -/
theorem cstepFine_holders {c c' : FState K V} {i : Nat}
    (hh : holders c.threads ≤ 1) (h : cstepFine cfg tl size c i = some c') : holders c'.threads ≤ 1 := by
  obtain ⟨l1, l2, op, rs, rest, pend, d, hl, hfree, rfl⟩ := cstepFine_some h
  rw [hl, holders_mid] at hh
  show holders (l1 ++ _ :: l2) ≤ 1
  rw [holders_mid, applyRes_pend]
  by_cases hn : needsO cfg op pend = true
  · rw [holders_eq_zero.mpr (hfree hn)]; split <;> omega
  · have h1 : holdsO (resPend (microF cfg tl size c.shared op rs pend).2) = false :=
      Bool.eq_false_iff.mpr (fun hx => hn ((microF_spec cfg tl size c.shared op rs pend).needs_mutex hx))
    rw [h1]; simp only [Bool.false_eq_true, if_false]
    split at hh <;> omega

/-- **Store-only micro-steps of `ConcData`** (those that do not need the queue mutex: reads, the sync store
    write `[M.w: put]`, hit bumps, the async key collection, ticks): the queue is untouched and no stored key
    disappears. -/
theorem micro_storeOnly (s : State K V) (op : Op K V) (rs : List Nat)
    (cp : Option (Pend K V)) (h : needsO cfg op (cp.map FPend.base) = false) :
    (micro false cfg tl size s op rs cp).1.queue = s.queue ∧
    ∀ x, x ∈ keys s.store → x ∈ keys (micro false cfg tl size s op rs cp).1.store := by
  cases cp with
  | some p =>
    cases p with
    | bump k v =>
      cases ha : isAsync cfg with
      | true => simp only [micro, ha, if_true]; exact ⟨rfl, fun x hx => hx⟩
      | false =>
        simp only [micro, ha, Bool.false_eq_true, if_false]
        exact ⟨rfl, fun x hx => (keys_bumpHits k s.store).symm ▸ hx⟩
    | _ => cases h
  | none =>
    rw [micro_none]
    cases op with
    | get k =>
      obtain ⟨hq, hk, _⟩ := first_get_frame false cfg tl size s rs k
      exact ⟨hq, fun x hx => hk.symm ▸ hx⟩
    | insert k v =>
      rw [first_insert_sync false h]
      exact ⟨rfl, fun x hx => mem_keys_put.mpr (Or.inl hx)⟩
    | insertMem k v =>
      rw [first_insertMem_sync false h]
      exact ⟨rfl, fun x hx => mem_keys_put.mpr (Or.inl hx)⟩
    | clear => cases h
    | invalidateWith p =>
      have ha : isAsync cfg = true := by simpa [needsO] using h
      have : first false cfg tl size s rs (.invalidateWith p) = (s, .more (.purge p ((keys s.store).filter p))) := by
        simp only [first, ha, if_true]
      rw [this]
      exact ⟨rfl, fun x hx => hx⟩
    | tick ms => exact ⟨rfl, fun x hx => hx⟩

/-- a micro-step of the fine model that does not need the queue mutex is such a step of `ConcData`: it
    neither touches the queue nor removes a key -/
theorem FineMicro.storeOnly (hm : FineMicro cfg tl size s op rs pend r) (h : needsO cfg op pend = false) :
    r.1.queue = s.queue ∧ ∀ x, x ∈ keys s.store → x ∈ keys r.1.store := by
  cases hm with
  | coarse cp _ => exact micro_storeOnly s op rs cp h
  | _ => cases h

/-! ## §3 Values -/

/-- a value carried by an operation in progress is the function's value for its key (the four new local
    states carry the value only to report the finished operation) -/
def FPendOK (f : K → V) : FPend K V → Prop
  | .base p => PendOK f p
  | _ => True

def FResOK (f : K → V) : FRes K V → Prop
  | .more p => FPendOK f p
  | .fin op o => RecOK f op o

theorem FResOK_liftRes {f : K → V} {r : Res K V} (h : ResOK f r) : FResOK f (liftRes r) := by
  cases r <;> exact h

theorem FineMicro.val {f : K → V} (hm : FineMicro cfg tl size s op rs pend r)
    (hs : ValOK f s.store) (hop : OpOK f op) (hp : ∀ p, pend = some (.base p) → PendOK f p) :
    ValOK f r.1.store ∧ FResOK f r.2 := by
  cases hm with
  | coarse cp _ =>
    have := micro_val false cfg tl size s op rs cp hs hop (fun p h => hp p (by rw [h]; rfl))
    exact ⟨this.1, FResOK_liftRes this.2⟩
  | enter k v rs' maxM p' _ _ hp' => exact ⟨hs, by rcases hp' with ⟨rfl, _⟩ | rfl <;> trivial⟩
  | oversize k v => exact ⟨hs.sublist (eraseKey_sublist k _), RecOK.unit f _⟩
  | fits k v rs' _ => exact ⟨hs, trivial⟩
  | over k v rs' => exact ⟨hs, trivial⟩
  | evict k v rs' p' hp' =>
    exact ⟨hs.sublist (evictMem_shr cfg tl s.now (rs'.headD 0) s.store s.queue).store,
      by rcases hp' with ⟨rfl, _⟩ | ⟨rfl, _⟩ <;> trivial⟩
  | limit k v r =>
    exact ⟨hs.sublist (limitStep_shr cfg tl s.now r s.store s.queue).store, RecOK.unit f _⟩

def FThreadOK (f : K → V) (t : FThread K V) : Prop :=
  (∀ x, x ∈ t.prog → OpOK f x.1) ∧ (∀ p, t.pend = some (.base p) → PendOK f p) ∧
  (∀ r, r ∈ t.done → RecOK f r.1 r.2)

def FValInv (f : K → V) (c : FState K V) : Prop :=
  ValOK f c.shared.store ∧ ∀ t, t ∈ c.threads → FThreadOK f t

theorem FThreadOK.applyRes {f : K → V} {op : Op K V} {rs : List Nat} {rest : List (Op K V × List Nat)}
    {d : List (Op K V × Out V)} {r : FRes K V} (hp : ∀ x, x ∈ (op, rs) :: rest → OpOK f x.1)
    (hd : ∀ x, x ∈ d → RecOK f x.1 x.2) (hr : FResOK f r) : FThreadOK f (applyRes op rs rest d r) := by
  cases r with
  | more p => exact ⟨hp, fun p' h => by cases h; exact hr, hd⟩
  | fin op' o =>
    refine ⟨fun x hx => hp x (List.mem_cons_of_mem _ hx), (fun p' h => nomatch h), fun x hx => ?_⟩
    rcases List.mem_append.mp hx with h1 | h1
    · exact hd x h1
    · rw [List.mem_singleton.mp h1]; exact hr

theorem cstepFine_val {f : K → V} {c c' : FState K V} {i : Nat} (hv : FValInv f c)
    (h : cstepFine cfg tl size c i = some c') : FValInv f c' := by
  obtain ⟨l1, l2, op, rs, rest, pend, d, hl, _, rfl⟩ := cstepFine_some h
  obtain ⟨hst, hth⟩ := hv
  rw [hl] at hth
  obtain ⟨⟨htp, htpend, htd⟩, ho⟩ := forall_mid.mp hth
  have hm := (microF_spec cfg tl size c.shared op rs pend).val hst (htp (op, rs) List.mem_cons_self) htpend
  exact ⟨hm.1, forall_mid.mpr ⟨FThreadOK.applyRes htp htd hm.2, ho⟩⟩

theorem fvalInv_start {f : K → V} (s : State K V) (progs : List (List (Op K V × List Nat)))
    (hs : ValOK f s.store) (hp : ∀ prog, prog ∈ progs → ∀ x, x ∈ prog → OpOK f x.1) :
    FValInv f (FState.start s progs) :=
  ⟨hs, forall_startF s fun prog hprog => ⟨hp prog hprog, fun _ h => absurd h.symm (Option.some_ne_none _), fun _ h => (List.not_mem_nil h).elim⟩⟩

/-! ## §4 Sync engine: the in-flight invariant -/

/-- what a thread inside its queue section relies on between two of its store-lock sections.  Only the
    `oversize` state needs something: the entry it measured is still stored (nobody but a queue-mutex holder
    removes entries) and its key is still the LAST queue slot (nobody else touches the queue) — so that
    `pop_back` removes exactly the slot of `k`. -/
def LocalOK (s : State K V) : Option (FPend K V) → Prop
  | some (.oversize k _) => k ∈ keys s.store ∧ ∃ q0, s.queue = q0 ++ [k]
  | _ => True

theorem localOK_of_not_holds {s : State K V} {p : Option (FPend K V)} (h : holdsO p = false) : LocalOK s p := by
  cases p with
  | none => trivial
  | some fp => cases fp <;> first | trivial | (simp [holdsO] at h)

theorem LocalOK.frame {s s' : State K V} {p : Option (FPend K V)} (hq : s'.queue = s.queue)
    (hk : ∀ x, x ∈ keys s.store → x ∈ keys s'.store) (h : LocalOK s p) : LocalOK s' p := by
  cases p with
  | none => trivial
  | some fp =>
    cases fp <;> try trivial
    exact ⟨hk _ h.1, by rw [hq]; exact h.2⟩

/-- `[M.w: remove k] ; pop_back` when `k` is the last queue slot: a shrinking step -/
theorem oversize_shr (m : Store K V) (q0 : List K) (k : K) : Shr m (q0 ++ [k]) (eraseKey k m) q0 := by
  refine Shr.eraseKey_of k (List.sublist_append_left _ _) ?_
  intro x hxk _ hxq
  rcases List.mem_append.mp hxq with h | h
  · exact h
  · exact absurd (List.mem_singleton.mp h) hxk

/-- **Sync, one micro-step of the fine model keeps the in-flight invariant** (and establishes the local
    facts of the state it leaves).  `others` = in-flight keys of the other threads. -/
theorem FineMicro.sync_inv (hm : FineMicro cfg tl size s op rs pend r) (hf : cfg.flavour ≠ .async)
    (others : List K) (h : SyncInv s.store s.queue (fkeys pend ++ others)) (hloc : LocalOK s pend) :
    SyncInv r.1.store r.1.queue (fkeys (resPend r.2) ++ others) ∧ LocalOK r.1 (resPend r.2) := by
  cases hm with
  | coarse cp _ =>
    rw [fkeys_map_base] at h
    simp only [liftStep, fkeys_liftRes]
    exact ⟨micro_sync_inv cfg tl size s op rs cp hf others h, localOK_of_not_holds (holdsO_liftRes _)⟩
  | enter k v rs' maxM p' _ _ hp' =>
    have h0 : SyncInv s.store (erasePush k s.queue) others := SyncInv.erasePush h
    rcases hp' with ⟨rfl, hov⟩ | rfl
    · exact ⟨h0, entrySize_pos_mem hov, s.queue.erase k, rfl⟩
    · exact ⟨h0, trivial⟩
  | oversize k v =>
    obtain ⟨_, q0, hq⟩ := hloc
    refine ⟨?_, trivial⟩
    show SyncInv (eraseKey k s.store) s.queue.dropLast others
    rw [hq, List.dropLast_concat]
    rw [hq] at h
    exact h.shr (oversize_shr s.store q0 k)
  | fits k v rs' _ => exact ⟨h, trivial⟩
  | over k v rs' => exact ⟨h, trivial⟩
  | evict k v rs' p' hp' =>
    have hs := evictMem_shr cfg tl s.now (rs'.headD 0) s.store s.queue
    rcases hp' with ⟨rfl, _⟩ | ⟨rfl, _⟩ <;> exact ⟨h.shr hs, trivial⟩
  | limit k v r => exact ⟨h.shr (limitStep_shr cfg tl s.now r s.store s.queue), trivial⟩

/-- the sync invariant of the fine system -/
def FineSys (c : FState K V) : Prop :=
  SyncInv c.shared.store c.shared.queue (pendKeysF c.threads) ∧ ∀ t, t ∈ c.threads → LocalOK c.shared t.pend

theorem cstepFine_sync (hf : cfg.flavour ≠ .async) {c c' : FState K V} {i : Nat} (hs : FineSys c)
    (h : cstepFine cfg tl size c i = some c') : FineSys c' := by
  obtain ⟨l1, l2, op, rs, rest, pend, d, hl, hfree, rfl⟩ := cstepFine_some h
  obtain ⟨hinv, hloc⟩ := hs
  rw [hl] at hinv hloc
  obtain ⟨hlt, hlo⟩ := forall_mid.mp hloc
  have hspec := microF_spec cfg tl size c.shared op rs pend
  have hm := hspec.sync_inv hf _ (hinv.congr (fun x => (keysBy_perm_mid fkeys l1 l2 _).mem_iff.mp)) hlt
  refine ⟨hm.1.congr (fun x hx => (keysBy_perm_mid fkeys l1 l2 _).mem_iff.mpr (by rw [applyRes_pend]; exact hx)),
    forall_mid.mpr ⟨by rw [applyRes_pend]; exact hm.2, fun x hx => ?_⟩⟩
  by_cases hn : needsO cfg op pend = true
  · exact localOK_of_not_holds (hfree hn x hx)
  · have hso := hspec.storeOnly (by simpa using hn)
    exact (hlo x hx).frame hso.1 hso.2

theorem fineSys_start {s : State K V} (h0 : WeakInv s) (progs : List (List (Op K V × List Nat))) :
    FineSys (FState.start s progs) :=
  ⟨by unfold pendKeysF; rw [keysBy_start fkeys rfl]; exact h0, forall_startF s fun _ _ => trivial⟩

/-! ## §5 The entry bound with stores in flight and a queue section in progress -/

/-- the two halves of the sync entry bound in the fine model.  `P` = number of in-flight keys (stored, not
    yet queued), `F` = number of threads inside the split queue section (their key is queued, their
    entry-limit step has not run): each of them may account for one extra entry AND one extra queue slot. -/
structure BoundF (cfg : Cfg) (n : Nat) (m : Store K V) (q : List K) (P F : Nat) : Prop where
  entries : cfg.policy ≠ .random → m.length ≤ n + P + F
  slots : PopsSlot cfg → q.length ≤ n + F

/-- the fine bound is the coarse one with `F` more slots -/
theorem BoundF.iff_sync {cfg : Cfg} {n : Nat} {m : Store K V} {q P : List K} {p F : Nat} (hp : P.length = p) :
    BoundF cfg n m q p F ↔ SyncBound cfg (n + F) m q P :=
  ⟨fun h => ⟨fun hr => by have := h.entries hr; omega, h.slots⟩,
   fun h => ⟨fun hr => by have := h.entries hr; omega, h.slots⟩⟩

theorem BoundF.enter {cfg : Cfg} {n : Nat} {m : Store K V} {q : List K} {P F : Nat} (k : K)
    (h : BoundF cfg n m q (1 + P) (0 + F)) : BoundF cfg n m (erasePush k q) (0 + P) (1 + F) := by
  have hlen := length_erasePush_le k q
  exact ⟨fun hr => by have := h.entries hr; omega, fun hs => by have := h.slots hs; omega⟩

theorem BoundF.oversize {cfg : Cfg} {n : Nat} {m : Store K V} {q0 : List K} {P F : Nat} {k : K}
    (hn : (keys m).Nodup) (hk : k ∈ keys m) (h : BoundF cfg n m (q0 ++ [k]) (0 + P) (1 + F)) :
    BoundF cfg n (eraseKey k m) q0 (0 + P) (0 + F) := by
  have hlen := length_eraseKey_of_mem hn hk
  refine ⟨fun hr => by have := h.entries hr; omega, fun hs => ?_⟩
  have := h.slots hs
  rw [List.length_append, List.length_singleton] at this
  omega

theorem BoundF.shr {cfg : Cfg} {n : Nat} {m m' : Store K V} {q q' : List K} {P F : Nat} (hs : Shr m q m' q')
    (h : BoundF cfg n m q P F) : BoundF cfg n m' q' P F :=
  ⟨fun hr => Nat.le_trans hs.length_le (h.entries hr), fun hp => Nat.le_trans hs.queue_length_le (h.slots hp)⟩

theorem BoundF.limit {cfg : Cfg} (hf : cfg.flavour ≠ .async) (tl : Tlru S) (now r : Nat) {n : Nat}
    (hl : cfg.limit = some n) {m : Store K V} {q Po : List K} (hi : SyncInv m q Po)
    (h : BoundF cfg n m q (0 + Po.length) (1 + 0)) :
    BoundF cfg n (limitStep cfg tl now r m q).1 (limitStep cfg tl now r m q).2 (0 + Po.length) (0 + 0) := by
  refine ⟨fun hr => ?_, fun hs => limitStep_slots hf tl now r hl (Nat.le_refl n) hs m q (h.slots hs)⟩
  have := limit_tight hf tl now r hl (Nat.le_refl n) hr hi (by have := h.entries hr; omega)
  omega

/-- **Sync, one micro-step of the fine model keeps the entry bound.**  `Po`, `Fo` = in-flight keys /
    number of queue-section holders among the OTHER threads; a micro-step that needs the queue mutex finds
    no other holder. -/
theorem FineMicro.bound (hm : FineMicro cfg tl size s op rs pend r) (hf : cfg.flavour ≠ .async)
    (Po : List K) (Fo : Nat) {n : Nat} (hl : cfg.limit = some n)
    (hfree : needsO cfg op pend = true → Fo = 0)
    (h : SyncInv s.store s.queue (fkeys pend ++ Po)) (hloc : LocalOK s pend)
    (hb : BoundF cfg n s.store s.queue ((fkeys pend).length + Po.length) ((hkeys pend).length + Fo)) :
    BoundF cfg n r.1.store r.1.queue ((fkeys (resPend r.2)).length + Po.length)
      ((hkeys (resPend r.2)).length + Fo) := by
  cases hm with
  | coarse cp _ =>
    rw [fkeys_map_base] at h hb
    rw [hkeys_map_base] at hb
    simp only [liftStep, fkeys_liftRes, hkeys_liftRes]
    exact (BoundF.iff_sync List.length_append).mpr (micro_sync_bound cfg tl size s op rs cp hf Po hl
      (Nat.le_add_right n _) h ((BoundF.iff_sync List.length_append).mp hb))
  | enter k v rs' maxM p' _ _ hp' => rcases hp' with ⟨rfl, _⟩ | rfl <;> exact hb.enter k
  | oversize k v =>
    obtain ⟨hk, q0, hq⟩ := hloc
    show BoundF cfg n (eraseKey k s.store) s.queue.dropLast _ _
    rw [hq] at hb ⊢
    rw [List.dropLast_concat]
    exact hb.oversize h.keysNodup hk
  | fits k v rs' _ => exact hb
  | over k v rs' => exact hb
  | evict k v rs' p' hp' =>
    rcases hp' with ⟨rfl, _⟩ | ⟨rfl, _⟩ <;> exact hb.shr (evictMem_shr cfg tl s.now (rs'.headD 0) s.store s.queue)
  | limit k v r =>
    obtain rfl := hfree rfl
    exact BoundF.limit hf tl s.now r hl h hb

def FBoundSys (cfg : Cfg) (n : Nat) (c : FState K V) : Prop :=
  BoundF cfg n c.shared.store c.shared.queue (pendKeysF c.threads).length (holdKeys c.threads).length

theorem cstepFine_bound (hf : cfg.flavour ≠ .async) {n : Nat} (hl : cfg.limit = some n)
    {c c' : FState K V} {i : Nat} (hs : FineSys c) (hb : FBoundSys cfg n c)
    (h : cstepFine cfg tl size c i = some c') : FBoundSys cfg n c' := by
  obtain ⟨l1, l2, op, rs, rest, pend, d, hl', hfree, rfl⟩ := cstepFine_some h
  obtain ⟨hinv, hloc⟩ := hs
  unfold FBoundSys pendKeysF holdKeys at *
  rw [hl'] at hinv hloc hb
  rw [(keysBy_perm_mid fkeys l1 l2 _).length_eq, (keysBy_perm_mid hkeys l1 l2 _).length_eq,
    List.length_append, List.length_append] at hb
  have hm := (microF_spec cfg tl size c.shared op rs pend).bound hf (keysBy fkeys (l1 ++ l2))
    (keysBy hkeys (l1 ++ l2)).length hl
    (fun hn => by rw [show keysBy hkeys (l1 ++ l2) = [] from holdKeys_free (hfree hn)]; rfl)
    (hinv.congr (fun x => (keysBy_perm_mid fkeys l1 l2 _).mem_iff.mp)) (forall_mid.mp hloc).1 hb
  show BoundF cfg n _ _ (keysBy fkeys (l1 ++ _ :: l2)).length (keysBy hkeys (l1 ++ _ :: l2)).length
  rw [(keysBy_perm_mid fkeys l1 l2 _).length_eq, (keysBy_perm_mid hkeys l1 l2 _).length_eq,
    List.length_append, List.length_append, applyRes_pend]
  exact hm

theorem fboundSys_start {cfg : Cfg} {n : Nat} {s : State K V} (hb0 : WeakBound cfg n s)
    (progs : List (List (Op K V × List Nat))) : FBoundSys cfg n (FState.start s progs) := by
  unfold FBoundSys pendKeysF holdKeys
  rw [keysBy_start fkeys rfl, keysBy_start hkeys rfl]
  exact (BoundF.iff_sync rfl).mpr hb0

/-- what the invariant and the two-part bound give under EVERY policy (Random included): at most `n`
    entries plus one per store in flight plus one per queue section in progress -/
theorem fine_entries_le {cfg : Cfg} {n : Nat} {m : Store K V} {q P : List K} {F : Nat} (h : SyncInv m q P)
    (hb : BoundF cfg n m q P.length F) : m.length ≤ n + P.length + F := by
  have := sync_entries_le h ((BoundF.iff_sync rfl).mp hb)
  omega

/-! ## §6 The memory bound -/

/-- ghost keys of the memory invariant: the key of a thread that has written the store and has NOT yet
    passed the point where its memory loop ends (a fitting `[M.r]` sum, or an eviction attempt that found
    nothing to evict), resp. its oversize removal.  A thread in the `limit` state is past that point. -/
def mkeys : Option (FPend K V) → List K
  | some (.base p) => ownKeys (some p)
  | some (.oversize k _) => [k]
  | some (.loopRead k _ _) => [k]
  | some (.loopEvict k _ _) => [k]
  | _ => []

theorem mkeys_liftRes (r : Res K V) : mkeys (resPend (liftRes r)) = resKeys r := by cases r <;> rfl

theorem fkeys_sub_mkeys {p : Option (FPend K V)} {x : K} (h : x ∈ fkeys p) : x ∈ mkeys p := by
  cases p with
  | none => exact h
  | some fp => cases fp <;> first | exact h | (simp [fkeys, coarseOf, ownKeys] at h)

theorem keysBy_sub {g g' : Option (FPend K V) → List K} (hg : ∀ p x, x ∈ g p → x ∈ g' p)
    {l : List (FThread K V)} {x : K} (h : x ∈ keysBy g l) : x ∈ keysBy g' l := by
  unfold keysBy at *
  rw [List.mem_flatMap] at h ⊢
  obtain ⟨t, ht, hx⟩ := h
  exact ⟨t, ht, hg _ _ hx⟩

theorem mkeys_map_base (cp : Option (Pend K V)) : mkeys (cp.map FPend.base) = ownKeys cp := by cases cp <;> rfl

/-- **Sync, one micro-step of the fine model keeps the memory invariant.**  `Po` = in-flight keys of the
    other threads, `PMo ⊇ Po` = their ghost keys. -/
theorem FineMicro.mem (hm : FineMicro cfg tl size s op rs pend r) (hf : cfg.flavour ≠ .async) (Po PMo : List K)
    {f : K → V} {M : Nat} (hM : cfg.maxMem = some M) (hv : ValOK f s.store) (hop : OpOK f op)
    (hvia : op.viaMem = true) (hnt : ∀ k v r, pend ≠ some (.base (.track k v r)))
    (hsub : ∀ x, x ∈ Po → x ∈ PMo)
    (h : SyncInv s.store s.queue (fkeys pend ++ Po)) (hloc : LocalOK s pend)
    (hb : MemInv size f M s.store (mkeys pend ++ PMo)) :
    MemInv size f M r.1.store (mkeys (resPend r.2) ++ PMo) := by
  cases hm with
  | coarse cp _ =>
    rw [fkeys_map_base] at h
    rw [mkeys_map_base] at hb
    simp only [liftStep, mkeys_liftRes]
    exact micro_sync_mem cfg tl size s op rs cp hf PMo f M hM hv hop hvia
      (fun k v r hh => hnt k v r (by rw [hh]; rfl))
      (h.congr (fun x hx => (List.mem_append.mp hx).elim (List.mem_append_left _)
        (fun hx => List.mem_append_right _ (hsub x hx)))) hb
  | enter k v rs' maxM p' _ _ hp' => rcases hp' with ⟨rfl, _⟩ | rfl <;> exact hb
  | oversize k v =>
    obtain ⟨hk, _⟩ := hloc
    obtain ⟨e, hl⟩ := lookup_isSome_of_mem_keys hk
    have := totalMem_eraseKey_of_lookup size h.keysNodup hl
    rw [hv k e (lookup_mem hl)] at this
    have hb' : totalMem size s.store ≤ M + (size (f k) + (PMo.map (fun x => size (f x))).sum) := hb
    show totalMem size (eraseKey k s.store) ≤ M + (PMo.map (fun x => size (f x))).sum
    omega
  | fits k v rs' hfit => exact Nat.le_trans (hfit M hM) (Nat.le_add_right _ _)
  | over k v rs' => exact hb
  | evict k v rs' p' hp' =>
    have hs := evictMem_shr cfg tl s.now (rs'.headD 0) s.store s.queue
    have hle := totalMem_sublist_le size hs.store
    rcases hp' with ⟨rfl, _⟩ | ⟨rfl, hev⟩
    · exact Nat.le_trans hle hb
    · -- nothing could be evicted: no queued key is stored, so every stored key is in flight elsewhere
      rcases evictMem_cases hf tl s.now (rs'.headD 0) s.store s.queue with ⟨h1, _⟩ | ⟨_, h2, h3⟩
      · rw [hev] at h1; cases h1
      · show totalMem size (evictMem cfg tl s.now (rs'.headD 0) s.store s.queue).1 ≤ M + (PMo.map _).sum
        rw [h2, totalMem_eq_of_valOK size hv]
        exact Nat.le_trans (sum_map_le_of_nodup_subset (fun x => size (f x)) h.keysNodup
          (fun x hx => hsub x (h.tracked x hx (fun hq => h3 x hq hx)))) (Nat.le_add_left _ _)
  | limit k v r =>
    exact Nat.le_trans (totalMem_sublist_le size (limitStep_shr cfg tl s.now r s.store s.queue).store) hb

/-- a micro-step of an operation other than the plain `insert` never leaves a plain store in flight -/
theorem FineMicro.not_track (hm : FineMicro cfg tl size s op rs pend r) (hvia : op.viaMem = true)
    (hnt : ∀ k v r, pend ≠ some (.base (.track k v r))) :
    ∀ k v r', r.2 ≠ .more (.base (.track k v r')) := by
  intro k0 v0 r0
  cases hm with
  | coarse cp _ =>
    have := micro_not_track false cfg tl size s op rs cp hvia (fun k v r hh => hnt k v r (by rw [hh]; rfl)) k0 v0 r0
    intro hh
    cases hr : (micro false cfg tl size s op rs cp).2 with
    | more p => rw [show (liftStep _).2 = liftRes _ from rfl, hr] at hh; cases hh; exact this hr
    | fin op' o => rw [show (liftStep _).2 = liftRes _ from rfl, hr] at hh; cases hh
  | enter k v rs' maxM p' _ _ hp' => rcases hp' with ⟨rfl, _⟩ | rfl <;> exact fun hh => nomatch hh
  | evict k v rs' p' hp' => rcases hp' with ⟨rfl, _⟩ | ⟨rfl, _⟩ <;> exact fun hh => nomatch hh
  | _ => exact fun hh => nomatch hh

/-- every store goes through `insert_with_memory` (as the generated code does when `max_memory` is set) -/
def NoPlainF (c : FState K V) : Prop :=
  ∀ t, t ∈ c.threads → (∀ x, x ∈ t.prog → x.1.viaMem = true) ∧ ∀ k v r, t.pend ≠ some (.base (.track k v r))

theorem cstepFine_noPlain {c c' : FState K V} {i : Nat}
    (hn : NoPlainF c) (h : cstepFine cfg tl size c i = some c') : NoPlainF c' := by
  obtain ⟨l1, l2, op, rs, rest, pend, d, hl, _, rfl⟩ := cstepFine_some h
  unfold NoPlainF at hn
  rw [hl] at hn
  obtain ⟨⟨hvia, hnt⟩, ho⟩ := forall_mid.mp hn
  have hm := (microF_spec cfg tl size c.shared op rs pend).not_track (hvia (op, rs) List.mem_cons_self) hnt
  refine forall_mid.mpr ⟨?_, ho⟩
  cases hr : (microF cfg tl size c.shared op rs pend).2 with
  | more p => exact ⟨hvia, fun k v r hh => hm k v r (by rw [hr]; cases hh; rfl)⟩
  | fin op' o => exact ⟨fun y hy => hvia y (List.mem_cons_of_mem _ hy), (fun k v r hh => nomatch hh)⟩

/-- ghost keys of the whole system -/
def memKeys (ts : List (FThread K V)) : List K := keysBy mkeys ts

/-- the memory invariant of the fine system: the footprint exceeds `M` by at most the sizes of the values
    whose thread has not yet passed the end of its memory loop -/
def MemSysF (size : V → Nat) (f : K → V) (M : Nat) (c : FState K V) : Prop :=
  MemInv size f M c.shared.store (memKeys c.threads)

theorem cstepFine_mem (hf : cfg.flavour ≠ .async) {f : K → V} {M : Nat} (hM : cfg.maxMem = some M)
    {c c' : FState K V} {i : Nat} (hs : FineSys c) (hv : FValInv f c) (hn : NoPlainF c)
    (hb : MemSysF size f M c) (h : cstepFine cfg tl size c i = some c') : MemSysF size f M c' := by
  obtain ⟨l1, l2, op, rs, rest, pend, d, hl, _, rfl⟩ := cstepFine_some h
  obtain ⟨hinv, hloc⟩ := hs
  unfold MemSysF memKeys pendKeysF NoPlainF at *
  rw [hl] at hinv hloc hb hn
  obtain ⟨hvia, hnt⟩ := (forall_mid.mp hn).1
  have hP := keysBy_perm_mid mkeys l1 l2
  have hm := (microF_spec cfg tl size c.shared op rs pend).mem hf _ _ hM hv.1
    (((forall_mid.mp (hl ▸ hv.2)).1).1 (op, rs) List.mem_cons_self) (hvia (op, rs) List.mem_cons_self) hnt
    (fun x hx => keysBy_sub (fun p y hy => fkeys_sub_mkeys hy) hx)
    (hinv.congr (fun x => (keysBy_perm_mid fkeys l1 l2 _).mem_iff.mp)) (forall_mid.mp hloc).1
    (hb.congr ((hP _).map _).sum_nat)
  exact hm.congr (by rw [((hP _).map _).sum_nat, applyRes_pend])

/-! ## §7 Well-formedness, quiescence -/

/-- a thread that is in the middle of an operation has that operation at the head of its program -/
def WFF (c : FState K V) : Prop := ∀ t, t ∈ c.threads → t.prog = [] → t.pend = none

theorem cstepFine_wf {c c' : FState K V} {i : Nat} (hw : WFF c) (h : cstepFine cfg tl size c i = some c') : WFF c' := by
  obtain ⟨l1, l2, op, rs, rest, pend, d, hl, _, rfl⟩ := cstepFine_some h
  unfold WFF at hw
  rw [hl] at hw
  refine forall_mid.mpr ⟨?_, (forall_mid.mp hw).2⟩
  cases (microF cfg tl size c.shared op rs pend).2 with
  | more p => exact fun hnil => nomatch hnil
  | fin op' o => exact fun _ => rfl

theorem wff_start (s : State K V) (progs : List (List (Op K V × List Nat))) : WFF (FState.start s progs) :=
  forall_startF s fun _ _ _ => rfl

theorem allDoneF_of_B {c : FState K V} (h : allDoneFB c = true) : AllDoneF c := by
  intro t ht
  have := (List.all_eq_true.mp h) t ht
  exact List.isEmpty_iff.mp this

theorem quiescentF_of_B {c : FState K V} (h : quiescentFB c = true) : QuiescentF c := by
  intro t ht
  have := (List.all_eq_true.mp h) t ht
  exact Option.isNone_iff_eq_none.mp this

/-! ## §8 One thread alone computes `trackMemStep`; the coarse model is the uninterrupted fine model -/

/-- `ReachF … s pend n s' r`: `n ≥ 1` consecutive micro-steps of ONE thread (operation `op`, draws `rs`),
    starting in the shared state `s` with local state `pend`, nobody else stepping in between: the first
    `n - 1` leave the operation in progress, the last one leaves the shared state `s'` and the result `r`. -/
inductive ReachF (cfg : Cfg) (tl : Tlru S) (size : V → Nat) (op : Op K V) (rs : List Nat) :
    State K V → Option (FPend K V) → Nat → State K V → FRes K V → Prop
  | one {s s' : State K V} {pend : Option (FPend K V)} {r : FRes K V} :
      microF cfg tl size s op rs pend = (s', r) → ReachF cfg tl size op rs s pend 1 s' r
  | step {s s1 s' : State K V} {pend : Option (FPend K V)} {p1 : FPend K V} {n : Nat} {r : FRes K V} :
      microF cfg tl size s op rs pend = (s1, .more p1) → ReachF cfg tl size op rs s1 (some p1) n s' r →
      ReachF cfg tl size op rs s pend (n + 1) s' r

theorem memLoop_succ_fit (cfg : Cfg) (tl : Tlru S) (size : V → Nat) (now maxM fuel : Nat) (rs : List Nat)
    (m : Store K V) (q : List K) (h : totalMem size m ≤ maxM) :
    memLoop cfg tl size now maxM 0 (fuel + 1) rs m q = (m, q, rs) := by
  simp only [memLoop, Nat.add_zero, h, if_true]

theorem memLoop_succ_evict (cfg : Cfg) (tl : Tlru S) (size : V → Nat) (now maxM fuel : Nat) (rs : List Nat)
    (m : Store K V) (q : List K) (h : ¬ totalMem size m ≤ maxM) :
    memLoop cfg tl size now maxM 0 (fuel + 1) rs m q =
      if (evictMem cfg tl now (rs.headD 0) m q).2.2 then
        memLoop cfg tl size now maxM 0 fuel rs.tail (evictMem cfg tl now (rs.headD 0) m q).1
          (evictMem cfg tl now (rs.headD 0) m q).2.1
      else ((evictMem cfg tl now (rs.headD 0) m q).1, (evictMem cfg tl now (rs.headD 0) m q).2.1, rs.tail) := by
  simp only [memLoop, Nat.add_zero, h, if_false]

/-- **The memory loop, one thread alone**: from `loopRead` the thread reaches, in finitely many of its own
    micro-steps, exactly what `memLoop` (with any fuel exceeding the queue length) followed by the
    entry-limit step computes. -/
theorem reach_loop (hf : cfg.flavour ≠ .async) (op : Op K V)
    (rs0 : List Nat) {maxM : Nat} (hM : cfg.maxMem = some maxM) (k : K) (v : V) :
    ∀ (fuel : Nat) (rs : List Nat) (s : State K V), s.queue.length < fuel →
      ∃ n, n ≤ 2 * fuel + 1 ∧ ReachF cfg tl size op rs0 s (some (.loopRead k v rs)) n
        (loopTarget cfg tl size maxM fuel rs s) (.fin (.insertMem k v) .unit) := by
  intro fuel
  induction fuel with
  | zero => intro rs s h; omega
  | succ fuel ih =>
    intro rs s hlen
    by_cases hfit : totalMem size s.store ≤ maxM
    · refine ⟨2, by omega, .step (microF_loopRead_fits s op rs0 k v rs
        (fun M h => by rw [hM] at h; cases h; exact hfit)) (.one ?_)⟩
      simp only [microF, limitStepF, loopTarget, memLoop_succ_fit cfg tl size s.now maxM fuel rs _ _ hfit]
    · have h1 := microF_loopRead_over (tl := tl) hM s op rs0 k v rs hfit
      have h2 := microF_loopEvict (cfg := cfg) (tl := tl) (size := size) s op rs0 k v rs
      have hc := evictMem_cases hf tl s.now (rs.headD 0) s.store s.queue
      have hml := memLoop_succ_evict cfg tl size s.now maxM fuel rs s.store s.queue hfit
      generalize evictMem cfg tl s.now (rs.headD 0) s.store s.queue = E at h2 hc hml
      obtain ⟨m', q', ev⟩ := E
      cases ev with
      | true =>
        have hlt : q'.length < s.queue.length := by
          rcases hc with ⟨_, h3⟩ | ⟨h3, _⟩
          · exact h3
          · cases h3
        obtain ⟨n, hnb, hn⟩ := ih rs.tail { s with store := m', queue := q' } (by simp only; omega)
        refine ⟨n + 1 + 1, by omega, .step h1 (.step h2 ?_)⟩
        have htgt : loopTarget cfg tl size maxM (fuel + 1) rs s =
            loopTarget cfg tl size maxM fuel rs.tail { s with store := m', queue := q' } := by
          simp only [loopTarget, hml, if_true]
        rw [htgt]; exact hn
      | false =>
        refine ⟨3, by omega, .step h1 (.step h2 (.one ?_))⟩
        simp only [microF, limitStepF, loopTarget, hml, Bool.false_eq_true, if_false]

theorem flavour_of_isAsync_false {cfg : Cfg} (h : isAsync cfg = false) : cfg.flavour ≠ .async := by
  intro hf; rw [isAsync_of hf] at h; cases h

/-- **`fine_single_thread_eq`** — for ONE thread the fine model computes exactly `trackMemStep`: a thread
    whose `insert_with_memory` is in flight (store written) and that runs its queue section without any
    other thread stepping in between reaches, after finitely many micro-steps, exactly the shared state of
    the single coarse micro-step `contSync (.trackMem k v rs)`, and reports the same finished operation. -/
theorem fine_single_thread_eq {cfg : Cfg} (hf : cfg.flavour ≠ .async) (tl : Tlru S) (size : V → Nat) (op : Op K V)
    (rs0 : List Nat) (s : State K V) (k : K) (v : V) (rs : List Nat) :
    ∃ n, n ≤ 2 * s.queue.length + 6 ∧ ReachF cfg tl size op rs0 s (some (.base (.trackMem k v rs))) n
      (trackMemStep cfg tl size rs s k) (.fin (.insertMem k v) .unit) := by
  have ha := isAsync_false_of hf
  rcases trackMemStep_cases cfg tl size rs s k with ⟨hM, _⟩ | ⟨maxM, hM, hov, h⟩ | ⟨maxM, hM, hov, h⟩
  · refine ⟨1, by omega, .one ?_⟩
    rw [microF_base_coarse s op rs0 (fineEntry_no_mem hM _)]
    simp only [liftStep, micro, ha, Bool.false_eq_true, if_false, contSync, liftRes]
  · have hent := microF_enter (tl := tl) (size := size) ha hM s op rs0 k v rs
    rw [if_pos hov] at hent
    refine ⟨2, by omega, .step hent (.one ?_)⟩
    simp only [h, microF, oversizeStep, dropLast_erasePush]
  · have hent := microF_enter (tl := tl) (size := size) ha hM s op rs0 k v rs
    rw [if_neg hov] at hent
    obtain ⟨n, hnb, hn⟩ := reach_loop hf op rs0 hM k v ((erasePush k s.queue).length + 1) rs
      { s with queue := erasePush k s.queue } (Nat.lt_succ_self _)
    have hlen := length_erasePush_le k s.queue
    refine ⟨n + 1, by omega, .step hent ?_⟩
    rw [h]; exact hn

/-- **Every coarse micro-step is an uninterrupted block of fine micro-steps** (both engines). -/
theorem coarse_micro_reach (cfg : Cfg) (tl : Tlru S) (size : V → Nat) (s : State K V) (op : Op K V) (rs : List Nat)
    (cp : Option (Pend K V)) :
    ∃ n, ReachF cfg tl size op rs s (cp.map FPend.base) n (micro false cfg tl size s op rs cp).1
      (liftRes (micro false cfg tl size s op rs cp).2) := by
  cases cp with
  | none => exact ⟨1, ReachF.one rfl⟩
  | some p =>
    cases hfe : fineEntry cfg p with
    | none => exact ⟨1, ReachF.one (microF_base_coarse s op rs hfe)⟩
    | some x =>
      obtain ⟨k, v, rs', maxM⟩ := x
      obtain ⟨rfl, ha, hM⟩ := fineEntry_some hfe
      obtain ⟨n, _, hn⟩ := fine_single_thread_eq (flavour_of_isAsync_false ha) tl size op rs s k v rs'
      refine ⟨n, ?_⟩
      simpa only [micro, ha, Bool.false_eq_true, if_false, contSync, liftRes, Option.map_some] using hn

/-- an uninterrupted block of `n` micro-steps of one thread, as a run of the fine system -/
theorem crunFine_reach {l1 l2 : List (FThread K V)}
    {op : Op K V} {rs : List Nat} {rest : List (Op K V × List Nat)} {d : List (Op K V × Out V)}
    (hfree : ∀ x, x ∈ l1 ++ l2 → holdsO x.pend = false)
    {s s' : State K V} {pend : Option (FPend K V)} {n : Nat} {r : FRes K V}
    (h : ReachF cfg tl size op rs s pend n s' r) :
    crunFine cfg tl size (List.replicate n l1.length) ⟨s, l1 ++ ⟨(op, rs) :: rest, pend, d⟩ :: l2⟩ =
      ⟨s', l1 ++ applyRes op rs rest d r :: l2⟩ := by
  induction h with
  | one hm => simp only [List.replicate, crunFine, cstepFine_at hfree, hm]
  | step hm _ ih =>
    simp only [List.replicate_succ, crunFine, cstepFine_at hfree, hm, applyRes]
    exact ih

theorem crunFine_append (cfg : Cfg) (tl : Tlru S) (size : V → Nat) (a b : List ThreadId) (c : FState K V) :
    crunFine cfg tl size (a ++ b) c = crunFine cfg tl size b (crunFine cfg tl size a c) := by
  induction a generalizing c with
  | nil => rfl
  | cons i a ih =>
    simp only [List.cons_append, crunFine]
    cases cstepFine cfg tl size c i <;> exact ih _

theorem holdsO_embedT (t : Thread K V) : holdsO (embedT t).pend = false := by
  unfold embedT; cases t.pend <;> rfl

/-- **A thread inside its queue section is never blocked**: if at most one thread holds the queue mutex
    (`cstepFine_holders`) and thread `i` is a holder, its next micro-step is enabled. -/
theorem holder_steps {c : FState K V} {i : Nat} {t : FThread K V}
    (hh : holders c.threads ≤ 1) (hw : WFF c) (hi : c.threads[i]? = some t) (ht : holdsO t.pend = true) :
    (cstepFine cfg tl size c i).isSome = true := by
  obtain ⟨s, ts⟩ := c
  obtain ⟨l1, l2, rfl, rfl, _⟩ := split_of_getElem? hi
  rw [holders_mid, ht, if_pos rfl] at hh
  have hfree := holders_eq_zero.mp (show holders (l1 ++ l2) = 0 by omega)
  obtain ⟨prog, pend, d⟩ := t
  cases prog with
  | nil => rw [hw _ (mem_mid.mpr (Or.inl rfl)) rfl] at ht; cases ht
  | cons a rest =>
    obtain ⟨op, rs⟩ := a
    rw [cstepFine_at hfree]
    rfl

end Cachelito.ConcDataFine
