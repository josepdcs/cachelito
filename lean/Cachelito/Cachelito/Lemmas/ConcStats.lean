/-
  Hit / miss counters in the data-carrying interleaving model `Cachelito.ConcData` (C15, concurrent clause).

  WHERE `micro` bumps the counters (same places as the real code):
    * lookup of an absent key        : `missStat + 1` in the READ micro-step (sync: after `M.r`; async: `get_mut` is `None`)
    * lookup of an unexpired entry   : `hitStat + 1` in the READ micro-step (sync: `record_hit` after the `M.r` block and
                                       BEFORE the `[O]` / `[M.w]` update sections; async: after dropping the shard guard,
                                       before the `[O]` refresh section)
    * lookup of an expired entry     : nothing in the read micro-step; `missStat + 1` in the REMOVAL micro-step
                                       (sync: inside the `[O{M.w}]` section; async: right after the removal, the queue
                                       mutex guard still alive) — LEGACY async: in the `retain` micro-step
  Hence a lookup has been COUNTED iff it has finished, or it is a hit between its read micro-step and its
  last micro-step (local state `refresh` / `move` / `bump`); an expired lookup waiting for its removal
  section (`expire`, legacy `legacyDrop` / `legacyRetain`) has not been counted yet.
-/
import Cachelito.Lemmas.ConcData

namespace Cachelito.ConcData
open Cachelito

variable {K V S : Type} [DecidableEq K]
variable (legacy : Bool) (cfg : Cfg) (tl : Tlru S) (size : V → Nat)

/-- 1 iff the thread is a HIT between its read micro-step and its last micro-step (already counted) -/
def hitPend : Option (Pend K V) → Nat
  | some (.refresh _ _) => 1
  | some (.move _ _) => 1
  | some (.bump _ _) => 1
  | _ => 0

def isHitOut : Out V → Bool
  | .val (some _) => true
  | _ => false

def isMissOut : Out V → Bool
  | .val none => true
  | _ => false

def isValOut : Out V → Bool
  | .val _ => true
  | .unit => false

def isGet : Op K V → Bool
  | .get _ => true
  | _ => false

/-- hits accounted for by the result of a micro-step -/
def resHit : Res K V → Nat
  | .more p => hitPend (some p)
  | .fin _ o => if isHitOut o then 1 else 0

/-- misses accounted for by the result of a micro-step -/
def resMiss : Res K V → Nat
  | .more _ => 0
  | .fin _ o => if isMissOut o then 1 else 0

omit [DecidableEq K] in
theorem hitPend_of_opOf {p : Pend K V} (h : ∀ k, p.opOf ≠ .get k) : hitPend (some p) = 0 := by
  cases p with
  | refresh k _ | move k _ | bump k _ => exact absurd rfl (h k)
  | _ => rfl

omit [DecidableEq K] in
theorem isGet_of_ne {op : Op K V} (h : ∀ k, op ≠ .get k) : isGet op = false := by
  cases op with
  | get k => exact absurd rfl (h k)
  | _ => rfl

theorem trackMemStep_stats (rs : List Nat) (s : State K V) (k : K) :
    (trackMemStep cfg tl size rs s k).hitStat = s.hitStat ∧ (trackMemStep cfg tl size rs s k).missStat = s.missStat := by
  unfold trackMemStep
  cases cfg.maxMem with
  | none => exact ⟨rfl, rfl⟩
  | some maxM => simp only; split <;> exact ⟨rfl, rfl⟩

/-- **Counters, one micro-step** (fixed and legacy code): the hit counter plus "hit already counted,
    lookup still in progress" before = the same after plus the hits reported; the miss counter grows by
    the misses reported. -/
theorem micro_counts (s : State K V)
    (op : Op K V) (rs : List Nat) (pend : Option (Pend K V)) (hp : PendFits legacy cfg op pend) :
    (micro legacy cfg tl size s op rs pend).1.hitStat + hitPend pend
        = s.hitStat + resHit (micro legacy cfg tl size s op rs pend).2 ∧
    (micro legacy cfg tl size s op rs pend).1.missStat
        = s.missStat + resMiss (micro legacy cfg tl size s op rs pend).2 := by
  cases pend with
  | none =>
    rcases op_get_or op with ⟨k, rfl⟩ | hop
    · rcases first_get legacy cfg tl size s rs k with ⟨_, hr⟩ | ⟨e, _, _, hr⟩ | ⟨e, _, _, hr⟩ <;>
        simp only [micro, hr]
      · exact ⟨rfl, rfl⟩
      · split <;> exact ⟨rfl, rfl⟩
      · rcases hitRes_cases cfg k e.val with hr | ⟨_, hr⟩ | ⟨_, hr⟩ | ⟨_, hr⟩ <;> rw [hr] <;> exact ⟨rfl, rfl⟩
    · obtain ⟨h1, h2, hr | ⟨p, hr, _, hpo⟩⟩ := first_other legacy cfg tl size s rs hop <;>
        simp only [micro, hr, h1, h2]
      · exact ⟨rfl, rfl⟩
      · exact ⟨congrArg _ (hitPend_of_opOf (hpo ▸ hop)).symm, rfl⟩
  | some p =>
    rw [micro_some_of_okFor tl size s op rs hp.1]
    cases p with
    | move k v => rw [cont_move]; split <;> exact ⟨rfl, rfl⟩
    | trackMem k v rs => exact trackMemStep_stats cfg tl size rs s k
    | _ => exact ⟨rfl, rfl⟩

/-- a finished operation reports a value (`.val _`) iff it is a lookup -/
def resShape : Res K V → Prop
  | .more _ => True
  | .fin op o => isGet op = isValOut o

theorem micro_shape (s : State K V) (op : Op K V) (rs : List Nat) (pend : Option (Pend K V)) :
    resShape (micro legacy cfg tl size s op rs pend).2 := by
  cases pend with
  | none =>
    rcases op_get_or op with ⟨k, rfl⟩ | hop
    · rcases first_get legacy cfg tl size s rs k with ⟨_, hr⟩ | ⟨e, _, _, hr⟩ | ⟨e, _, _, hr⟩ <;>
        simp only [micro, hr]
      · exact rfl
      · trivial
      · rcases hitRes_cases cfg k e.val with hr | ⟨_, hr⟩ | ⟨_, hr⟩ | ⟨_, hr⟩ <;> rw [hr] <;> trivial
    · obtain ⟨_, _, hr | ⟨p, hr, _⟩⟩ := first_other legacy cfg tl size s rs hop <;> simp only [micro, hr]
      · exact isGet_of_ne hop
      · trivial
  | some p =>
    rcases micro_some legacy cfg tl size s op rs p with ⟨_, hr⟩ | ⟨_, hr⟩ <;> rw [hr]
    · cases p with
      | move k v => rw [cont_move]; split <;> trivial
      | _ => trivial
    · exact rfl

/-! ### Sums and filtered lengths over a list -/

theorem sum_map_set {α : Type} {l : List α} {i : Nat} {t : α} (hi : l[i]? = some t) (t' : α) (g : α → Nat) :
    ((l.set i t').map g).sum + g t = (l.map g).sum + g t' := by
  obtain ⟨l1, l2, hl, _, hset⟩ := split_of_getElem? hi
  rw [hset t', hl]
  simp only [List.map_append, List.map_cons, List.sum_append, List.sum_cons]
  omega

theorem length_filter_concat {α : Type} (p : α → Bool) (l : List α) (a : α) :
    ((l ++ [a]).filter p).length = (l.filter p).length + if p a then 1 else 0 := by
  rw [List.filter_append, List.length_append, List.filter_cons]
  split <;> rfl

theorem sum_map_zero {α : Type} (l : List α) (g : α → Nat) (h : ∀ x, x ∈ l → g x = 0) : (l.map g).sum = 0 := by
  induction l with
  | nil => rfl
  | cons a l ih =>
    simp only [List.map_cons, List.sum_cons, h a List.mem_cons_self, ih (fun x hx => h x (List.mem_cons_of_mem _ hx))]

/-! ### Thread-level and system-level bookkeeping -/

/-- lookups of a thread counted as hits so far: finished ones that returned a value + a hit in progress -/
def hitsT (t : Thread K V) : Nat := (t.done.filter (fun r => isHitOut r.2)).length + hitPend t.pend

/-- lookups of a thread counted as misses so far: finished ones that returned nothing -/
def missesT (t : Thread K V) : Nat := (t.done.filter (fun r => isMissOut r.2)).length

/-- lookups of a thread whose counting micro-step has executed -/
def countedT (t : Thread K V) : Nat := (t.done.filter (fun r => isValOut r.2)).length + hitPend t.pend

omit [DecidableEq K] in
theorem countedT_eq (t : Thread K V) : countedT t = hitsT t + missesT t := by
  unfold countedT hitsT missesT
  have : ∀ l : List (Op K V × Out V), (l.filter (fun r => isValOut r.2)).length =
      (l.filter (fun r => isHitOut r.2)).length + (l.filter (fun r => isMissOut r.2)).length := by
    intro l
    induction l with
    | nil => rfl
    | cons a l ih =>
      have ha : (if isValOut a.2 then 1 else 0) = (if isHitOut a.2 then 1 else 0) + if isMissOut a.2 then 1 else 0 := by
        rcases a with ⟨op, (_ | v) | _⟩ <;> rfl
      simp only [← List.countP_eq_length_filter, List.countP_cons] at ih ⊢
      omega
  rw [this]; omega

/-- the counters are the initial counters plus the counted lookups of all threads -/
def CountInv (h0 m0 : Nat) (c : CState K V) : Prop :=
  c.shared.hitStat = h0 + (c.threads.map hitsT).sum ∧ c.shared.missStat = m0 + (c.threads.map missesT).sum

/-- every record of every thread is `(get _, .val _)` or `(not a get, .unit)` -/
def RecShape (c : CState K V) : Prop := ∀ t, t ∈ c.threads → ∀ r, r ∈ t.done → isGet r.1 = isValOut r.2

theorem cstepWith_counts {legacy : Bool} {cfg : Cfg} {tl : Tlru S} {size : V → Nat} (h0 m0 : Nat)
    (c : CState K V) (i : Nat) (c' : CState K V) (hfit : Fits legacy cfg c) (hc : CountInv h0 m0 c)
    (hs : RecShape c) (h : cstepWith legacy cfg tl size c i = some c') : CountInv h0 m0 c' ∧ RecShape c' := by
  refine ⟨?_, cstepWith_forall h hs fun t s' t' ht hts => ?_⟩
  · obtain ⟨t, s', t', hi, hts, rfl⟩ := cstepWith_some h
    obtain ⟨op, rs, rest, hprog, hcase⟩ := tstep_some hts
    have hm := micro_counts legacy cfg tl size c.shared op rs t.pend
      (by have := hfit t (List.mem_of_getElem? hi); rwa [ThreadFits, hprog] at this)
    have hH := sum_map_set hi t' hitsT
    have hM := sum_map_set hi t' missesT
    unfold CountInv at hc ⊢
    rcases hcase with ⟨p, hr, rfl⟩ | ⟨op', o, hr, rfl⟩ <;>
      simp only [hr, resHit, resMiss, hitsT, missesT, length_filter_concat, hitPend] at hm hH hM ⊢ <;> omega
  · obtain ⟨op, rs, rest, hprog, ⟨p, _, rfl⟩ | ⟨op', o, hr, rfl⟩⟩ := tstep_some hts
    · exact hs t ht
    · intro r hr'
      rcases List.mem_append.mp hr' with h1 | h1
      · exact hs t ht r h1
      · cases List.mem_singleton.mp h1
        have := micro_shape legacy cfg tl size c.shared op rs t.pend
        rwa [hr] at this

theorem countInv_start (s : State K V) (progs : List (List (Op K V × List Nat))) :
    CountInv s.hitStat s.missStat (CState.start s progs) ∧ RecShape (CState.start s progs) :=
  ⟨⟨by rw [sum_map_zero _ hitsT (forall_start s fun _ _ => rfl)]; rfl,
    by rw [sum_map_zero _ missesT (forall_start s fun _ _ => rfl)]; rfl⟩, forall_start s fun _ _ _ h => (List.not_mem_nil h).elim⟩

/-- the full invariant along a schedule -/
theorem crunWith_counts (s0 : State K V) (progs : List (List (Op K V × List Nat))) (sch : List ThreadId) :
    CountInv s0.hitStat s0.missStat (crunWith legacy cfg tl size sch (CState.start s0 progs)) ∧
    RecShape (crunWith legacy cfg tl size sch (CState.start s0 progs)) := by
  have h := crunWith_invariant legacy cfg tl size
    (fun c => Fits legacy cfg c ∧ CountInv s0.hitStat s0.missStat c ∧ RecShape c)
    (fun c i c' hc hs => by
      have h1 := cstepWith_fits c i c' hc.1 hs
      have h2 := cstepWith_counts s0.hitStat s0.missStat c i c' hc.1 hc.2.1 hc.2.2 hs
      exact ⟨h1.1, h2.1, h2.2⟩)
    sch _ ⟨fits_start legacy cfg s0 progs, (countInv_start s0 progs).1, (countInv_start s0 progs).2⟩
  exact h.2

end Cachelito.ConcData
