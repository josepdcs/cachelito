/-
  The store/queue invariant and its preservation by every engine operation (core Lean only).

  Evictions, purges (a lookup removing the expired entry it found) and invalidations all remove the keys failing some test from both structures
  (`Shrunk`); `insert` and `insert_with_memory` share one shape with the eviction phase left open
  (`storeVia`).  The operations are reasoned about through their equations, stated here once.  The last sections
  hold what is true of the evictions in any state, consistent or not, and of the stored values under a hit.
-/
import Cachelito.Core
import Cachelito.Lemmas.Store

set_option linter.unusedSectionVars false

namespace Cachelito
variable {K V S : Type} [DecidableEq K]
variable (cfg : Cfg) (tl : Tlru S) (size : V → Nat)

/-- store keys pairwise distinct, queue duplicate-free, queue and store track the same keys -/
def InvMQ (m : Store K V) (q : List K) : Prop :=
  (keys m).Nodup ∧ q.Nodup ∧ ∀ k, k ∈ q ↔ k ∈ keys m

def Inv (s : State K V) : Prop := InvMQ s.store s.queue

variable {m : Store K V} {q : List K}

theorem InvMQ.length_eq (h : InvMQ m q) : q.length = m.length := by
  rw [← length_keys]; exact length_eq_of_nodup_of_mem_iff h.2.1 h.1 h.2.2

theorem InvMQ.store_nil {m : Store K V} (h : InvMQ m []) : m = [] := by
  have := h.length_eq
  simp only [List.length_nil] at this
  exact List.eq_nil_of_length_eq_zero this.symm

theorem inv_init : Inv (State.init : State K V) := by
  simp [Inv, InvMQ, State.init]

theorem InvMQ.filter (h : InvMQ m q) (p : K → Bool) :
    InvMQ (m.filter (fun e => p e.1)) (q.filter p) := by
  refine ⟨?_, List.Pairwise.filter p h.2.1, fun x => ?_⟩
  · rw [keys_filter_key]; exact List.Pairwise.filter p h.1
  · rw [keys_filter_key, List.mem_filter, List.mem_filter, h.2.2 x]

theorem InvMQ.remove {m : Store K V} {q : List K} (h : InvMQ m q) (k : K) :
    InvMQ (eraseKey k m) (q.filter (fun x => x ≠ k)) :=
  h.filter (fun x => x ≠ k)

theorem InvMQ.remove_erase (h : InvMQ m q) (k : K) :
    InvMQ (eraseKey k m) (q.erase k) := by
  rw [erase_eq_filter_of_nodup h.2.1]; exact h.remove k

theorem InvMQ.removeBoth {m : Store K V} {q : List K} (h : InvMQ m q) (cfg : Cfg) (k : K) :
    InvMQ (removeBoth cfg k m q).1 (removeBoth cfg k m q).2 := by
  unfold Cachelito.removeBoth
  cases cfg.flavour <;> simp only
  · exact h.remove_erase k
  · exact h.remove_erase k
  · exact h.remove k

theorem removeBoth_eq (h : InvMQ m q) (cfg : Cfg) (k : K) :
    removeBoth cfg k m q = (eraseKey k m, q.filter (fun x => x ≠ k)) := by
  unfold Cachelito.removeBoth
  cases cfg.flavour <;> simp only [erase_eq_filter_of_nodup h.2.1]

/-- storing a key: sync `put` then `erasePush` -/
theorem InvMQ.put_erasePush (h : InvMQ m q) (k : K) (e : Entry V) :
    InvMQ (put k e m) (erasePush k q) := by
  obtain ⟨h1, h2, h3⟩ := h
  refine ⟨nodup_keys_put h1 k e, nodup_erase_append h2 k, ?_⟩
  intro x
  rw [mem_erasePush, mem_keys_put, h3 x]

/-- storing a fresh key at the back (async) -/
theorem InvMQ.put_push (h : InvMQ m q) {k : K} (hk : k ∉ keys m) (e : Entry V) :
    InvMQ (put k e m) (q ++ [k]) := by
  obtain ⟨h1, h2, h3⟩ := h
  refine ⟨nodup_keys_put h1 k e, ?_, ?_⟩
  · rw [← filter_ne_of_not_mem fun hq => hk ((h3 k).mp hq)]; exact nodup_filter_ne_append h2 k
  · intro x
    rw [List.mem_append, List.mem_singleton, mem_keys_put, h3 x]

theorem InvMQ.bumpHits {m : Store K V} {q : List K} (h : InvMQ m q) (k : K) : InvMQ (bumpHits k m) q := by
  unfold InvMQ; rw [keys_bumpHits]; exact h

theorem InvMQ.moveToEnd {m : Store K V} {q : List K} (h : InvMQ m q) (k : K) : InvMQ m (moveToEnd k q) := by
  refine ⟨h.1, nodup_moveToEnd h.2.1, ?_⟩
  intro x; rw [mem_moveToEnd]; exact h.2.2 x

theorem InvMQ.retainPush (h : InvMQ m q) {k : K} (hk : k ∈ keys m) :
    InvMQ m (retainPush k q) := by
  refine ⟨h.1, nodup_retainPush h.2.1, ?_⟩
  intro x; rw [mem_retainPush, h.2.2 x]
  constructor
  · rintro (h' | h')
    · exact h'
    · exact h' ▸ hk
  · intro h'; left; exact h'

/-! ### Victim selection picks a stored queue key -/

theorem firstMinAux_mem (lt : S → S → Bool) (b : K × S) (cs : List (K × S)) :
    firstMinAux lt b cs = b ∨ firstMinAux lt b cs ∈ cs := by
  induction cs generalizing b with
  | nil => left; rfl
  | cons c cs ih =>
    simp only [firstMinAux]
    split
    · rcases ih c with h | h
      · right; rw [h]; exact List.mem_cons_self
      · right; exact List.mem_cons_of_mem _ h
    · rcases ih b with h | h
      · left; exact h
      · right; exact List.mem_cons_of_mem _ h

theorem firstMin_mem {lt : S → S → Bool} {l : List (K × S)} {k : K} (h : firstMin lt l = some k) :
    k ∈ l.map (·.1) := by
  cases l with
  | nil => simp [firstMin] at h
  | cons c cs =>
    simp only [firstMin, Option.some.injEq] at h
    subst h
    rcases firstMinAux_mem lt c cs with h | h
    · rw [h]; simp
    · exact List.mem_map_of_mem (List.mem_cons_of_mem _ h)

theorem firstMin_eq_none {lt : S → S → Bool} {l : List (K × S)} (h : firstMin lt l = none) : l = [] := by
  cases l with
  | nil => rfl
  | cons c cs => simp [firstMin] at h

theorem candsFrom_keys_eq (score : Entry V → Nat → Nat → S) (m : Store K V) (len i : Nat) (q : List K) :
    (candsFrom score m len i q).map (·.1) = q.filter (fun k => hasKey k m) := by
  induction q generalizing i with
  | nil => rfl
  | cons k q ih =>
    rw [candsFrom, List.filter_cons, hasKey]
    cases lookup k m with
    | none => exact ih (i + 1)
    | some e => exact congrArg (k :: ·) (ih (i + 1))

theorem candsFrom_eq_nil (score : Entry V → Nat → Nat → S) (m : Store K V) (len i : Nat) (q : List K)
    (h : candsFrom score m len i q = []) : ∀ x ∈ q, x ∉ keys m := by
  intro x hx hk
  have hf := candsFrom_keys_eq score m len i q
  rw [h] at hf
  exact List.filter_eq_nil_iff.mp hf.symm x hx ((hasKey_iff x m).mpr hk)

theorem victim_mem {cfg : Cfg} {tl : Tlru S} {now : Nat} {k : K}
    (h : victim cfg tl now m q = some k) : k ∈ q ∧ k ∈ keys m := by
  have scan : ∀ {S' : Type} {lt : S' → S' → Bool} {score : Entry V → Nat → Nat → S'},
      firstMin lt (cands score m q) = some k → k ∈ q ∧ k ∈ keys m := by
    intro S' lt score h'
    have hk := firstMin_mem h'
    rw [cands, candsFrom_keys_eq, List.mem_filter, hasKey_iff] at hk
    exact hk
  unfold victim at h
  cases hp : cfg.policy <;> rw [hp] at h
  case lfu => exact scan h
  case arc => exact scan h
  case tlru => exact scan h
  all_goals cases h

theorem victim_none {cfg : Cfg} {tl : Tlru S} {now : Nat} (hp : cfg.policy = .lfu ∨ cfg.policy = .arc ∨ cfg.policy = .tlru)
    (h : victim cfg tl now m q = none) : ∀ x ∈ q, x ∉ keys m := by
  unfold victim at h
  rcases hp with hp | hp | hp <;> rw [hp] at h <;> simp only at h <;>
    exact candsFrom_eq_nil _ _ _ _ _ (firstMin_eq_none h)

/-! ### Uniform specification of one eviction under the invariant

  `Evicted` describes the eviction functions only on a consistent pair (`InvMQ m q`): on an orphan queue
  head, say, `popOne` removes a queue slot and no stored key.  Every `_spec` lemma carries that hypothesis. -/

/-- either one queue key was removed from both structures, or the queue was empty and nothing changed -/
def Evicted (m : Store K V) (q : List K) (r : Store K V × List K × Bool) : Prop :=
  (r.2.2 = true ∧ ∃ k, k ∈ q ∧ r.1 = eraseKey k m ∧ r.2.1 = q.filter (fun x => x ≠ k)) ∨
  (r.2.2 = false ∧ q = [] ∧ r.1 = m ∧ r.2.1 = q)

/-- under the bookkeeping invariant `popStored` removes exactly the queue head -/
theorem popStored_head {k : K} {rest : List K} (h : InvMQ m (k :: rest)) :
    popStored m (k :: rest) = (eraseKey k m, rest, true) := by
  have hk : hasKey k m = true := (hasKey_iff k m).mpr ((h.2.2 k).mp List.mem_cons_self)
  simp only [popStored, hk, if_true]

theorem popStored_spec (h : InvMQ m q) : Evicted m q (popStored m q) := by
  cases q with
  | nil => right; simp [popStored]
  | cons k q =>
    rw [popStored_head h]
    exact Or.inl ⟨rfl, k, List.mem_cons_self, rfl, (filter_ne_of_head h.2.1).symm⟩

theorem popOne_spec (h : InvMQ m q) : Evicted m q (popOne m q) := by
  cases q with
  | nil => right; simp [popOne]
  | cons k q =>
    left
    simp only [popOne]
    exact ⟨by simp, k, List.mem_cons_self, by simp, (filter_ne_of_head h.2.1).symm⟩

theorem evictRandom_spec (h : InvMQ m q) (r : Nat) :
    Evicted m q (evictRandom r m q) := by
  unfold evictRandom
  cases hq : q[r % q.length]? with
  | none =>
    right
    have : q = [] := by
      cases q with
      | nil => rfl
      | cons a q =>
        have hlt : r % (a :: q).length < (a :: q).length := Nat.mod_lt _ (by simp)
        rw [List.getElem?_eq_none_iff] at hq
        exact absurd hlt (Nat.not_lt_of_le hq)
    simp [this]
  | some k =>
    left
    exact ⟨rfl, k, List.mem_of_getElem? hq, rfl, eraseIdx_eq_filter_of_nodup h.2.1 hq⟩

theorem evictScored_spec (h : InvMQ m q) (cfg : Cfg) (tl : Tlru S) (now : Nat)
    (hp : cfg.policy = .lfu ∨ cfg.policy = .arc ∨ cfg.policy = .tlru) :
    Evicted m q (evictScored cfg tl now m q) := by
  unfold evictScored
  cases hv : victim cfg tl now m q with
  | none =>
    right
    have := victim_none hp hv
    have hq : q = [] := by
      cases q with
      | nil => rfl
      | cons a q => exact absurd ((h.2.2 a).mp List.mem_cons_self) (this a List.mem_cons_self)
    simp [hq]
  | some k =>
    left
    have hk := victim_mem hv
    simp only [removeBoth_eq h cfg k]
    exact ⟨by simp, k, hk.1, by simp, by simp⟩

theorem evictLimit_spec (h : InvMQ m q) (cfg : Cfg) (tl : Tlru S) (now r : Nat) :
    Evicted m q (evictLimit cfg tl now r m q) := by
  unfold evictLimit
  cases hp : cfg.policy <;> simp only  -- fifo, lru, lfu, arc, random, tlru
  · exact popStored_spec h
  · exact popStored_spec h
  · exact evictScored_spec h cfg tl now (Or.inl hp)
  · exact evictScored_spec h cfg tl now (Or.inr (Or.inl hp))
  · exact evictRandom_spec h r
  · exact evictScored_spec h cfg tl now (Or.inr (Or.inr hp))

theorem evictMem_spec (h : InvMQ m q) (cfg : Cfg) (tl : Tlru S) (now r : Nat) :
    Evicted m q (evictMem cfg tl now r m q) := by
  unfold evictMem
  cases hp : cfg.policy <;> simp only  -- fifo, lru, lfu, arc, random, tlru
  · cases cfg.flavour <;> simp only
    · exact popStored_spec h
    · exact popOne_spec h
    · exact popOne_spec h
  · cases cfg.flavour <;> simp only
    · exact popStored_spec h
    · exact popOne_spec h
    · exact popOne_spec h
  · exact evictScored_spec h cfg tl now (Or.inl hp)
  · exact evictScored_spec h cfg tl now (Or.inr (Or.inl hp))
  · exact evictRandom_spec h r
  · exact evictScored_spec h cfg tl now (Or.inr (Or.inr hp))

/-! ### `Shrunk`: what evictions, purges and invalidations do to store and queue -/

/-- `r` is `(m, q)` with the keys failing one test removed from both structures -/
def Shrunk (m : Store K V) (q : List K) (r : Store K V × List K) : Prop :=
  ∃ p : K → Bool, r.1 = m.filter (fun e => p e.1) ∧ r.2 = q.filter p

theorem Shrunk.refl (m : Store K V) (q : List K) : Shrunk m q (m, q) :=
  ⟨fun _ => true, (List.filter_eq_self.mpr fun _ _ => rfl).symm, (List.filter_eq_self.mpr fun _ _ => rfl).symm⟩

theorem Shrunk.trans {r r' : Store K V × List K} (h : Shrunk m q r)
    (h' : Shrunk r.1 r.2 r') : Shrunk m q r' := by
  obtain ⟨p, h1, h2⟩ := h
  obtain ⟨p', h1', h2'⟩ := h'
  exact ⟨fun x => p' x && p x, by rw [h1', h1, List.filter_filter], by rw [h2', h2, List.filter_filter]⟩

theorem Shrunk.erase (m : Store K V) (q : List K) (k : K) :
    Shrunk m q (eraseKey k m, q.filter (fun x => x ≠ k)) :=
  ⟨fun x => x ≠ k, rfl, rfl⟩

theorem Shrunk.inv {r : Store K V × List K} (h : InvMQ m q) (hs : Shrunk m q r) :
    InvMQ r.1 r.2 := by
  obtain ⟨p, h1, h2⟩ := hs
  rw [h1, h2]; exact h.filter p

theorem Shrunk.length_le {r : Store K V × List K} (hs : Shrunk m q r) :
    r.1.length ≤ m.length := by
  obtain ⟨p, h1, _⟩ := hs
  rw [h1]; exact List.length_filter_le _ _

theorem Shrunk.keys_sub {r : Store K V × List K} (hs : Shrunk m q r) :
    ∀ x, x ∈ keys r.1 → x ∈ keys m := by
  obtain ⟨p, h1, _⟩ := hs
  rw [h1, keys_filter_key]
  exact fun x hx => (List.mem_filter.mp hx).1

theorem Shrunk.lookup_sub {m : Store K V} {q : List K} {r : Store K V × List K} (hs : Shrunk m q r) {x : K}
    {e : Entry V} (h : lookup x r.1 = some e) : lookup x m = some e := by
  obtain ⟨p, h1, _⟩ := hs
  rw [h1, lookup_filter_key] at h
  split at h
  · exact h
  · cases h

theorem Shrunk.queue_sublist {r : Store K V × List K} (hs : Shrunk m q r) :
    r.2.Sublist q := by
  obtain ⟨p, _, h2⟩ := hs
  rw [h2]; exact List.filter_sublist

theorem Evicted.shrunk {r : Store K V × List K × Bool} (he : Evicted m q r) :
    Shrunk m q (r.1, r.2.1) := by
  rcases he with ⟨_, k, _, h1, h2⟩ | ⟨_, _, h1, h2⟩
  · rw [h1, h2]; exact Shrunk.erase m q k
  · rw [h1, h2]; exact Shrunk.refl m q

theorem Evicted.inv {r : Store K V × List K × Bool} (h : InvMQ m q)
    (he : Evicted m q r) : InvMQ r.1 r.2.1 :=
  he.shrunk.inv h

/-- a successful eviction removes exactly one entry -/
theorem Evicted.length_of_nonempty {r : Store K V × List K × Bool}
    (h : InvMQ m q) (he : Evicted m q r) (hq : q ≠ []) : r.1.length + 1 = m.length ∧ r.2.2 = true := by
  rcases he with ⟨hb, k, hk, h1, _⟩ | ⟨_, h0, _, _⟩
  · rw [h1]; exact ⟨length_eraseKey_of_mem h.1 ((h.2.2 k).mp hk), hb⟩
  · exact absurd h0 hq

theorem Evicted.queue_length {m : Store K V} {q : List K} {r : Store K V × List K × Bool}
    (h : InvMQ m q) (he : Evicted m q r) (hb : r.2.2 = true) : r.2.1.length + 1 = q.length := by
  rcases he with ⟨_, k, hk, h1, h2⟩ | ⟨hf, _, _, _⟩
  · have hi := (h.remove k).length_eq
    have := length_eraseKey_of_mem h.1 ((h.2.2 k).mp hk)
    rw [h2, hi, h.length_eq]; exact this
  · rw [hf] at hb; cases hb

theorem Evicted.length_ge {m : Store K V} {q : List K} {r : Store K V × List K × Bool}
    (h : InvMQ m q) (he : Evicted m q r) : m.length ≤ r.1.length + 1 := by
  rcases he with ⟨_, k, hk, h1, _⟩ | ⟨_, _, h1, _⟩
  · rw [h1]; exact Nat.le_of_eq (length_eraseKey_of_mem h.1 ((h.2.2 k).mp hk)).symm
  · rw [h1]; omega

/-! ### The eviction phase of a store: `limitStep`, `memLoop` -/

theorem limitStep_none {cfg : Cfg} (hl : cfg.limit = none) (tl : Tlru S) (now r : Nat) (m : Store K V) (q : List K) :
    limitStep cfg tl now r m q = (m, q) := by
  unfold limitStep; rw [hl]

theorem limitStep_some {cfg : Cfg} {n : Nat} (hl : cfg.limit = some n) (tl : Tlru S) (now r : Nat) (m : Store K V)
    (q : List K) :
    limitStep cfg tl now r m q =
      if overLimit cfg n m q then ((evictLimit cfg tl now r m q).1, (evictLimit cfg tl now r m q).2.1) else (m, q) := by
  unfold limitStep; rw [hl]

theorem overLimit_async_iff {cfg : Cfg} (hf : cfg.flavour = .async) (n : Nat) (m : Store K V) (q : List K) :
    overLimit cfg n m q = true ↔ n ≤ m.length := by
  unfold overLimit; rw [hf]; exact decide_eq_true_iff

theorem overLimit_sync_iff {cfg : Cfg} (hf : cfg.flavour ≠ .async) (n : Nat) (m : Store K V) (q : List K) :
    overLimit cfg n m q = true ↔ n < q.length := by
  unfold overLimit
  cases hfl : cfg.flavour
  case async => exact absurd hfl hf
  all_goals exact decide_eq_true_iff

theorem limitStep_of_not_over {cfg : Cfg} {n : Nat} (hl : cfg.limit = some n) (ho : ¬ overLimit cfg n m q = true)
    (tl : Tlru S) (now r : Nat) : limitStep cfg tl now r m q = (m, q) := by
  rw [limitStep_some hl, if_neg ho]

/-- the entry-limit step does nothing when no configured limit is exceeded -/
theorem limitStep_noop {cfg : Cfg} (tl : Tlru S) (now r : Nat) (m : Store K V) (q : List K)
    (h : ∀ n, cfg.limit = some n → ¬ overLimit cfg n m q = true) : limitStep cfg tl now r m q = (m, q) := by
  cases hl : cfg.limit with
  | none => exact limitStep_none hl tl now r m q
  | some n => exact limitStep_of_not_over hl (h n hl) tl now r

theorem limitStep_of_over {cfg : Cfg} {n : Nat} (hl : cfg.limit = some n) (ho : overLimit cfg n m q = true)
    (h : InvMQ m q) (hq : q ≠ []) (tl : Tlru S) (now r : Nat) :
    (limitStep cfg tl now r m q).1.length + 1 = m.length := by
  rw [limitStep_some hl, if_pos ho]
  exact (Evicted.length_of_nonempty h (evictLimit_spec h cfg tl now r) hq).1

theorem limitStep_eq_or (now r : Nat) (m : Store K V) (q : List K) :
    limitStep cfg tl now r m q = (m, q) ∨
    limitStep cfg tl now r m q = ((evictLimit cfg tl now r m q).1, (evictLimit cfg tl now r m q).2.1) := by
  cases hl : cfg.limit with
  | none => exact Or.inl (limitStep_none hl tl now r m q)
  | some n =>
    rw [limitStep_some hl]
    split
    · exact Or.inr rfl
    · exact Or.inl rfl

theorem limitStep_shrunk (h : InvMQ m q) (cfg : Cfg) (tl : Tlru S) (now r : Nat) :
    Shrunk m q (limitStep cfg tl now r m q) := by
  rcases limitStep_eq_or cfg tl now r m q with he | he <;> rw [he]
  · exact Shrunk.refl m q
  · exact (evictLimit_spec h cfg tl now r).shrunk

theorem limitStep_keys_sub (h : InvMQ m q) (cfg : Cfg) (tl : Tlru S) (now r : Nat) :
    ∀ x, x ∈ keys (limitStep cfg tl now r m q).1 → x ∈ keys m :=
  (limitStep_shrunk h cfg tl now r).keys_sub

theorem limitStep_length_le {m : Store K V} {q : List K} (h : InvMQ m q) (cfg : Cfg) (tl : Tlru S) (now r : Nat) :
    (limitStep cfg tl now r m q).1.length ≤ m.length :=
  (limitStep_shrunk h cfg tl now r).length_le

theorem limitStep_length_ge {m : Store K V} {q : List K} (h : InvMQ m q) (cfg : Cfg) (tl : Tlru S)
    (now r : Nat) : m.length ≤ (limitStep cfg tl now r m q).1.length + 1 := by
  rcases limitStep_eq_or cfg tl now r m q with he | he <;> rw [he]
  · exact Nat.le_succ _
  · exact (evictLimit_spec h cfg tl now r).length_ge h

theorem memLoop_induction {cfg : Cfg} {tl : Tlru S} {now : Nat} {P : Store K V → List K → Prop}
    (hstep : ∀ r m q, P m q → P (evictMem cfg tl now r m q).1 (evictMem cfg tl now r m q).2.1)
    (size : V → Nat) (maxM extra fuel : Nat) (rs : List Nat) (h : P m q) :
    P (memLoop cfg tl size now maxM extra fuel rs m q).1 (memLoop cfg tl size now maxM extra fuel rs m q).2.1 := by
  induction fuel generalizing rs m q with
  | zero => exact h
  | succ fuel ih =>
    simp only [memLoop]
    split
    · exact h
    · have hs := hstep (rs.headD 0) m q h
      generalize evictMem cfg tl now (rs.headD 0) m q = r at hs
      obtain ⟨m', q', ev⟩ := r
      cases ev
      · exact hs
      · exact ih rs.tail hs

theorem memLoop_inv_shrunk (now maxM extra fuel : Nat) (rs : List Nat) (h : InvMQ m q) :
    InvMQ (memLoop cfg tl size now maxM extra fuel rs m q).1 (memLoop cfg tl size now maxM extra fuel rs m q).2.1 ∧
    Shrunk m q ((memLoop cfg tl size now maxM extra fuel rs m q).1, (memLoop cfg tl size now maxM extra fuel rs m q).2.1) :=
  memLoop_induction (P := fun m' q' => InvMQ m' q' ∧ Shrunk m q (m', q'))
    (fun r _ _ hp =>
      have he := (evictMem_spec hp.1 cfg tl now r).shrunk
      ⟨he.inv hp.1, hp.2.trans he⟩)
    size maxM extra fuel rs ⟨h, Shrunk.refl m q⟩

theorem memLoop_inv (now maxM extra fuel : Nat) (rs : List Nat) (h : InvMQ m q) :
    InvMQ (memLoop cfg tl size now maxM extra fuel rs m q).1 (memLoop cfg tl size now maxM extra fuel rs m q).2.1 :=
  (memLoop_inv_shrunk cfg tl size now maxM extra fuel rs h).1

theorem memLoop_shrunk (now maxM extra fuel : Nat) (rs : List Nat) (h : InvMQ m q) :
    Shrunk m q ((memLoop cfg tl size now maxM extra fuel rs m q).1, (memLoop cfg tl size now maxM extra fuel rs m q).2.1) :=
  (memLoop_inv_shrunk cfg tl size now maxM extra fuel rs h).2

/-- the eviction phase of a store: the memory loop when `max_memory` is configured (`extra` and the fuel
    `q.length + 1` as in `insertMem`: each round removes a queue key or stops), then the entry-limit step -/
def evictPhase (cfg : Cfg) (tl : Tlru S) (size : V → Nat) (now extra : Nat) (rs : List Nat) (m : Store K V)
    (q : List K) : Store K V × List K :=
  match cfg.maxMem with
  | none => limitStep cfg tl now (rs.headD 0) m q
  | some maxM =>
    let r := memLoop cfg tl size now maxM extra (q.length + 1) rs m q
    limitStep cfg tl now (r.2.2.headD 0) r.1 r.2.1

theorem evictPhase_none {cfg : Cfg} (hm : cfg.maxMem = none) (tl : Tlru S) (size : V → Nat) (now extra : Nat)
    (rs : List Nat) (m : Store K V) (q : List K) :
    evictPhase cfg tl size now extra rs m q = limitStep cfg tl now (rs.headD 0) m q := by
  unfold evictPhase; rw [hm]

theorem evictPhase_some {cfg : Cfg} {maxM : Nat} (hm : cfg.maxMem = some maxM) (tl : Tlru S) (size : V → Nat)
    (now extra : Nat) (rs : List Nat) (m : Store K V) (q : List K) :
    evictPhase cfg tl size now extra rs m q =
      limitStep cfg tl now ((memLoop cfg tl size now maxM extra (q.length + 1) rs m q).2.2.headD 0)
        (memLoop cfg tl size now maxM extra (q.length + 1) rs m q).1
        (memLoop cfg tl size now maxM extra (q.length + 1) rs m q).2.1 := by
  unfold evictPhase; rw [hm]

theorem evictPhase_shrunk (now extra : Nat) (rs : List Nat)
    (h : InvMQ m q) : Shrunk m q (evictPhase cfg tl size now extra rs m q) := by
  unfold evictPhase
  cases cfg.maxMem with
  | none => exact limitStep_shrunk h cfg tl now _
  | some maxM =>
    have h1 := memLoop_inv_shrunk cfg tl size now maxM extra (q.length + 1) rs h
    exact h1.2.trans (limitStep_shrunk h1.1 cfg tl now _)

theorem evictPhase_unbounded {cfg : Cfg} (hl : cfg.limit = none) (hm : cfg.maxMem = none) (tl : Tlru S)
    (size : V → Nat) (now extra : Nat) (rs : List Nat) (m : Store K V) (q : List K) :
    evictPhase cfg tl size now extra rs m q = (m, q) := by
  unfold evictPhase; rw [hm]; exact limitStep_none hl tl now _ m q

/-! ### Normal forms of the operations -/

theorem step_get (rs : List Nat) (s : State K V) (k : K) :
    step cfg tl size rs s (.get k) = ((get cfg s k).1, .val (get cfg s k).2) := rfl

theorem step_insert (rs : List Nat) (s : State K V) (k : K) (v : V) :
    (step cfg tl size rs s (.insert k v)).1 = insert cfg tl (rs.headD 0) s k v := rfl

theorem step_insertMem (rs : List Nat) (s : State K V) (k : K) (v : V) :
    (step cfg tl size rs s (.insertMem k v)).1 = insertMem cfg tl size rs s k v := rfl

theorem get_miss {cfg : Cfg} {s : State K V} {k : K} (hl : lookup k s.store = none) :
    get cfg s k = ({ s with missStat := s.missStat + 1 }, none) := by
  unfold get; rw [hl]

theorem get_expired {cfg : Cfg} {s : State K V} {k : K} {e : Entry V} (hl : lookup k s.store = some e)
    (hx : expired cfg s.now e = true) :
    get cfg s k = ({ s with store := (removeBoth cfg k s.store s.queue).1, queue := (removeBoth cfg k s.store s.queue).2,
                            missStat := s.missStat + 1 }, none) := by
  unfold get; rw [hl]; simp only [hx, if_true]

theorem get_hit {cfg : Cfg} {s : State K V} {k : K} {e : Entry V} (hl : lookup k s.store = some e)
    (hx : expired cfg s.now e = false) :
    get cfg s k = ({ s with store := (hitUpdate cfg k s.store s.queue).1, queue := (hitUpdate cfg k s.store s.queue).2,
                            hitStat := s.hitStat + 1 }, some e.val) := by
  unfold get; rw [hl]; simp only [hx, Bool.false_eq_true, if_false]

/-- the three ways a lookup goes, as a case rule -/
theorem get_cases (s : State K V) (k : K) {P : State K V × Option V → Prop}
    (miss : lookup k s.store = none → P ({ s with missStat := s.missStat + 1 }, none))
    (stale : ∀ e, lookup k s.store = some e → expired cfg s.now e = true →
      P ({ s with store := (removeBoth cfg k s.store s.queue).1, queue := (removeBoth cfg k s.store s.queue).2,
                  missStat := s.missStat + 1 }, none))
    (hit : ∀ e, lookup k s.store = some e → expired cfg s.now e = false →
      P ({ s with store := (hitUpdate cfg k s.store s.queue).1, queue := (hitUpdate cfg k s.store s.queue).2,
                  hitStat := s.hitStat + 1 }, some e.val)) : P (get cfg s k) := by
  cases hl : lookup k s.store with
  | none => rw [get_miss hl]; exact miss hl
  | some e =>
    cases hx : expired cfg s.now e with
    | true => rw [get_expired hl hx]; exact stale e hl hx
    | false => rw [get_hit hl hx]; exact hit e hl hx

theorem hitUpdate_store (k : K) (m : Store K V) (q : List K) :
    (hitUpdate cfg k m q).1 = if cfg.policy.bumps then bumpHits k m else m := by
  unfold hitUpdate; cases cfg.flavour <;> rfl

theorem asyncDrop_of_inv (h : InvMQ m q) (k : K) :
    (if hasKey k m then (eraseKey k m, q.filter (fun x => x ≠ k)) else (m, q)) =
      (eraseKey k m, q.filter (fun x => x ≠ k)) := by
  split
  · rfl
  · rename_i hh
    have hk : k ∉ keys m := (hasKey_false_iff k m).mp (by simpa using hh)
    rw [eraseKey_of_not_mem hk, filter_ne_of_not_mem fun hq => hk ((h.2.2 k).mp hq)]

/-- `insert_with_memory` takes the oversize path (`size v > max_memory`: the value is not cached and
    an existing entry for the key is dropped) -/
def oversize (cfg : Cfg) (size : V → Nat) (v : V) : Bool :=
  match cfg.maxMem with
  | some maxM => decide (size v > maxM)
  | none => false

/-- The shape shared by `insert` and `insert_with_memory`, with the eviction phase `ev` left open.
    Sync: store, requeue, then evict (the newcomer can be the victim).  Async: drop an existing entry
    of the key, evict, then store and push. -/
def storeVia (cfg : Cfg) (ev : Store K V → List K → Store K V × List K) (s : State K V) (k : K) (v : V) :
    State K V :=
  match cfg.flavour with
  | .async =>
    let p := if hasKey k s.store then (eraseKey k s.store, s.queue.filter (fun x => x ≠ k)) else (s.store, s.queue)
    { s with store := put k ⟨v, stamp cfg s.now, 0⟩ (ev p.1 p.2).1, queue := (ev p.1 p.2).2 ++ [k] }
  | _ =>
    { s with store := (ev (put k ⟨v, stamp cfg s.now, 0⟩ s.store) (erasePush k s.queue)).1,
             queue := (ev (put k ⟨v, stamp cfg s.now, 0⟩ s.store) (erasePush k s.queue)).2 }

theorem insert_eq_storeVia (r : Nat) (s : State K V) (k : K) (v : V) :
    insert cfg tl r s k v = storeVia cfg (limitStep cfg tl s.now r) s k v := by
  unfold insert storeVia; cases cfg.flavour <;> rfl

theorem insertMem_eq_storeVia {cfg : Cfg} {size : V → Nat} {v : V} (hno : oversize cfg size v = false) (tl : Tlru S)
    (rs : List Nat) (s : State K V) (k : K) :
    insertMem cfg tl size rs s k v =
      storeVia cfg (evictPhase cfg tl size s.now (if cfg.flavour = .async then size v else 0) rs) s k v := by
  unfold oversize at hno
  unfold insertMem storeVia evictPhase
  cases hm : cfg.maxMem with
  | none => cases cfg.flavour <;> rfl
  | some maxM =>
    rw [hm] at hno
    have hno' : ¬ size v > maxM := of_decide_eq_false hno
    cases cfg.flavour <;> simp only [hno', if_false] <;> rfl

theorem oversize_iff {cfg : Cfg} {size : V → Nat} {v : V} :
    oversize cfg size v = true ↔ ∃ maxM, cfg.maxMem = some maxM ∧ size v > maxM := by
  unfold oversize
  cases cfg.maxMem with
  | none => exact ⟨(fun h => nomatch h), fun ⟨_, h, _⟩ => nomatch h⟩
  | some maxM => exact ⟨fun h => ⟨maxM, rfl, of_decide_eq_true h⟩, fun ⟨_, h, hgt⟩ => decide_eq_true (Option.some.inj h ▸ hgt)⟩

theorem oversize_of_lt {cfg : Cfg} {size : V → Nat} {v : V} {maxM : Nat} (hm : cfg.maxMem = some maxM)
    (hv : maxM < size v) : oversize cfg size v = true := by
  unfold oversize; rw [hm]; exact decide_eq_true hv

theorem oversize_of_le {cfg : Cfg} {size : V → Nat} {v : V} {maxM : Nat} (hm : cfg.maxMem = some maxM)
    (hv : size v ≤ maxM) : oversize cfg size v = false := by
  unfold oversize; rw [hm]; exact decide_eq_false (Nat.not_lt.mpr hv)

theorem oversize_true {cfg : Cfg} {size : V → Nat} {v : V} (h : oversize cfg size v = true) :
    ∃ maxM, cfg.maxMem = some maxM ∧ size v > maxM := by
  unfold oversize at h
  cases hm : cfg.maxMem with
  | none => rw [hm] at h; cases h
  | some maxM => rw [hm] at h; exact ⟨maxM, rfl, of_decide_eq_true h⟩

/-- the oversize path, no invariant assumed: nothing is stored, an existing entry of the key is dropped
    from the store; clock and counters stay -/
theorem insertMem_oversize_frame {cfg : Cfg} {size : V → Nat} {v : V} (hov : oversize cfg size v = true) (tl : Tlru S)
    (rs : List Nat) (s : State K V) (k : K) :
    insertMem cfg tl size rs s k v =
      { s with store := eraseKey k s.store, queue := (insertMem cfg tl size rs s k v).queue } := by
  obtain ⟨maxM, hm, hgt⟩ := oversize_iff.mp hov
  unfold insertMem
  rw [hm]
  cases cfg.flavour <;> simp only [hgt, if_true]
  case async =>
    split
    · rfl
    · rename_i hh
      rw [eraseKey_of_not_mem ((hasKey_false_iff k s.store).mp (by simpa using hh))]
  all_goals rw [eraseKey_after_put]

/-- in a consistent state the oversize path drops exactly the key from the queue -/
theorem insertMem_oversize_queue {cfg : Cfg} {size : V → Nat} {v : V} (hov : oversize cfg size v = true) (tl : Tlru S)
    (rs : List Nat) {s : State K V} (hi : Inv s) (k : K) :
    (insertMem cfg tl size rs s k v).queue = s.queue.filter (fun x => x ≠ k) := by
  obtain ⟨maxM, hm, hgt⟩ := oversize_iff.mp hov
  unfold insertMem
  rw [hm]
  cases cfg.flavour <;> simp only [hgt, if_true]
  case async => exact congrArg (·.2) (asyncDrop_of_inv hi k)
  all_goals rw [dropLast_erasePush, erase_eq_filter_of_nodup hi.2.1]

theorem insertMem_oversize {cfg : Cfg} {size : V → Nat} {v : V} (hov : oversize cfg size v = true) (tl : Tlru S)
    (rs : List Nat) {s : State K V} (hi : Inv s) (k : K) :
    insertMem cfg tl size rs s k v =
      { s with store := eraseKey k s.store, queue := s.queue.filter (fun x => x ≠ k) } := by
  rw [insertMem_oversize_frame hov, insertMem_oversize_queue hov tl rs hi]

theorem storeVia_sync {cfg : Cfg} (hf : cfg.flavour ≠ .async) (ev : Store K V → List K → Store K V × List K)
    (s : State K V) (k : K) (v : V) :
    storeVia cfg ev s k v =
      { s with store := (ev (put k ⟨v, stamp cfg s.now, 0⟩ s.store) (erasePush k s.queue)).1,
               queue := (ev (put k ⟨v, stamp cfg s.now, 0⟩ s.store) (erasePush k s.queue)).2 } := by
  unfold storeVia
  cases hfl : cfg.flavour
  case async => exact absurd hfl hf
  all_goals rfl

theorem storeVia_async {cfg : Cfg} (hf : cfg.flavour = .async) (ev : Store K V → List K → Store K V × List K)
    {s : State K V} (hi : Inv s) (k : K) (v : V) :
    storeVia cfg ev s k v =
      { s with store := put k ⟨v, stamp cfg s.now, 0⟩ (ev (eraseKey k s.store) (s.queue.filter (fun x => x ≠ k))).1,
               queue := (ev (eraseKey k s.store) (s.queue.filter (fun x => x ≠ k))).2 ++ [k] } := by
  unfold storeVia
  rw [hf]
  simp only [asyncDrop_of_inv hi]

/-- the async stores end by writing the fresh entry (eviction happens before it) -/
theorem storeVia_async_self {cfg : Cfg} (hf : cfg.flavour = .async) (ev : Store K V → List K → Store K V × List K)
    (s : State K V) (k : K) (v : V) :
    lookup k (storeVia cfg ev s k v).store = some ⟨v, stamp cfg s.now, 0⟩ := by
  unfold storeVia; rw [hf]; exact lookup_put_self _ _ _

theorem storeVia_noevict {cfg : Cfg} {ev : Store K V → List K → Store K V × List K} (hev : ∀ m q, ev m q = (m, q))
    (s : State K V) (k : K) (v : V) : (storeVia cfg ev s k v).store = put k ⟨v, stamp cfg s.now, 0⟩ s.store := by
  unfold storeVia
  split
  · simp only [hev]
    split
    · unfold put; rw [eraseKey_of_not_mem (not_mem_keys_eraseKey k s.store)]
    · rfl
  · rw [hev]

/-! ### Every operation preserves the invariant -/

theorem hitUpdate_inv (k : K) (h : InvMQ m q) (hk : k ∈ keys m) :
    InvMQ (hitUpdate cfg k m q).1 (hitUpdate cfg k m q).2 := by
  unfold hitUpdate
  have hm : InvMQ (if cfg.policy.bumps = true then bumpHits k m else m) q := by
    split
    · exact InvMQ.bumpHits h k
    · exact h
  have hk' : k ∈ keys (if cfg.policy.bumps = true then bumpHits k m else m) := by
    split
    · rw [keys_bumpHits]; exact hk
    · exact hk
  generalize (if cfg.policy.bumps = true then bumpHits k m else m) = m1 at hm hk'
  cases cfg.flavour <;> simp only
  case async =>
    split
    · exact InvMQ.retainPush hm hk'
    · exact hm
  all_goals
    split
    · exact InvMQ.moveToEnd hm k
    · exact hm

theorem get_inv (s : State K V) (k : K) (h : Inv s) : Inv (get cfg s k).1 :=
  get_cases cfg s k (P := fun r => Inv r.1) (fun _ => h) (fun _ _ _ => InvMQ.removeBoth h cfg k)
    (fun _ hl _ => hitUpdate_inv cfg k h (mem_keys_of_lookup hl))

theorem storeVia_inv {cfg : Cfg} {ev : Store K V → List K → Store K V × List K}
    (hev : ∀ m q, InvMQ m q → Shrunk m q (ev m q)) {s : State K V} (h : Inv s) (k : K) (v : V) :
    Inv (storeVia cfg ev s k v) := by
  by_cases hf : cfg.flavour = .async
  · rw [storeVia_async hf ev h]
    have hs := hev _ _ (h.remove k)
    exact InvMQ.put_push (hs.inv (h.remove k)) (fun hk => not_mem_keys_eraseKey k _ (hs.keys_sub k hk)) _
  · rw [storeVia_sync hf]
    exact (hev _ _ (h.put_erasePush k _)).inv (h.put_erasePush k _)

theorem insert_inv (r : Nat) (s : State K V) (k : K) (v : V) (h : Inv s) :
    Inv (insert cfg tl r s k v) := by
  rw [insert_eq_storeVia]; exact storeVia_inv (fun m q hmq => limitStep_shrunk hmq cfg tl s.now r) h k v

theorem insertMem_inv (rs : List Nat) (s : State K V) (k : K) (v : V)
    (h : Inv s) : Inv (insertMem cfg tl size rs s k v) := by
  cases hov : oversize cfg size v with
  | true => rw [insertMem_oversize hov tl rs h]; exact h.remove k
  | false =>
    rw [insertMem_eq_storeVia hov]
    exact storeVia_inv (fun m q hmq => evictPhase_shrunk cfg tl size s.now _ rs hmq) h k v

theorem clear_inv (s : State K V) : Inv (clear s) := by
  simp [clear, Inv, InvMQ]

theorem foldl_erase_eq_filter (ks : List K) {q : List K} (h : q.Nodup) :
    ks.foldl (fun q k => q.erase k) q = q.filter (fun x => !ks.contains x) := by
  induction ks generalizing q with
  | nil =>
    simp only [List.foldl_nil]
    exact (List.filter_eq_self.mpr (by intro a _; simp)).symm
  | cons k ks ih =>
    simp only [List.foldl_cons]
    rw [ih (h.sublist List.erase_sublist), erase_eq_filter_of_nodup h, List.filter_filter]
    congr 1
    funext x
    by_cases hx : x = k <;> simp [hx]

/-- under the invariant the queue clean-up of the callback (erase the first occurrence of every removed
    key) is the order-preserving filter of the queue -/
theorem invalidateWith_eq (p : K → Bool) (s : State K V) (h : Inv s) :
    invalidateWith p s =
      { s with store := s.store.filter (fun e => !p e.1), queue := s.queue.filter (fun k => !p k) } := by
  unfold invalidateWith
  simp only
  rw [foldl_erase_eq_filter _ h.2.1]
  congr 1
  apply List.filter_congr
  intro x hx
  have hk : x ∈ keys s.store := (h.2.2 x).mp hx
  simp [List.contains_eq_mem, List.mem_filter, hk]

theorem invalidateWith_shrunk (p : K → Bool) {s : State K V} (h : Inv s) :
    Shrunk s.store s.queue ((invalidateWith p s).store, (invalidateWith p s).queue) := by
  rw [invalidateWith_eq p s h]; exact ⟨fun x => !p x, rfl, rfl⟩

theorem invalidateWith_inv (p : K → Bool) (s : State K V) (h : Inv s) : Inv (invalidateWith p s) :=
  (invalidateWith_shrunk p h).inv h

theorem step_inv (rs : List Nat) (s : State K V) (op : Op K V)
    (h : Inv s) : Inv (step cfg tl size rs s op).1 := by
  cases op with
  | get k => exact get_inv cfg s k h
  | insert k v => exact insert_inv cfg tl _ s k v h
  | insertMem k v => exact insertMem_inv cfg tl size rs s k v h
  | clear => exact clear_inv s
  | invalidateWith p => exact invalidateWith_inv p s h
  | tick ms => exact h

/-! ### `run` -/

theorem run_cons (s : State K V) (op : Op K V) (rs : List Nat)
    (ops : List (Op K V × List Nat)) :
    run cfg tl size s ((op, rs) :: ops) =
      ((run cfg tl size (step cfg tl size rs s op).1 ops).1,
       (step cfg tl size rs s op).2 :: (run cfg tl size (step cfg tl size rs s op).1 ops).2) := rfl

theorem run_append (s : State K V)
    (a b : List (Op K V × List Nat)) :
    run cfg tl size s (a ++ b) =
      ((run cfg tl size (run cfg tl size s a).1 b).1,
       (run cfg tl size s a).2 ++ (run cfg tl size (run cfg tl size s a).1 b).2) := by
  induction a generalizing s with
  | nil => rfl
  | cons x a ih =>
    obtain ⟨op, rs⟩ := x
    rw [List.cons_append, run_cons, run_cons, ih]; rfl

theorem run_length (cfg : Cfg) (tl : Tlru S) (size : V → Nat) (s : State K V)
    (ops : List (Op K V × List Nat)) : (run cfg tl size s ops).2.length = ops.length := by
  induction ops generalizing s with
  | nil => rfl
  | cons a ops ih =>
    obtain ⟨op, rs⟩ := a
    rw [run_cons, List.length_cons, List.length_cons, ih]

/-- **Induction over a history.**  A predicate of (history so far, state) that every operation keeps
    holds after any further history. -/
theorem run_induction {cfg : Cfg} {tl : Tlru S} {size : V → Nat} {P : List (Op K V × List Nat) → State K V → Prop}
    (hstep : ∀ h rs s op, P h s → P (h ++ [(op, rs)]) (step cfg tl size rs s op).1)
    (h : List (Op K V × List Nat)) (s : State K V) (ops : List (Op K V × List Nat)) (hp : P h s) :
    P (h ++ ops) (run cfg tl size s ops).1 := by
  induction ops generalizing h s with
  | nil => rw [List.append_nil]; exact hp
  | cons a ops ih =>
    obtain ⟨op, rs⟩ := a
    rw [List.append_cons, run_cons]
    exact ih _ _ (hstep h rs s op hp)

theorem run_inv (s : State K V) (ops : List (Op K V × List Nat))
    (h : Inv s) : Inv (run cfg tl size s ops).1 :=
  run_induction (P := fun _ s => Inv s) (fun _ rs s op hi => step_inv cfg tl size rs s op hi) [] s ops h

/-! ### In any state: candidates and evicted stores come from the store; only the random policy looks at its draw

  No invariant is assumed here: the ties of the translated engines (`Lemmas/Source.lean`), which run on any store and
  queue, use these facts. -/

/-- every candidate's score is a score of a stored entry -/
theorem mem_candsFrom (score : Entry V → Nat → Nat → S) (m : Store K V) (len : Nat) :
    ∀ (q : List K) (i : Nat) (c : K × S), c ∈ candsFrom score m len i q →
      ∃ e j, lookup c.1 m = some e ∧ c.2 = score e j len
  | [], _, c, h => by simp [candsFrom] at h
  | k :: q, i, c, h => by
      simp only [candsFrom] at h
      cases hk : lookup k m with
      | none => simp [hk] at h; exact mem_candsFrom score m len q (i + 1) c h
      | some e =>
        simp [hk] at h
        rcases h with rfl | h
        · exact ⟨e, i, hk, rfl⟩
        · exact mem_candsFrom score m len q (i + 1) c h

theorem popStored_of_none (m : Store K V) : ∀ q : List K, (popStored m q).2.2 = false → (popStored m q).1 = m
  | [], _ => rfl
  | k :: q, h => by
      simp only [popStored] at h ⊢
      split at h
      · cases h
      · next hk => simp only [hk]; exact popStored_of_none m q h

theorem mem_popStored : ∀ (q : List K) (m : Store K V) (p : K × Entry V), p ∈ (popStored m q).1 → p ∈ m
  | [], m, p, h => h
  | k :: q, m, p, h => by
      simp only [popStored] at h
      split at h
      · exact mem_eraseKey h
      · exact mem_popStored q m p h

theorem mem_popOne (q : List K) (m : Store K V) (p : K × Entry V) (h : p ∈ (popOne m q).1) : p ∈ m := by
  cases q with
  | nil => exact h
  | cons k q => exact mem_eraseKey h

theorem removeBoth_fst (cfg : Cfg) (k : K) (m : Store K V) (q : List K) : (removeBoth cfg k m q).1 = eraseKey k m := by
  unfold removeBoth
  split <;> rfl

theorem mem_evictScored (cfg : Cfg) (tl : Tlru S) (now : Nat) (m : Store K V) (q : List K)
    (p : K × Entry V) (h : p ∈ (evictScored cfg tl now m q).1) : p ∈ m := by
  unfold evictScored at h
  split at h
  · exact h
  · exact mem_eraseKey (removeBoth_fst cfg _ m q ▸ h)

theorem mem_evictRandom (r : Nat) (m : Store K V) (q : List K)
    (p : K × Entry V) (h : p ∈ (evictRandom r m q).1) : p ∈ m := by
  unfold evictRandom at h
  split at h
  · exact h
  · exact mem_eraseKey h

theorem mem_evictMem (cfg : Cfg) (tl : Tlru S) (now r : Nat) (m : Store K V) (q : List K)
    (p : K × Entry V) (h : p ∈ (evictMem cfg tl now r m q).1) : p ∈ m := by
  unfold evictMem at h
  split at h
  · split at h
    · exact mem_popStored q m p h
    · exact mem_popOne q m p h
  · split at h
    · exact mem_popStored q m p h
    · exact mem_popOne q m p h
  · exact mem_evictRandom r m q p h
  · exact mem_evictScored cfg tl now m q p h

theorem evictRandom_nil (r : Nat) (m : Store K V) : evictRandom r m ([] : List K) = (m, [], false) := rfl

theorem evictMem_indep (cfg : Cfg) (tl : Tlru S) (now r r' : Nat) (m : Store K V) (q : List K)
    (h : cfg.policy ≠ .random ∨ q = []) : evictMem cfg tl now r m q = evictMem cfg tl now r' m q := by
  unfold evictMem
  split
  · rfl
  · rfl
  · rcases h with h | rfl
    · contradiction
    · rfl
  · rfl

theorem evictLimit_indep (cfg : Cfg) (tl : Tlru S) (now r r' : Nat) (m : Store K V) (q : List K)
    (h : cfg.policy ≠ .random ∨ q = []) : evictLimit cfg tl now r m q = evictLimit cfg tl now r' m q := by
  unfold evictLimit
  split
  · rfl
  · rfl
  · rcases h with h | rfl
    · contradiction
    · rfl
  · rfl

theorem limitStep_indep (cfg : Cfg) (tl : Tlru S) (now r r' : Nat) (m : Store K V) (q : List K)
    (h : cfg.policy ≠ .random ∨ q = []) : limitStep cfg tl now r m q = limitStep cfg tl now r' m q := by
  unfold limitStep
  rw [evictLimit_indep cfg tl now r r' m q h]

/-! ### A hit keeps every stored value -/

section
variable (k : K)

theorem lookup_bumpHits_val (x : K) (m : Store K V) :
    (lookup x (bumpHits k m)).map (·.val) = (lookup x m).map (·.val) :=
  lookup_modify_val k x (fun e => { e with hits := e.hits + 1 }) (fun _ => rfl) m

theorem lookup_hit_val (x : K) (m : Store K V) :
    (lookup x (if cfg.policy.bumps then bumpHits k m else m)).map (·.val) = (lookup x m).map (·.val) := by
  split
  · exact lookup_bumpHits_val k x m
  · rfl

end

end Cachelito
