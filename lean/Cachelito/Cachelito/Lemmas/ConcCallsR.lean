/-
  Lemmas about `Cachelito.ConcCallsR` (calls with impure outcomes and a conditional store over the
  interleaving model) for the concurrent clauses of C09 / C10 (`Props/C09c.lean`).

  §1  one step of a caller, case by case (`CallerStep`); it IS a `ConcData` thread step (or, for the return of
      a non-storing call, nothing); one step of the system (`callStep_cases`), runs (`callRunWith_invariant`)
  §2  values: a predicate `P` on (key, value) pairs kept by every micro-step — ANY configuration
  §3  the plain configuration (`ConcCalls.Plain`): what the engine micro-steps of a call do, the stage invariant,
      the history of the log (`Pre`, `Hist`, `Good`) from which the log invariant and "stored stays stored" follow
  §4  the deterministic instance coincides with `ConcCalls`; the invariant of `ConcCalls` is the image of the
      invariant of this model
-/
import Cachelito.ConcCallsR
import Cachelito.Lemmas.ConcCalls
import Cachelito.Lemmas.Calls

set_option linter.unusedSectionVars false

namespace Cachelito.ConcCallsR
open Cachelito Cachelito.ConcData

variable {K V S : Type} [DecidableEq K]
variable {mem : Bool} {cfg : Cfg} {tl : Tlru S} {size : V → Nat}

/-! ## §1 One step of a caller -/

/-- what the first micro-step of a lookup logs (later micro-steps log nothing) -/
def readEvs (cfg : Cfg) (s : State K V) (k : K) : Option (Pend K V) → List (Ev K V)
  | none => [.read k (ConcCalls.found cfg s k)]
  | some _ => []

/-- what the first micro-step of a store logs -/
def writeEvs (k : K) : Option (Pend K V) → List (Ev K V)
  | none => [.write k]
  | some _ => []

theorem mem_readEvs {cfg : Cfg} {s : State K V} {k : K} {p : Option (Pend K V)} {e : Ev K V}
    (h : e ∈ readEvs cfg s k p) : e = .read k (ConcCalls.found cfg s k) ∧ p = none := by
  cases p with
  | none => exact ⟨List.mem_singleton.mp h, rfl⟩
  | some _ => cases h

theorem mem_writeEvs {k : K} {p : Option (Pend K V)} {e : Ev K V} (h : e ∈ writeEvs k p) :
    e = .write k ∧ p = none := by
  cases p with
  | none => exact ⟨List.mem_singleton.mp h, rfl⟩
  | some _ => cases h

/-- **One step of a caller of the real wrapper**, by the stage of its current call and the result of the
    engine micro-step: a lookup goes on / is served / misses (then the body runs); a store goes on / finishes
    (the call returns); a call whose result is not stored returns without touching the cache. -/
inductive CallerStep (mem : Bool) (cfg : Cfg) (tl : Tlru S) (size : V → Nat) (s : State K V) (c : Caller K V) :
    State K V × Caller K V × List (Ev K V) → Prop
  | lookMore {k rs v st rest p s' p'} : c.calls = (k, rs, v, st) :: rest → c.stage = .lookup p →
      micro false cfg tl size s (.get k) rs p = (s', .more p') →
      CallerStep mem cfg tl size s c (s', { c with stage := .lookup (some p') }, readEvs cfg s k p)
  | served {k rs v st rest p s' op w} : c.calls = (k, rs, v, st) :: rest → c.stage = .lookup p →
      micro false cfg tl size s (.get k) rs p = (s', .fin op (.val (some w))) →
      CallerStep mem cfg tl size s c
        (s', { calls := rest, stage := .lookup none, bodies := c.bodies, rets := c.rets ++ [(k, w)] },
         .ret k w false :: readEvs cfg s k p)
  | missed {k rs v st rest p s' op o} : c.calls = (k, rs, v, st) :: rest → c.stage = .lookup p →
      micro false cfg tl size s (.get k) rs p = (s', .fin op o) → (∀ w, o ≠ .val (some w)) →
      CallerStep mem cfg tl size s c
        (s', { c with stage := .store none, bodies := c.bodies ++ [k] }, .body k :: readEvs cfg s k p)
  | storeMore {k rs v rest p s' p'} : c.calls = (k, rs, v, true) :: rest → c.stage = .store p →
      micro false cfg tl size s (storeOp mem k v) rs p = (s', .more p') →
      CallerStep mem cfg tl size s c (s', { c with stage := .store (some p') }, writeEvs k p)
  | stored {k rs v rest p s' op o} : c.calls = (k, rs, v, true) :: rest → c.stage = .store p →
      micro false cfg tl size s (storeOp mem k v) rs p = (s', .fin op o) →
      CallerStep mem cfg tl size s c
        (s', { calls := rest, stage := .lookup none, bodies := c.bodies, rets := c.rets ++ [(k, v)] },
         .ret k v true :: writeEvs k p)
  | failed {k rs v rest p} :
      c.calls = (k, rs, v, false) :: rest → c.stage = .store p →
      CallerStep mem cfg tl size s c
        (s, { calls := rest, stage := .lookup none, bodies := c.bodies, rets := c.rets ++ [(k, v)] }, [.fail k v])

theorem callerStep_iff {s : State K V} {c : Caller K V} {r : State K V × Caller K V × List (Ev K V)} :
    callerStep false mem cfg tl size s c = some r ↔ CallerStep mem cfg tl size s c r := by
  obtain ⟨calls, stage, bodies, rets⟩ := c
  constructor
  · intro h
    cases calls with
    | nil => cases h
    | cons a rest =>
      obtain ⟨k, rs, v, st⟩ := a
      cases stage with
      | lookup p =>
        simp only [callerStep] at h
        split at h <;> cases h
        · rename_i heq
          exact .lookMore rfl rfl (Prod.ext rfl heq)
        · rename_i heq
          exact .served rfl rfl (Prod.ext rfl heq)
        · rename_i hno heq
          exact .missed rfl rfl (Prod.ext rfl heq) hno
      | store p =>
        cases st with
        | false =>
          simp only [callerStep, Bool.false_eq_true, if_false] at h
          cases h; exact .failed rfl rfl
        | true =>
          simp only [callerStep, if_true] at h
          split at h <;> cases h
          · rename_i heq
            exact .storeMore rfl rfl (Prod.ext rfl heq)
          · rename_i heq
            exact .stored rfl rfl (Prod.ext rfl heq)
  · intro h
    cases h with
    | lookMore hc hst hm => cases hc; cases hst; simp only [callerStep, hm]; rfl
    | served hc hst hm => cases hc; cases hst; simp only [callerStep, hm]; rfl
    | missed hc hst hm ho =>
      cases hc; cases hst; simp only [callerStep, hm]
      rename_i p _ _ o
      cases o with
      | unit => rfl
      | val ow =>
        cases ow with
        | none => rfl
        | some w => exact absurd rfl (ho w)
    | storeMore hc hst hm => cases hc; cases hst; simp only [callerStep, hm, if_true]; rfl
    | stored hc hst hm => cases hc; cases hst; simp only [callerStep, hm, if_true]; rfl
    | failed hc hst => cases hc; cases hst; simp only [callerStep, Bool.false_eq_true, if_false]

/-- **Every caller step is a step of the `ConcData` thread the caller is** (`Caller.thread`), or — the
    return of a non-storing call — no engine step at all. -/
theorem callerStep_thread {s s' : State K V} {c c' : Caller K V} {evs : List (Ev K V)}
    (h : CallerStep mem cfg tl size s c (s', c', evs)) :
    (∃ t', tstep false cfg tl size s (c.thread mem) = some (s', t')) ∨
    (tstep false cfg tl size s (c.thread mem) = none ∧ s' = s ∧ ∃ k v, evs = [Ev.fail k v]) := by
  have hstep : ∀ op rs p s1 res, micro false cfg tl size s op rs p = (s1, res) →
      ∃ t', tstep false cfg tl size s ⟨[(op, rs)], p, []⟩ = some (s1, t') := by
    intro op rs p s1 res hm
    obtain ⟨t', ht, _⟩ := tstep_cons false cfg tl size s op rs [] p []
    rw [hm] at ht
    exact ⟨t', ht⟩
  cases h with
  | lookMore hc hst hm => left; simp only [Caller.thread, hc, hst]; exact hstep _ _ _ _ _ hm
  | served hc hst hm => left; simp only [Caller.thread, hc, hst]; exact hstep _ _ _ _ _ hm
  | missed hc hst hm _ => left; simp only [Caller.thread, hc, hst]; exact hstep _ _ _ _ _ hm
  | storeMore hc hst hm => left; simp only [Caller.thread, hc, hst, if_true]; exact hstep _ _ _ _ _ hm
  | stored hc hst hm => left; simp only [Caller.thread, hc, hst, if_true]; exact hstep _ _ _ _ _ hm
  | failed hc hst =>
    refine Or.inr ⟨?_, rfl, _, _, rfl⟩
    simp only [Caller.thread, hc, hst, Bool.false_eq_true, if_false]
    rfl

theorem cstate_thread {c : CallState K V} {i : Nat} {x : Caller K V} (mem : Bool) (hx : c.callers[i]? = some x) :
    (c.cstate mem).threads[i]? = some (x.thread mem) := by
  simp only [CallState.cstate, List.getElem?_map, hx, Option.map_some]

theorem cstep_cstate {c : CallState K V} {i : Nat} {x : Caller K V} (mem : Bool) (hx : c.callers[i]? = some x) :
    cstep cfg tl size (c.cstate mem) i =
      (tstep false cfg tl size c.shared (x.thread mem)).map fun r => ⟨r.1, (c.cstate mem).threads.set i r.2⟩ := by
  simp only [cstep, cstepWith, cstate_thread mem hx]
  rw [show (c.cstate mem).shared = c.shared from rfl]
  cases tstep false cfg tl size c.shared (x.thread mem) <;> rfl

theorem callerStep_calls {s s' : State K V} {c c' : Caller K V} {evs : List (Ev K V)}
    (h : CallerStep mem cfg tl size s c (s', c', evs)) :
    (∀ y, y ∈ c'.calls → y ∈ c.calls) ∧
    (∀ k, Ev.write k ∈ evs → ∃ rs v rest, c.calls = (k, rs, v, true) :: rest) := by
  cases h with
  | lookMore hc hst hm => exact ⟨fun y hy => hy, fun k' hk' => nomatch (mem_readEvs hk').1⟩
  | served hc hst hm =>
    refine ⟨fun y hy => hc ▸ List.mem_cons_of_mem _ hy, fun k' hk' => ?_⟩
    rcases List.mem_cons.mp hk' with hk' | hk'
    · cases hk'
    · exact nomatch (mem_readEvs hk').1
  | missed hc hst hm _ =>
    refine ⟨fun y hy => hy, fun k' hk' => ?_⟩
    rcases List.mem_cons.mp hk' with hk' | hk'
    · cases hk'
    · exact nomatch (mem_readEvs hk').1
  | storeMore hc hst hm =>
    refine ⟨fun y hy => hy, fun k' hk' => ?_⟩
    cases (mem_writeEvs hk').1
    exact ⟨_, _, _, hc⟩
  | stored hc hst hm =>
    refine ⟨fun y hy => hc ▸ List.mem_cons_of_mem _ hy, fun k' hk' => ?_⟩
    rcases List.mem_cons.mp hk' with hk' | hk'
    · cases hk'
    · cases (mem_writeEvs hk').1
      exact ⟨_, _, _, hc⟩
  | failed hc hst =>
    exact ⟨fun y hy => hc ▸ List.mem_cons_of_mem _ hy, fun k' hk' => nomatch List.mem_singleton.mp hk'⟩

/-! ### The system: one step, runs -/

theorem callStep_cases {c c' : CallState K V} {i : Nat} (h : callStep false mem cfg tl size c i = some c') :
    ∃ x x' s' evs l1 l2, c.callers[i]? = some x ∧ c.callers = l1 ++ x :: l2 ∧
      CallerStep mem cfg tl size c.shared x (s', x', evs) ∧ c' = ⟨s', l1 ++ x' :: l2, evs ++ c.log⟩ := by
  unfold callStep at h
  cases hx : c.callers[i]? with
  | none => rw [hx] at h; cases h
  | some x =>
    rw [hx] at h
    simp only at h
    cases hs : callerStep false mem cfg tl size c.shared x with
    | none => rw [hs] at h; cases h
    | some r =>
      obtain ⟨s', x', evs⟩ := r
      rw [hs] at h
      obtain ⟨l1, l2, hl, _, hset⟩ := split_of_getElem? hx
      exact ⟨x, x', s', evs, l1, l2, rfl, hl, callerStep_iff.mp hs, by rw [← Option.some.inj h, hset x']⟩

theorem callRunWith_invariant {discard mem : Bool} {cfg : Cfg} {tl : Tlru S} {size : V → Nat}
    (I : CallState K V → Prop)
    (hstep : ∀ c i c', I c → callStep discard mem cfg tl size c i = some c' → I c')
    (sch : List ThreadId) (c : CallState K V) (h : I c) : I (callRunWith discard mem cfg tl size sch c) := by
  induction sch generalizing c with
  | nil => exact h
  | cons i sch ih =>
    simp only [callRunWith]
    cases hs : callStep discard mem cfg tl size c i with
    | none => exact ih c h
    | some c' => exact ih c' (hstep c i c' h hs)

theorem callRun_log (mem : Bool) (cfg : Cfg) (tl : Tlru S) (size : V → Nat) (sch : List ThreadId)
    (c : CallState K V) : ∃ new, (callRunR mem cfg tl size sch c).log = new ++ c.log := by
  refine callRunWith_invariant (fun c' => ∃ new, c'.log = new ++ c.log) (fun c₁ i c₂ ⟨new, hn⟩ h => ?_) sch c ⟨[], rfl⟩
  obtain ⟨_, _, _, evs, _, _, _, _, _, rfl⟩ := callStep_cases h
  exact ⟨evs ++ new, by rw [hn, List.append_assoc]⟩

theorem callRunWith_append (discard mem : Bool) (cfg : Cfg) (tl : Tlru S) (size : V → Nat)
    (sch₁ sch₂ : List ThreadId) (c : CallState K V) :
    callRunWith discard mem cfg tl size (sch₁ ++ sch₂) c
      = callRunWith discard mem cfg tl size sch₂ (callRunWith discard mem cfg tl size sch₁ c) := by
  induction sch₁ generalizing c with
  | nil => rfl
  | cons i sch ih =>
    simp only [List.cons_append, callRunWith]
    cases callStep discard mem cfg tl size c i with
    | none => exact ih c
    | some c' => exact ih c'

/-- store-write events of a run belong to storing calls of the original call lists -/
structure WriteInv (all : List (Call K V)) (c : CallState K V) : Prop where
  calls : ∀ x, x ∈ c.callers → ∀ y, y ∈ x.calls → y ∈ all
  writes : ∀ k, Ev.write k ∈ c.log → ∃ y, y ∈ all ∧ y.1 = k ∧ y.2.2.2 = true

theorem writeInv_run (mem : Bool) (cfg : Cfg) (tl : Tlru S) (size : V → Nat) (s : State K V)
    (callss : List (List (Call K V))) (sch : List ThreadId) :
    WriteInv callss.flatten (callRunR mem cfg tl size sch (CallState.start s callss)) := by
  refine callRunWith_invariant _ (fun c i c' hi h => ?_) sch _ ⟨fun x hx y hy => ?_, fun k hm => nomatch hm⟩
  · obtain ⟨x, x', s', evs, l1, l2, _, hl, hstep, rfl⟩ := callStep_cases h
    obtain ⟨h1, h2⟩ := callerStep_calls hstep
    obtain ⟨hx, ho⟩ := forall_mid.mp (hl ▸ hi.calls)
    refine ⟨forall_mid.mpr ⟨fun z hz => hx z (h1 z hz), ho⟩, fun k hm => ?_⟩
    rcases List.mem_append.mp hm with hm | hm
    · obtain ⟨rs, v, rest, hc⟩ := h2 k hm
      exact ⟨_, hx _ (hc ▸ List.mem_cons_self), rfl, rfl⟩
    · exact hi.writes k hm
  · obtain ⟨calls, hcs, rfl⟩ := List.mem_map.mp hx
    exact List.mem_flatten.mpr ⟨calls, hcs, hy⟩

/-! ## §2 Values -/

/-- every stored pair satisfies `P` -/
def PStore (P : K → V → Prop) (m : Store K V) : Prop := ∀ k e, (k, e) ∈ m → P k e.val

/-- the value carried by a hit in progress belongs to key `k` and satisfies `P` -/
def PendP (P : K → V → Prop) (k : K) : Pend K V → Prop
  | .refresh k' v => k' = k ∧ P k v
  | .move k' v => k' = k ∧ P k v
  | .bump k' v => k' = k ∧ P k v
  | _ => True

/-- what a lookup micro-step hands on satisfies `P`: the value it carries on, or the value it reports -/
def ResP (P : K → V → Prop) (k : K) : Res K V → Prop
  | .more p => PendP P k p
  | .fin _ o => ∀ w, o = .val (some w) → P k w

theorem PStore.nil (P : K → V → Prop) : PStore P ([] : Store K V) := by intro k e h; cases h

theorem PStore.sublist {P : K → V → Prop} {m m' : Store K V} (h : PStore P m) (hs : m'.Sublist m) : PStore P m' :=
  fun k e he => h k e (hs.subset he)

theorem PStore.allP {P : K → V → Prop} {m : Store K V} (h : PStore P m) : Calls.AllP P m := fun p hp => h p.1 p.2 hp

theorem PStore.put {P : K → V → Prop} {m : Store K V} (h : PStore P m) (k : K) (v : V) (hv : P k v) (b hits : Nat) :
    PStore P (put k ⟨v, b, hits⟩ m) :=
  fun x e he => Calls.AllP.put h.allP (e := ⟨v, b, hits⟩) hv (x, e) he

theorem PStore.bumpHits {P : K → V → Prop} {m : Store K V} (h : PStore P m) (k : K) : PStore P (bumpHits k m) :=
  fun x e he => Calls.AllP.bumpHits k h.allP (x, e) he

theorem PStore.insert {P : K → V → Prop} (cfg : Cfg) (tl : Tlru S) (r : Nat) (s : State K V) (k : K) (v : V)
    (hv : P k v) (h : PStore P s.store) : PStore P (Cachelito.insert cfg tl r s k v).store :=
  fun x e he => Calls.insert_allP cfg tl r s k v h.allP hv (x, e) he

theorem PStore.insertMem {P : K → V → Prop} (cfg : Cfg) (tl : Tlru S) (size : V → Nat) (rs : List Nat)
    (s : State K V) (k : K) (v : V) (hv : P k v) (h : PStore P s.store) :
    PStore P (Cachelito.insertMem cfg tl size rs s k v).store :=
  fun x e he => Calls.insertMem_allP cfg tl size rs s k v h.allP hv (x, e) he

theorem first_get_P {P : K → V → Prop} {legacy : Bool} {s : State K V} {k : K} {rs : List Nat} (hs : PStore P s.store) :
    PStore P (micro legacy cfg tl size s (.get k) rs none).1.store ∧
    ResP P k (micro legacy cfg tl size s (.get k) rs none).2 := by
  rw [micro_none]
  rcases first_get legacy cfg tl size s rs k with ⟨_, hr⟩ | ⟨e, _, _, hr⟩ | ⟨e, hl, _, hr⟩ <;> rw [hr]
  · exact ⟨hs, fun w ho => nomatch ho⟩
  · refine ⟨hs, ?_⟩
    show PendP P k _
    split <;> trivial
  · have hv := hs k e (lookup_mem hl)
    refine ⟨?_, ?_⟩
    · show PStore P (if _ then _ else _)
      split
      · exact hs.bumpHits k
      · exact hs
    · rcases hitRes_cases cfg k e.val with h | ⟨_, h⟩ | ⟨_, h⟩ | ⟨_, h⟩ <;> rw [h]
      · intro w ho; cases ho; exact hv
      · exact ⟨rfl, hv⟩
      · exact ⟨rfl, hv⟩
      · exact ⟨rfl, hv⟩

/-- local state of a sync store between its two critical sections -/
def trackPend (mem : Bool) (k : K) (v : V) (rs : List Nat) : Pend K V :=
  if mem then .trackMem k v rs else .track k v (rs.headD 0)

/-- the first micro-step of a store: async the whole operation, sync the store write -/
theorem storeOp_first (legacy : Bool) (s : State K V) (k : K) (v : V) (rs : List Nat) :
    micro legacy cfg tl size s (storeOp mem k v) rs none =
      if isAsync cfg then
        (if mem then Cachelito.insertMem cfg tl size rs s k v else Cachelito.insert cfg tl (rs.headD 0) s k v,
          .fin (storeOp mem k v) .unit)
      else ({ s with store := put k ⟨v, stamp cfg s.now, 0⟩ s.store }, .more (trackPend mem k v rs)) := by
  cases mem <;> simp only [micro, first, storeOp, trackPend, Bool.false_eq_true, if_false, if_true]

theorem first_store_P {P : K → V → Prop} {legacy : Bool} {s : State K V} {k : K} {v : V} {rs : List Nat} (hv : P k v)
    (hs : PStore P s.store) : PStore P (micro legacy cfg tl size s (storeOp mem k v) rs none).1.store := by
  rw [storeOp_first]
  split
  · cases mem
    · exact hs.insert cfg tl _ s k v hv
    · exact hs.insertMem cfg tl size rs s k v hv
  · exact hs.put k v hv _ _

/-- a later micro-step of ANY operation writes no new value: `P` is kept on the store; and a later micro-step of
    a lookup hands on the `P` value of its key it carries -/
theorem cont_P {P : K → V → Prop} {s : State K V} {op : Op K V} {rs : List Nat} {k : K} {p : Pend K V}
    (hs : PStore P s.store) :
    PStore P (micro false cfg tl size s op rs (some p)).1.store ∧
    (PendP P k p → ResP P k (micro false cfg tl size s op rs (some p)).2) := by
  have hexp : ∀ k', PStore P (expireStep cfg s k').1.store ∧ (True → ResP P k (expireStep cfg s k').2) :=
    fun k' => ⟨hs.sublist (removeBoth_shr cfg k' s.store s.queue).store, fun _ w ho => nomatch ho⟩
  simp only [micro]
  split
  · cases p with
    | expire k' => exact hexp k'
    | refresh k' v => exact ⟨hs, fun ⟨_, hv⟩ w ho => by cases ho; exact hv⟩
    | purge q ks => exact ⟨hs.sublist (foldl_eraseKey_sublist ks s.store), fun _ w ho => nomatch ho⟩
    | _ => exact ⟨hs, fun _ w ho => by cases ho⟩
  · cases p with
    | expire k' => exact hexp k'
    | move k' v =>
      simp only [contSync]
      split
      · exact ⟨hs, id⟩
      · exact ⟨hs, fun ⟨_, hv⟩ w ho => by cases ho; exact hv⟩
    | bump k' v => exact ⟨hs.bumpHits k', fun ⟨_, hv⟩ w ho => by cases ho; exact hv⟩
    | track k' v r => exact ⟨hs.sublist (limitStep_shr cfg tl s.now r s.store _).store, fun _ w ho => nomatch ho⟩
    | trackMem k' v rs => exact ⟨hs.sublist (trackMemStep_shr cfg tl size rs s k').store, fun _ w ho => nomatch ho⟩
    | _ => exact ⟨hs, fun _ w ho => by cases ho⟩

/-- per-caller part of the values invariant: the storing calls still to run produce `P` values, and the hit
    in progress (if any) carries a `P` value of the current call's key -/
def CallerP (P : K → V → Prop) (c : Caller K V) : Prop :=
  (∀ x, x ∈ c.calls → x.2.2.2 = true → P x.1 x.2.2.1) ∧
  (∀ k rs v st rest p, c.calls = (k, rs, v, st) :: rest → c.stage = .lookup (some p) → PendP P k p)

theorem CallerP.stage {P : K → V → Prop} {c : Caller K V} (hc : CallerP P c) {k : K} {rs : List Nat} {v : V}
    {st : Bool} {rest : List (Call K V)} (hcl : c.calls = (k, rs, v, st) :: rest) (stg : Stage K V) (b : List K)
    (hp : ∀ p, stg = .lookup (some p) → PendP P k p) : CallerP P { c with stage := stg, bodies := b } := by
  refine ⟨hc.1, fun k' rs' v' st' rest' p hcl' hst' => ?_⟩
  rw [show c.calls = _ from hcl'] at hcl
  cases hcl
  exact hp p hst'

theorem CallerP.next {P : K → V → Prop} {c : Caller K V} (hc : CallerP P c) {a : Call K V} {rest : List (Call K V)}
    (hcl : c.calls = a :: rest) (b : List K) (r : List (K × V)) :
    CallerP P { calls := rest, stage := .lookup none, bodies := b, rets := r } :=
  ⟨fun x hx => hc.1 x (hcl ▸ List.mem_cons_of_mem _ hx), fun _ _ _ _ _ _ _ hst => nomatch hst⟩

theorem callerStep_P {P : K → V → Prop} {s s' : State K V} {c c' : Caller K V} {evs : List (Ev K V)}
    (hs : PStore P s.store) (hc : CallerP P c)
    (h : CallerStep mem cfg tl size s c (s', c', evs)) :
    PStore P s'.store ∧ CallerP P c' ∧ ∀ k w b, Ev.ret k w b ∈ evs → P k w := by
  have hget : ∀ k rs v st rest p, c.calls = (k, rs, v, st) :: rest → c.stage = .lookup p →
      PStore P (micro false cfg tl size s (.get k) rs p).1.store ∧
      ResP P k (micro false cfg tl size s (.get k) rs p).2 := by
    intro k rs v st rest p hcl hst
    cases p with
    | none => exact first_get_P hs
    | some p =>
      exact (cont_P hs).imp_right fun h => h (hc.2 k rs v st rest p hcl hst)
  have hput : ∀ k rs v rest p, c.calls = (k, rs, v, true) :: rest →
      P k v ∧ PStore P (micro false cfg tl size s (storeOp mem k v) rs p).1.store := by
    intro k rs v rest p hcl
    have hv : P k v := hc.1 (k, rs, v, true) (hcl ▸ List.mem_cons_self) rfl
    cases p with
    | none => exact ⟨hv, first_store_P hv hs⟩
    | some p => exact ⟨hv, (cont_P (k := k) hs).1⟩
  cases h with
  | lookMore hcl hst hm =>
    obtain ⟨hS, hR⟩ := hget _ _ _ _ _ _ hcl hst
    rw [hm] at hS hR
    exact ⟨hS, hc.stage hcl _ _ (fun q hq => by cases hq; exact hR), fun k' w b hm' => nomatch (mem_readEvs hm').1⟩
  | served hcl hst hm =>
    obtain ⟨hS, hR⟩ := hget _ _ _ _ _ _ hcl hst
    rw [hm] at hS hR
    refine ⟨hS, hc.next hcl _ _, fun k' w b hm' => ?_⟩
    rcases List.mem_cons.mp hm' with h1 | h1
    · cases h1; exact hR _ rfl
    · exact nomatch (mem_readEvs h1).1
  | missed hcl hst hm _ =>
    obtain ⟨hS, _⟩ := hget _ _ _ _ _ _ hcl hst
    rw [hm] at hS
    refine ⟨hS, hc.stage hcl _ _ (fun q hq => nomatch hq), fun k' w b hm' => ?_⟩
    rcases List.mem_cons.mp hm' with h1 | h1
    · cases h1
    · exact nomatch (mem_readEvs h1).1
  | storeMore hcl hst hm =>
    obtain ⟨_, hS⟩ := hput _ _ _ _ _ hcl
    rw [hm] at hS
    exact ⟨hS, hc.stage hcl _ _ (fun q hq => nomatch hq), fun k' w b hm' => nomatch (mem_writeEvs hm').1⟩
  | stored hcl hst hm =>
    obtain ⟨hv, hS⟩ := hput _ _ _ _ _ hcl
    rw [hm] at hS
    refine ⟨hS, hc.next hcl _ _, fun k' w b hm' => ?_⟩
    rcases List.mem_cons.mp hm' with h1 | h1
    · cases h1; exact hv
    · exact nomatch (mem_writeEvs h1).1
  | failed hcl hst =>
    exact ⟨hs, hc.next hcl _ _, fun k' w b hm' => nomatch List.mem_singleton.mp hm'⟩

/-- the values invariant of the call-level system -/
structure InvP (P : K → V → Prop) (c : CallState K V) : Prop where
  store : PStore P c.shared.store
  callers : ∀ x, x ∈ c.callers → CallerP P x
  log : ∀ k w b, Ev.ret k w b ∈ c.log → P k w

theorem invP_start {P : K → V → Prop} (s : State K V) (callss : List (List (Call K V)))
    (hs : PStore P s.store)
    (hc : ∀ calls, calls ∈ callss → ∀ x, x ∈ calls → x.2.2.2 = true → P x.1 x.2.2.1) :
    InvP P (CallState.start s callss) := by
  refine ⟨hs, fun x hx => ?_, fun k w b hm => nomatch hm⟩
  obtain ⟨calls, hcs, rfl⟩ := List.mem_map.mp hx
  exact ⟨hc calls hcs, fun _ _ _ _ _ _ _ hst => nomatch hst⟩

theorem callRun_P {P : K → V → Prop} (mem : Bool) (cfg : Cfg) (tl : Tlru S) (size : V → Nat)
    (sch : List ThreadId) (c : CallState K V) (hi : InvP P c) : InvP P (callRunR mem cfg tl size sch c) := by
  refine callRunWith_invariant (InvP P) (fun c i c' hi h => ?_) sch c hi
  obtain ⟨x, x', s', evs, l1, l2, _, hl, hstep, rfl⟩ := callStep_cases h
  obtain ⟨hx, ho⟩ := forall_mid.mp (hl ▸ hi.callers)
  obtain ⟨h1, h2, h3⟩ := callerStep_P hi.store hx hstep
  exact ⟨h1, forall_mid.mpr ⟨h2, ho⟩,
    fun k w b hm => (List.mem_append.mp hm).elim (h3 k w b) (hi.log k w b)⟩

/-! ## §3 The plain configuration (`ConcCalls.Plain`: no limit, no memory bound, no TTL) -/

/-- the store-write micro-step in the plain configuration puts the pair into the store and evicts nothing;
    async: the store is finished, sync: the queue section is left -/
theorem store_first_plain (hp : ConcCalls.Plain cfg) {s s' : State K V} {k : K} {v : V} {rs : List Nat}
    {res : Res K V} (hm : micro false cfg tl size s (storeOp mem k v) rs none = (s', res)) :
    s'.store = put k ⟨v, stamp cfg s.now, 0⟩ s.store ∧
    (((∃ op, res = .fin op .unit) ∧ isAsync cfg = true) ∨ (res = .more (trackPend mem k v rs) ∧ isAsync cfg = false)) := by
  rw [storeOp_first] at hm
  split at hm <;> cases hm
  · rename_i ha
    refine ⟨?_, Or.inl ⟨⟨_, rfl⟩, ha⟩⟩
    cases mem
    · show (Cachelito.insert cfg tl _ s k v).store = _
      rw [insert_eq_storeVia]
      exact Wrap.storeVia_noevict (limitStep_none hp.1 tl s.now _) s k v
    · show (Cachelito.insertMem cfg tl size rs s k v).store = _
      rw [insertMem_eq_storeVia (by unfold oversize; rw [hp.2.1])]
      exact Wrap.storeVia_noevict (evictPhase_unbounded hp.1 hp.2.1 tl size s.now _ rs) s k v
  · rename_i ha
    exact ⟨rfl, Or.inr ⟨rfl, Bool.eq_false_iff.mpr ha⟩⟩

/-- the queue section of a sync store in the plain configuration: the store is untouched, the store op is
    finished -/
theorem store_cont_plain (hp : ConcCalls.Plain cfg) (ha : isAsync cfg = false) {s s' : State K V} {op : Op K V}
    {rs : List Nat} {k : K} {v : V} {rs' : List Nat} {res : Res K V}
    (hm : micro false cfg tl size s op rs (some (trackPend mem k v rs')) = (s', res)) :
    s'.store = s.store ∧ ∃ op', res = .fin op' .unit := by
  cases mem with
  | false =>
    simp only [micro, ha, trackPend, contSync, limitStep_none hp.1, Bool.false_eq_true, if_false] at hm
    cases hm
    exact ⟨rfl, _, rfl⟩
  | true =>
    simp only [micro, ha, trackPend, contSync, trackMemStep, hp.2.1, limitStep_none hp.1, Bool.false_eq_true,
      if_false, if_true] at hm
    cases hm
    exact ⟨rfl, _, rfl⟩

/-! ### Per-caller stage invariant -/

/-- continuation of a hit on `k` of the engine at hand, carrying some value -/
def HitPendR (cfg : Cfg) (k : K) (p : Pend K V) : Prop := ∃ w : V, ConcCalls.HitPend (fun _ => w) cfg k p

def StagePred (mem : Bool) (cfg : Cfg) (log : List (Ev K V)) (k : K) (v : V) (st : Bool) : Stage K V → Prop
  | .lookup none => True
  | .lookup (some p) => HitPendR cfg k p ∧ Ev.read k true ∈ log
  | .store none => True
  | .store (some p) => st = true ∧ (∃ rs', p = trackPend mem k v rs') ∧ isAsync cfg = false ∧ Ev.write k ∈ log

/-- the local engine state of a caller fits its current call -/
def StageOK (mem : Bool) (cfg : Cfg) (log : List (Ev K V)) (c : Caller K V) : Prop :=
  ∀ k rs v st rest, c.calls = (k, rs, v, st) :: rest → StagePred mem cfg log k v st c.stage

theorem StageOK.mono {mem : Bool} {cfg : Cfg} {log : List (Ev K V)} {c : Caller K V} (h : StageOK mem cfg log c)
    (evs : List (Ev K V)) : StageOK mem cfg (evs ++ log) c := by
  intro k rs v st rest hc
  have := h k rs v st rest hc
  cases hs : c.stage with
  | lookup p =>
    rw [hs] at this
    cases p with
    | none => exact this
    | some p => exact ⟨this.1, List.mem_append_right _ this.2⟩
  | store p =>
    rw [hs] at this
    cases p with
    | none => exact this
    | some p => exact ⟨this.1, this.2.1, this.2.2.1, List.mem_append_right _ this.2.2.2⟩

theorem StageOK.stage {mem : Bool} {cfg : Cfg} {log : List (Ev K V)} {c : Caller K V} {k : K} {rs : List Nat} {v : V}
    {st : Bool} {rest : List (Call K V)} (hc : c.calls = (k, rs, v, st) :: rest) (stg : Stage K V) (b : List K)
    (h : StagePred mem cfg log k v st stg) : StageOK mem cfg log { c with stage := stg, bodies := b } := by
  intro k' rs' v' st' rest' hc'
  rw [show c.calls = _ from hc'] at hc
  cases hc
  exact h

/-! ### The ghost log -/

/-- what the log (newest first) says about the store and about itself (`init k` = "`k` was stored at the start"):
    * a key whose store-write micro-step has executed is stored;
    * a stored key was stored at the start or has been written;
    * no lookup of `k` executed AFTER a store-write of `k` missed, no body ran for `k` after it;
    * a call that reports "I stored `k`" executed its store-write of `k` BEFORE returning;
    * a lookup of `k` that found an entry came AFTER a store-write of `k` (or `k` was stored at the start);
    * a call served from the cache executed a successful read of its key BEFORE returning. -/
structure LogInv (init : K → Prop) (m : Store K V) (log : List (Ev K V)) : Prop where
  written : ∀ k, Ev.write k ∈ log → k ∈ keys m
  origin : ∀ k, k ∈ keys m → init k ∨ Ev.write k ∈ log
  after : ∀ l1 l2 k, log = l1 ++ Ev.write k :: l2 → Ev.read k false ∉ l1 ∧ Ev.body k ∉ l1
  stored : ∀ l1 l2 k v, log = l1 ++ Ev.ret k v true :: l2 → Ev.write k ∈ l2
  hit : ∀ l1 l2 k, log = l1 ++ Ev.read k true :: l2 → init k ∨ Ev.write k ∈ l2
  served : ∀ l1 l2 k w, log = l1 ++ Ev.ret k w false :: l2 → Ev.read k true ∈ l2

/-- what logging `e` on top of `log` (newest first) presupposes (`init k` = "`k` was stored at the start"): a
    lookup misses, and the body runs, only while the key has never been stored; a lookup finds an entry only once
    it has; a call returns after the store-write / the successful read it reports -/
def Pre (init : K → Prop) (log : List (Ev K V)) : Ev K V → Prop
  | .read k true => init k ∨ Ev.write k ∈ log
  | .read k false => ¬ (init k ∨ Ev.write k ∈ log)
  | .body k => ¬ (init k ∨ Ev.write k ∈ log)
  | .ret k _ true => Ev.write k ∈ log
  | .ret k _ false => Ev.read k true ∈ log
  | _ => True

/-- every event was logged when its presupposition held -/
def Hist (init : K → Prop) : List (Ev K V) → Prop
  | [] => True
  | e :: log => Pre init log e ∧ Hist init log

theorem Hist.suffix {init : K → Prop} {l2 : List (Ev K V)} :
    ∀ {l1 : List (Ev K V)}, Hist init (l1 ++ l2) → Hist init l2
  | [], h => h
  | _ :: _, h => Hist.suffix h.2

theorem Hist.split {init : K → Prop} {e : Ev K V} {l1 l2 : List (Ev K V)} (h : Hist init (l1 ++ e :: l2)) :
    Pre init l2 e :=
  (Hist.suffix h).1

/-- once `k` is stored (at the start, or by a store-write) no lookup of `k` misses and the body does not run for
    `k`: such an event would have been logged against its presupposition -/
theorem Hist.never_after {init : K → Prop} {l1 l2 : List (Ev K V)} {k : K} (h : Hist init (l1 ++ l2))
    (hw : init k ∨ Ev.write k ∈ l2) : Ev.read k false ∉ l1 ∧ Ev.body k ∉ l1 := by
  have key : ∀ e : Ev K V, (∀ l, Pre init l e → ¬ (init k ∨ Ev.write k ∈ l)) → e ∉ l1 := by
    intro e he hm
    obtain ⟨a, b, rfl⟩ := List.append_of_mem hm
    rw [List.append_assoc, List.cons_append] at h
    exact he _ (Hist.split h) (hw.imp_right (List.mem_append_right _))
  exact ⟨key _ fun _ => id, key _ fun _ => id⟩

/-- the invariant of store and log in the plain configuration, where nothing is ever removed: the stored keys are
    those of the start and those written since, and the log has a sound history -/
structure Good (init : K → Prop) (m : Store K V) (log : List (Ev K V)) : Prop where
  stored : ∀ k, k ∈ keys m ↔ init k ∨ Ev.write k ∈ log
  hist : Hist init log

theorem Good.write {init : K → Prop} {m : Store K V} {log : List (Ev K V)} (h : Good init m log) (k : K)
    (e : Entry V) : Good init (put k e m) (.write k :: log) := by
  refine ⟨fun x => ?_, trivial, h.hist⟩
  rw [mem_keys_put, h.stored x, List.mem_cons, Ev.write.injEq, or_assoc]
  exact or_congr_right or_comm

/-- an event other than a store-write, logged while the key set stays as it is -/
theorem Good.log {init : K → Prop} {m m' : Store K V} {log : List (Ev K V)} {e : Ev K V} (h : Good init m log)
    (hk : keys m' = keys m) (hp : Pre init log e) (hne : ∀ x, e ≠ .write x := by exact fun _ h => nomatch h) :
    Good init m' (e :: log) := by
  refine ⟨fun x => ?_, hp, h.hist⟩
  rw [hk, h.stored x, List.mem_cons]
  exact or_congr_right ⟨Or.inr, fun h' => h'.resolve_left fun he => hne x he.symm⟩

theorem Good.logInv {init : K → Prop} {m : Store K V} {log : List (Ev K V)} (h : Good init m log) :
    LogInv init m log :=
  ⟨fun k hw => (h.stored k).mpr (Or.inr hw), fun k => (h.stored k).mp,
    fun _ _ _ hl => Hist.never_after (hl ▸ h.hist) (Or.inr List.mem_cons_self),
    fun _ _ k v hl => Hist.split (e := .ret k v true) (hl ▸ h.hist),
    fun _ _ k hl => Hist.split (e := .read k true) (hl ▸ h.hist),
    fun _ _ k w hl => Hist.split (e := .ret k w false) (hl ▸ h.hist)⟩

/-! ### One caller step -/

theorem countP_isBody_readEvs (cfg : Cfg) (s : State K V) (k k' : K) (p : Option (Pend K V)) :
    (readEvs cfg s k p).countP (isBody k') = 0 := by
  cases p <;> rfl

/-- a micro-step of a lookup in the plain configuration leaves the key set as it is; the first micro-step on a
    key that is not stored is a miss, every other micro-step is (part of) a hit whose read is in the log -/
theorem lookup_plain (hp : ConcCalls.Plain cfg) {init : K → Prop} {log : List (Ev K V)} {s s' : State K V} {k : K}
    {v : V} {st : Bool} {rs : List Nat} {p : Option (Pend K V)} {res : Res K V} (hg : Good init s.store log)
    (hm : micro false cfg tl size s (.get k) rs p = (s', res)) (hpp : StagePred mem cfg log k v st (.lookup p)) :
    Good init s'.store (readEvs cfg s k p ++ log) ∧
    ((k ∉ keys s'.store ∧ readEvs cfg s k p = [.read k false] ∧ res = .fin (.get k) (.val none)) ∨
     (Ev.read k true ∈ readEvs cfg s k p ++ log ∧ (∀ k', (readEvs cfg s k p).countP (isMiss k') = 0) ∧
      ((∃ w, res = .fin (.get k) (.val (some w))) ∨ ∃ p', res = .more p' ∧ HitPendR cfg k p'))) := by
  cases p with
  | none =>
    rw [micro_none] at hm
    have hf := ConcCalls.found_plain hp s k
    obtain ⟨_, hk, _, _⟩ := first_get_frame false cfg tl size s rs k
    rw [hm] at hk
    rcases first_get false cfg tl size s rs k with ⟨hl, hr⟩ | ⟨e, _, hx, _⟩ | ⟨e, hl, _, hr⟩
    · cases hr.symm.trans hm
      have hkm : k ∉ keys s.store := (lookup_eq_none_iff k _).mp hl
      rw [show readEvs cfg s k none = [.read k false] by rw [readEvs, hf, (hasKey_false_iff k _).mpr hkm]]
      exact ⟨hg.log rfl (mt (hg.stored k).mpr hkm), Or.inl ⟨hkm, rfl, rfl⟩⟩
    · rw [ConcCalls.expired_plain hp] at hx; cases hx
    · cases hr.symm.trans hm
      have hkm : k ∈ keys s.store := mem_keys_of_lookup hl
      rw [show readEvs cfg s k none = [.read k true] by rw [readEvs, hf, (hasKey_iff k _).mpr hkm]]
      exact ⟨hg.log hk ((hg.stored k).mp hkm),
        Or.inr ⟨List.mem_cons_self, fun _ => rfl,
          (ConcCalls.hitRes_hit (fun _ => e.val) cfg k rfl).imp (fun h => ⟨_, h⟩) fun ⟨p', h, hp'⟩ => ⟨p', h, _, hp'⟩⟩⟩
  | some p' =>
    obtain ⟨⟨w, hw⟩, hr⟩ := hpp
    obtain ⟨hk, hres⟩ := ConcCalls.get_cont_plain (fun _ => w) cfg tl size s k rs p' hw
    rw [hm] at hk hres
    exact ⟨⟨fun x => hk ▸ hg.stored x, hg.hist⟩,
      Or.inr ⟨hr, fun _ => rfl, hres.imp (fun h => ⟨w, h⟩) fun ⟨p'', h, hp''⟩ => ⟨p'', h, w, hp''⟩⟩⟩

/-- **One caller step in the plain configuration** (real wrapper): store and log stay `Good`, the new local
    state fits, and the body runs (logged as `body k`) exactly when the step's read missed. -/
theorem callerStep_plain (hp : ConcCalls.Plain cfg) {init : K → Prop} {s s' : State K V} {log : List (Ev K V)}
    {c c' : Caller K V} {evs : List (Ev K V)} (hg : Good init s.store log) (hst : StageOK mem cfg log c)
    (h : CallerStep mem cfg tl size s c (s', c', evs)) :
    Good init s'.store (evs ++ log) ∧ StageOK mem cfg (evs ++ log) c' ∧
    ∀ k, c'.bodies.count k = c.bodies.count k + evs.countP (isBody k) ∧
      evs.countP (isBody k) = evs.countP (isMiss k) := by
  cases h with
  | lookMore hc hs hm =>
    obtain ⟨hg', hcase⟩ := lookup_plain hp hg hm (hs ▸ hst _ _ _ _ _ hc)
    rcases hcase with ⟨_, _, hr⟩ | ⟨hrd, h0, ⟨_, hr⟩ | ⟨_, hr, hp''⟩⟩ <;> cases hr
    exact ⟨hg', StageOK.stage hc _ _ ⟨hp'', hrd⟩,
      fun k' => ⟨by rw [countP_isBody_readEvs]; rfl, by rw [countP_isBody_readEvs, h0 k']⟩⟩
  | served hc hs hm =>
    obtain ⟨hg', hcase⟩ := lookup_plain hp hg hm (hs ▸ hst _ _ _ _ _ hc)
    rcases hcase with ⟨_, _, hr⟩ | ⟨hrd, h0, _⟩
    · cases hr
    · exact ⟨hg'.log rfl hrd, fun _ _ _ _ _ _ => trivial,
        fun k' => by simp [isBody, isMiss, countP_isBody_readEvs, h0 k']⟩
  | missed hc hs hm ho =>
    rename_i k _ _ _ _ _ _ _
    obtain ⟨hg', hcase⟩ := lookup_plain hp hg hm (hs ▸ hst _ _ _ _ _ hc)
    rcases hcase with ⟨hkm, he, _⟩ | ⟨_, _, ⟨w, hr⟩ | ⟨_, hr, _⟩⟩
    · rw [he] at hg' ⊢
      refine ⟨hg'.log rfl (mt (hg'.stored _).mpr hkm), StageOK.stage hc _ _ trivial,
        fun k' => ?_⟩
      show (c.bodies ++ [_]).count k' = _ ∧ _
      rw [List.count_append]
      by_cases hk : k = k' <;> simp [isBody, isMiss, hk]
    · cases hr; exact absurd rfl (ho w)
    · cases hr
  | storeMore hc hs hm =>
    rename_i p _
    cases p with
    | none =>
      obtain ⟨hput, hres⟩ := store_first_plain hp hm
      rcases hres with ⟨⟨op, hres⟩, _⟩ | ⟨hres, ha⟩ <;> cases hres
      exact ⟨hput ▸ hg.write _ _, StageOK.stage hc _ _ ⟨rfl, ⟨_, rfl⟩, ha, List.mem_cons_self⟩, fun _ => ⟨rfl, rfl⟩⟩
    | some p0 =>
      obtain ⟨_, ⟨rs', rfl⟩, ha, _⟩ : StagePred mem cfg log _ _ true (.store (some p0)) := hs ▸ hst _ _ _ _ _ hc
      obtain ⟨_, op', hres⟩ := store_cont_plain hp ha hm
      exact nomatch hres
  | stored hc hs hm =>
    rename_i p _ _
    cases p with
    | none =>
      obtain ⟨hput, _⟩ := store_first_plain hp hm
      exact ⟨hput ▸ (hg.write _ _).log rfl List.mem_cons_self, fun _ _ _ _ _ _ => trivial,
        fun _ => ⟨rfl, rfl⟩⟩
    | some p0 =>
      obtain ⟨_, ⟨rs', rfl⟩, ha, hw⟩ : StagePred mem cfg log _ _ true (.store (some p0)) := hs ▸ hst _ _ _ _ _ hc
      obtain ⟨hsame, _⟩ := store_cont_plain hp ha hm
      exact ⟨hg.log (by rw [hsame]) hw, fun _ _ _ _ _ _ => trivial, fun _ => ⟨rfl, rfl⟩⟩
  | failed hc hs =>
    exact ⟨hg.log rfl trivial, fun _ _ _ _ _ _ => trivial, fun _ => ⟨rfl, rfl⟩⟩

/-! ### The system -/

/-- the invariant of the call-level system in the plain configuration -/
structure CallInv (mem : Bool) (cfg : Cfg) (init : K → Prop) (c : CallState K V) : Prop where
  stages : ∀ x, x ∈ c.callers → StageOK mem cfg c.log x
  logInv : LogInv init c.shared.store c.log
  bodies : ∀ k, totalBodies k c.callers = c.log.countP (isBody k)
  paired : ∀ k, c.log.countP (isBody k) = c.log.countP (isMiss k)

theorem totalBodies_mid (k : K) (l1 l2 : List (Caller K V)) (x : Caller K V) :
    totalBodies k (l1 ++ x :: l2) = totalBodies k l1 + x.bodies.count k + totalBodies k l2 := by
  simp only [totalBodies, List.map_append, List.map_cons, List.sum_append, List.sum_cons]; omega

/-- what holds along every run in the plain configuration -/
structure PlainInv (mem : Bool) (cfg : Cfg) (init : K → Prop) (c : CallState K V) : Prop where
  good : Good init c.shared.store c.log
  call : CallInv mem cfg init c

theorem plainInv_start (mem : Bool) (cfg : Cfg) (s : State K V) (callss : List (List (Call K V))) :
    PlainInv mem cfg (fun k => k ∈ keys s.store) (CallState.start s callss) := by
  have hg : Good (fun k => k ∈ keys s.store) s.store ([] : List (Ev K V)) :=
    ⟨fun k => ⟨Or.inl, fun h => h.elim id (fun h => nomatch h)⟩, trivial⟩
  refine ⟨hg, ?_, hg.logInv, fun k => ?_, fun k => rfl⟩
  · intro x hx
    obtain ⟨calls, _, rfl⟩ := List.mem_map.mp hx
    exact fun _ _ _ _ _ _ => trivial
  · show ((callss.map Caller.start).map (fun c : Caller K V => c.bodies.count k)).sum = 0
    induction callss with
    | nil => rfl
    | cons a l ih => simp only [List.map_cons, List.sum_cons, ih]; rfl

theorem callRun_inv {cfg : Cfg} (hp : ConcCalls.Plain cfg) (mem : Bool) (tl : Tlru S) (size : V → Nat)
    {init : K → Prop} (sch : List ThreadId) {c : CallState K V} (hi : PlainInv mem cfg init c) :
    PlainInv mem cfg init (callRunR mem cfg tl size sch c) := by
  refine callRunWith_invariant _ (fun c i c' ⟨hg, hi⟩ h => ?_) sch c hi
  obtain ⟨x, x', s', evs, l1, l2, _, hl, hstep, rfl⟩ := callStep_cases h
  obtain ⟨hx, ho⟩ := forall_mid.mp (hl ▸ hi.stages)
  obtain ⟨hg', hstage, hcnt⟩ := callerStep_plain hp hg hx hstep
  refine ⟨hg', forall_mid.mpr ⟨hstage, fun y hy => (ho y hy).mono evs⟩, hg'.logInv, fun k => ?_, fun k => ?_⟩
  · have := hi.bodies k
    rw [hl, totalBodies_mid] at this
    simp only [totalBodies_mid, List.countP_append, (hcnt k).1]
    omega
  · have := hi.paired k
    simp only [List.countP_append, (hcnt k).2]
    omega

theorem plainInv_run {cfg : Cfg} (hp : ConcCalls.Plain cfg) (mem : Bool) (tl : Tlru S) (size : V → Nat) (s : State K V)
    (callss : List (List (Call K V))) (sch : List ThreadId) :
    PlainInv mem cfg (fun k => k ∈ keys s.store) (callRunR mem cfg tl size sch (CallState.start s callss)) :=
  callRun_inv hp mem tl size sch (plainInv_start mem cfg s callss)

/-- **Once a key is stored it stays stored and the body does not run for it again.** -/
theorem callRun_stable {cfg : Cfg} (hp : ConcCalls.Plain cfg) (mem : Bool) (tl : Tlru S) (size : V → Nat)
    {init : K → Prop} (sch : List ThreadId) {c : CallState K V} (hi : PlainInv mem cfg init c) {k : K}
    (hk : k ∈ keys c.shared.store) :
    k ∈ keys (callRunR mem cfg tl size sch c).shared.store ∧
    totalBodies k (callRunR mem cfg tl size sch c).callers = totalBodies k c.callers := by
  obtain ⟨g2, i2⟩ := callRun_inv hp mem tl size sch hi
  obtain ⟨new, hnew⟩ := callRun_log mem cfg tl size sch c
  have hw := (hi.good.stored k).mp hk
  refine ⟨(g2.stored k).mpr (hnew ▸ hw.imp_right (List.mem_append_right _)), ?_⟩
  rw [i2.bodies k, hi.call.bodies k, hnew, List.countP_append, Nat.add_eq_right, List.countP_eq_zero]
  intro e he hb
  have : e = .body k := by
    cases e with
    | body k' => rw [of_decide_eq_true hb]
    | _ => cases hb
  exact (Hist.never_after (hnew ▸ g2.hist) hw).2 (this ▸ he)

/-! ### Missed lookups among the lookups -/

/-- a missed lookup is a lookup; without a successful lookup of `k` every lookup of `k` missed -/
theorem countP_isMiss_le_isRead (k : K) (l : List (Ev K V)) : l.countP (isMiss k) ≤ l.countP (isRead k) := by
  refine List.countP_mono_left (fun e _ h => ?_)
  cases e with
  | read k' b => cases b with
    | false => exact h
    | true => cases h
  | _ => cases h

theorem countP_isMiss_eq_isRead (k : K) (l : List (Ev K V)) (h : Ev.read k true ∉ l) :
    l.countP (isMiss k) = l.countP (isRead k) := by
  refine List.countP_congr fun e he => ?_
  cases e with
  | read k' b =>
    cases b with
    | false => rfl
    | true =>
      have hk : k' ≠ k := fun hk => h (hk ▸ he)
      simp [isMiss, isRead, hk]
  | _ => rfl

/-! ## §4 The deterministic instance is `ConcCalls` -/

/-- every remaining call produces `f` of its key and stores it -/
def DetCaller (f : K → V) (c : Caller K V) : Prop := ∀ x, x ∈ c.calls → x.2.2 = (f x.1, true)

/-- on a deterministic, always-storing caller the step of this model IS the step of `ConcCalls` (up to the
    events `ConcCalls` does not log) -/
theorem callerStep_det (f : K → V) (cfg : Cfg) (tl : Tlru S) (size : V → Nat) (s : State K V) (c : Caller K V)
    (hd : DetCaller f c) :
    (callerStep false false cfg tl size s c).map (fun r => (r.1, r.2.1.toCalls, r.2.2.filterMap Ev.toCalls?))
      = ConcCalls.callerStep f cfg tl size s c.toCalls := by
  obtain ⟨calls, stage, bodies, rets⟩ := c
  cases calls with
  | nil => rfl
  | cons a rest =>
    obtain ⟨k, rs, v, st⟩ := a
    have hv : (v, st) = (f k, true) := hd (k, rs, v, st) List.mem_cons_self
    cases hv
    cases stage with
    | lookup p =>
      simp only [callerStep, ConcCalls.callerStep, Caller.toCalls, List.map_cons]
      generalize micro false cfg tl size s (.get k) rs p = r
      obtain ⟨s1, res⟩ := r
      cases res with
      | more p' => cases p <;> rfl
      | fin op o =>
        cases o with
        | unit => cases p <;> rfl
        | val ow => cases ow <;> cases p <;> rfl
    | store p =>
      simp only [callerStep, ConcCalls.callerStep, Caller.toCalls, List.map_cons, if_true, storeOp,
        Bool.false_eq_true, if_false]
      generalize micro false cfg tl size s (.insert k (f k)) rs p = r
      obtain ⟨s1, res⟩ := r
      cases res <;> cases p <;> rfl

theorem callStep_det (f : K → V) (cfg : Cfg) (tl : Tlru S) (size : V → Nat) (c : CallState K V) (i : Nat)
    (hd : ∀ x, x ∈ c.callers → DetCaller f x) :
    (callStep false false cfg tl size c i).map CallState.toCalls
      = ConcCalls.callStep f cfg tl size c.toCalls i := by
  unfold callStep ConcCalls.callStep
  simp only [CallState.toCalls, List.getElem?_map]
  cases hx : c.callers[i]? with
  | none => rfl
  | some x =>
    simp only [Option.map_some]
    rw [← callerStep_det f cfg tl size c.shared x (hd x (List.mem_of_getElem? hx))]
    cases callerStep false false cfg tl size c.shared x with
    | none => rfl
    | some r =>
      obtain ⟨s', x', evs⟩ := r
      simp [CallState.toCalls, List.map_set, List.filterMap_append]

theorem callStep_detCallers {f : K → V} {c c' : CallState K V} {i : Nat}
    (hd : ∀ x, x ∈ c.callers → DetCaller f x) (h : callStep false false cfg tl size c i = some c') :
    ∀ x, x ∈ c'.callers → DetCaller f x := by
  obtain ⟨x, x', s', evs, l1, l2, _, hl, hstep, rfl⟩ := callStep_cases h
  obtain ⟨hx, ho⟩ := forall_mid.mp (hl ▸ hd)
  exact forall_mid.mpr
    ⟨fun z hz => hx z ((callerStep_calls hstep).1 z hz), ho⟩

theorem callRun_det (f : K → V) (cfg : Cfg) (tl : Tlru S) (size : V → Nat) (sch : List ThreadId)
    (c : CallState K V) (hd : ∀ x, x ∈ c.callers → DetCaller f x) :
    (callRunR false cfg tl size sch c).toCalls = ConcCalls.callRun f cfg tl size sch c.toCalls ∧
    ∀ x, x ∈ (callRunR false cfg tl size sch c).callers → DetCaller f x := by
  induction sch generalizing c with
  | nil => exact ⟨rfl, hd⟩
  | cons i sch ih =>
    simp only [callRunR, callRunWith, ConcCalls.callRun]
    rw [← callStep_det f cfg tl size c i hd]
    cases hs : callStep false false cfg tl size c i with
    | none => exact ih c hd
    | some c' => exact ih c' (callStep_detCallers hd hs)

theorem start_det (f : K → V) (s : State K V) (callss : List (List (K × List Nat))) :
    (CallState.start s (callss.map (detCalls f))).toCalls = ConcCalls.CallState.start s callss ∧
    ∀ x, x ∈ (CallState.start s (callss.map (detCalls f))).callers → DetCaller f x := by
  refine ⟨?_, ?_⟩
  · simp only [CallState.toCalls, CallState.start, ConcCalls.CallState.start, List.map_map, List.filterMap_nil]
    congr 1
    apply List.map_congr_left
    intro calls _
    simp [Caller.toCalls, Caller.start, ConcCalls.Caller.start, detCalls, Function.comp_def]
  · intro x hx y hy
    obtain ⟨calls, hc, rfl⟩ := List.mem_map.mp hx
    obtain ⟨calls0, _, rfl⟩ := List.mem_map.mp hc
    obtain ⟨z, _, rfl⟩ := List.mem_map.mp hy
    rfl

/-! ### The invariant of `ConcCalls` is the image of the invariant of this model

    under `CallState.toCalls` (which forgets the `body` / `fail` events), for callers whose calls all produce
    `f` of their key and store it. -/

theorem split_filterMap {α β : Type} {g : α → Option β} {l : List α} {l1 : List β} {b : β} {l2 : List β}
    (h : l.filterMap g = l1 ++ b :: l2) :
    ∃ L1 a L2, l = L1 ++ a :: L2 ∧ L1.filterMap g = l1 ∧ g a = some b ∧ L2.filterMap g = l2 := by
  obtain ⟨A, B, rfl, rfl, hB⟩ := List.filterMap_eq_append_iff.mp h
  obtain ⟨B1, a, B2, rfl, hnone, ha, rfl⟩ := List.filterMap_eq_cons_iff.mp hB
  exact ⟨A ++ B1, a, B2, (List.append_assoc A B1 _).symm,
    by rw [List.filterMap_append, List.filterMap_eq_nil_iff.mpr hnone, List.append_nil], ha, rfl⟩

theorem toCalls?_read {e : Ev K V} {k : K} {b : Bool} (h : e.toCalls? = some (.read k b)) : e = .read k b := by
  cases e <;> cases h <;> rfl

theorem toCalls?_write {e : Ev K V} {k : K} (h : e.toCalls? = some (.write k)) : e = .write k := by
  cases e <;> cases h <;> rfl

theorem toCalls?_ret {e : Ev K V} {k : K} {v : V} {b : Bool} (h : e.toCalls? = some (.ret k v b)) :
    e = .ret k v b := by
  cases e <;> cases h <;> rfl

theorem countP_isMiss_toCalls (k : K) (l : List (Ev K V)) :
    (l.filterMap Ev.toCalls?).countP (ConcCalls.isMiss k) = l.countP (isMiss k) := by
  rw [List.countP_filterMap]
  refine List.countP_congr fun e _ => ?_
  cases e with
  | read k' b => cases b <;> rfl
  | _ => rfl

theorem CallInv.toCalls {f : K → V} {cfg : Cfg} {init : K → Prop} {c : CallState K V}
    (hd : ∀ x, x ∈ c.callers → DetCaller f x) (hP : InvP (fun k v => v = f k) c)
    (hi : CallInv false cfg init c) : ConcCalls.CallInv f cfg c.toCalls := by
  refine ⟨hP.store, ?_, ⟨?_, ?_, ?_, ?_⟩, ?_⟩
  · intro x hx k rs rest hc
    obtain ⟨y, hy, rfl⟩ := List.mem_map.mp hx
    cases hyc : y.calls with
    | nil => simp only [Caller.toCalls, hyc, List.map_nil] at hc; cases hc
    | cons a rest' =>
      obtain ⟨k', rs', v, st⟩ := a
      simp only [Caller.toCalls, hyc, List.map_cons, List.cons.injEq, Prod.mk.injEq] at hc
      obtain ⟨⟨rfl, rfl⟩, _⟩ := hc
      have hdet : (v, st) = (f k', true) := hd y hy (k', rs', v, st) (hyc ▸ List.mem_cons_self)
      cases hdet
      have hstage := hi.stages y hy k' rs' (f k') true rest' hyc
      have hcp := (hP.callers y hy).2 k' rs' (f k') true rest'
      show ConcCalls.StagePred f cfg (c.log.filterMap Ev.toCalls?) k' y.stage
      cases hs : y.stage with
      | lookup p =>
        cases p with
        | none => trivial
        | some p =>
          rw [hs] at hstage
          obtain ⟨⟨w, hw⟩, _⟩ := hstage
          have hwf : w = f k' := by
            rcases hw with ⟨rfl, _⟩ | ⟨rfl, _⟩ | ⟨rfl, _⟩ <;> exact (hcp _ hyc hs).2
          subst hwf
          exact hw
      | store p =>
        cases p with
        | none => trivial
        | some p =>
          rw [hs] at hstage
          obtain ⟨_, ⟨rs'', rfl⟩, ha, hw⟩ := hstage
          exact ⟨⟨_, rfl⟩, ha, List.mem_filterMap.mpr ⟨_, hw, rfl⟩⟩
  · intro k hk
    obtain ⟨e, he, hg⟩ := List.mem_filterMap.mp hk
    rw [toCalls?_write hg] at he
    exact hi.logInv.written k he
  · intro l1 l2 k hl hmem
    obtain ⟨L1, a, L2, hL, h1, ha, _⟩ := split_filterMap hl
    rw [toCalls?_write ha] at hL
    obtain ⟨e, he, hg⟩ := List.mem_filterMap.mp (h1 ▸ hmem)
    rw [toCalls?_read hg] at he
    exact (hi.logInv.after L1 L2 k hL).1 he
  · intro l1 l2 k v hl
    obtain ⟨L1, a, L2, hL, _, ha, h2⟩ := split_filterMap hl
    rw [toCalls?_ret ha] at hL
    rw [← h2]
    exact List.mem_filterMap.mpr ⟨_, hi.logInv.stored L1 L2 k v hL, rfl⟩
  · intro k v b hk
    obtain ⟨e, he, hg⟩ := List.mem_filterMap.mp hk
    rw [toCalls?_ret hg] at he
    exact hP.log k v b he
  · intro k
    show ConcCalls.totalBodies k (c.callers.map Caller.toCalls) = (c.log.filterMap Ev.toCalls?).countP (ConcCalls.isMiss k)
    rw [countP_isMiss_toCalls, ← hi.paired k, ← hi.bodies k]
    simp only [ConcCalls.totalBodies, totalBodies, List.map_map]
    rfl

end Cachelito.ConcCallsR

namespace Cachelito.ConcCalls
open Cachelito Cachelito.ConcData Cachelito.ConcCallsR

variable {K V S : Type} [DecidableEq K]

/-- every reachable state of `ConcCalls` is the projection of a reachable state of `ConcCallsR` whose callers
    are deterministic and which satisfies the invariants of that model -/
theorem run_is_projection (f : K → V) {cfg : Cfg} (hp : Plain cfg) (tl : Tlru S) (size : V → Nat) (s0 : State K V)
    (hs0 : ValOK f s0.store) (callss : List (List (K × List Nat))) (sch : List ThreadId) :
    ∃ X : ConcCallsR.CallState K V, X.toCalls = callRun f cfg tl size sch (CallState.start s0 callss) ∧
      (∀ x, x ∈ X.callers → DetCaller f x) ∧ InvP (fun k v => v = f k) X ∧
      PlainInv false cfg (fun k => k ∈ keys s0.store) X := by
  obtain ⟨h1, h2⟩ := start_det f s0 callss
  obtain ⟨h3, h4⟩ := callRun_det f cfg tl size sch _ h2
  refine ⟨_, h3.trans (congrArg _ h1), h4, callRun_P false cfg tl size sch _ (invP_start _ _ hs0 ?_),
    plainInv_run hp false tl size s0 _ sch⟩
  intro calls hc x hx _
  obtain ⟨calls0, _, rfl⟩ := List.mem_map.mp hc
  obtain ⟨y, _, rfl⟩ := List.mem_map.mp hx
  rfl

theorem callInv_run (f : K → V) {cfg : Cfg} (hp : Plain cfg) (tl : Tlru S) (size : V → Nat) (s0 : State K V)
    (hs0 : ValOK f s0.store) (callss : List (List (K × List Nat))) (sch : List ThreadId) :
    CallInv f cfg (callRun f cfg tl size sch (CallState.start s0 callss)) := by
  obtain ⟨X, hX, hd, hP, hi⟩ := run_is_projection f hp tl size s0 hs0 callss sch
  exact hX ▸ ConcCallsR.CallInv.toCalls hd hP hi.call

theorem callRun_stable (f : K → V) {cfg : Cfg} (hp : Plain cfg) (tl : Tlru S) (size : V → Nat) (s0 : State K V)
    (hs0 : ValOK f s0.store) (callss : List (List (K × List Nat))) (sch₁ sch₂ : List ThreadId) (k : K)
    (hk : k ∈ keys (callRun f cfg tl size sch₁ (CallState.start s0 callss)).shared.store) :
    k ∈ keys (callRun f cfg tl size sch₂ (callRun f cfg tl size sch₁ (CallState.start s0 callss))).shared.store ∧
    totalBodies k (callRun f cfg tl size sch₂ (callRun f cfg tl size sch₁ (CallState.start s0 callss))).callers
      = totalBodies k (callRun f cfg tl size sch₁ (CallState.start s0 callss)).callers := by
  obtain ⟨X, hX, hd, _, hi⟩ := run_is_projection f hp tl size s0 hs0 callss sch₁
  rw [← hX] at hk ⊢
  rw [← (callRun_det f cfg tl size sch₂ X hd).1]
  obtain ⟨h2, this⟩ := ConcCallsR.callRun_stable hp false tl size sch₂ hi hk
  refine ⟨h2, ?_⟩
  simp only [ConcCallsR.CallState.toCalls, totalBodies, ConcCallsR.totalBodies, List.map_map] at this ⊢
  exact this

end Cachelito.ConcCalls
