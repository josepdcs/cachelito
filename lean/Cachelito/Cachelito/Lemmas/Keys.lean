/-
  Lemmas for C02.  A type-directed parser for `Debug` output is a left inverse of `Keys.render` on
  every continuation that starts with a delimiter (`parse_render`); hence a rendered value followed
  by a delimiter determines the value and the rest (`render_append_injective`), and a joined key
  determines its parts.  Last part: replacing the float leaves of a value (`Val.mapF`) commutes with
  rendering and typing, for C02 without injectivity of the float printer.  The parser is a proof
  device only (nothing in the driver uses it).  Each token parser (numbers, escapes, literals, `bool`,
  floats) is directly followed by the lemma that it reads back what the printer wrote (`*_render`, `*_escape`).
-/
import Cachelito.Keys

namespace Cachelito.Keys

/-! ### Delimiters, prefixes, spans -/

/-- the characters that can follow a rendered value inside a key: `isStructural` without the openers
    `(` `[` `{` and without `:` -/
def isDelim (c : Char) : Bool :=
  c == '|' || c == ',' || c == ')' || c == ']' || c == '}' || c == ' '

/-- `rest` is empty or starts with a delimiter -/
def delimStart : Text → Bool
  | [] => true
  | c :: _ => isDelim c

theorem isDelim_cases {c : Char} (h : isDelim c = true) :
    c = '|' ∨ c = ',' ∨ c = ')' ∨ c = ']' ∨ c = '}' ∨ c = ' ' := by
  simp [isDelim] at h
  rcases h with ((((h | h) | h) | h) | h) | h <;> simp [h]

/-- strip a literal prefix -/
def dropPrefix : Text → Text → Option Text
  | [], s => some s
  | _ :: _, [] => none
  | p :: ps, c :: cs => if p = c then dropPrefix ps cs else none

theorem dropPrefix_append_left (p q s : Text) : dropPrefix (p ++ q) (p ++ s) = dropPrefix q s := by
  induction p with
  | nil => rfl
  | cons c cs ih => simp [dropPrefix, ih]

/-- longest prefix satisfying `p`, and the remainder -/
def spanP (p : Char → Bool) : Text → Text × Text
  | [] => ([], [])
  | c :: r => if p c then (c :: (spanP p r).1, (spanP p r).2) else ([], c :: r)

theorem spanP_append (p : Char → Bool) (ds rest : Text) (h1 : ∀ c ∈ ds, p c = true)
    (h2 : ∀ c r, rest = c :: r → p c = false) : spanP p (ds ++ rest) = (ds, rest) := by
  induction ds with
  | nil =>
    cases rest with
    | nil => rfl
    | cons c r => simp [spanP, h2 c r rfl]
  | cons d ds ih => simp [spanP, h1 d (by simp), ih (fun c hc => h1 c (by simp [hc]))]

/-! ### Digit strings in a radix -/

/-- value of a run of digits, most significant first -/
def foldDigits (val : Char → Option Nat) (b : Nat) (acc : Nat) (ds : Text) : Nat :=
  ds.foldl (fun a c => a * b + (val c).getD 0) acc

/-- consume the longest run of digits -/
def parseDigits (val : Char → Option Nat) (b : Nat) : Nat → Text → Nat × Text
  | acc, [] => (acc, [])
  | acc, c :: r =>
    match val c with
    | some d => parseDigits val b (acc * b + d) r
    | none => (acc, c :: r)

theorem parseDigits_append (val : Char → Option Nat) (b acc : Nat) (ds rest : Text)
    (h1 : ∀ c ∈ ds, (val c).isSome = true) (h2 : ∀ c r, rest = c :: r → val c = none) :
    parseDigits val b acc (ds ++ rest) = (foldDigits val b acc ds, rest) := by
  induction ds generalizing acc with
  | nil =>
    cases rest with
    | nil => rfl
    | cons c r => simp [parseDigits, foldDigits, h2 c r rfl]
  | cons d ds ih =>
    have hd := h1 d (by simp)
    cases hv : val d with
    | none => simp [hv] at hd
    | some x => simp [parseDigits, hv, ih (acc * b + x) (fun c hc => h1 c (by simp [hc])), foldDigits]

theorem foldDigits_snoc (val : Char → Option Nat) (b acc : Nat) (ds : Text) (d : Char) :
    foldDigits val b acc (ds ++ [d]) = foldDigits val b acc ds * b + (val d).getD 0 := by
  simp [foldDigits, List.foldl_append]

theorem renderRadix_spec (val : Char → Option Nat) (b : Nat) (dig : Nat → Char) (hb : 2 ≤ b)
    (hv : ∀ d, d < b → val (dig d) = some d) (fuel n : Nat) (hn : n ≤ fuel) :
    (∀ c ∈ renderRadix b dig fuel n, (val c).isSome = true) ∧
      foldDigits val b 0 (renderRadix b dig fuel n) = n := by
  induction fuel generalizing n with
  | zero =>
    obtain rfl : n = 0 := by omega
    simp [renderRadix, foldDigits, hv 0 (by omega)]
  | succ fuel ih =>
    unfold renderRadix
    split
    · rename_i h; simp [foldDigits, hv n h]
    · obtain ⟨ih1, ih2⟩ := ih (n / b) (by have := Nat.div_lt_self (n := n) (k := b) (by omega) (by omega); omega)
      have hm := hv _ (Nat.mod_lt n (show 0 < b by omega))
      refine ⟨fun c hc => ?_, ?_⟩
      · rcases List.mem_append.mp hc with hc | hc
        · exact ih1 c hc
        · rw [List.mem_singleton.mp hc, hm]; rfl
      · rw [foldDigits_snoc, ih2, hm]; exact Nat.div_add_mod' n b

theorem renderRadix_ne_nil (b : Nat) (dig : Nat → Char) (fuel n : Nat) :
    renderRadix b dig fuel n ≠ [] := by
  cases fuel with
  | zero => simp [renderRadix]
  | succ fuel => unfold renderRadix; split <;> simp

theorem parseDigits_renderRadix (val : Char → Option Nat) (b : Nat) (dig : Nat → Char) (hb : 2 ≤ b)
    (hv : ∀ d, d < b → val (dig d) = some d) (n : Nat) (rest : Text)
    (h2 : ∀ c r, rest = c :: r → val c = none) :
    parseDigits val b 0 (renderRadix b dig n n ++ rest) = (n, rest) := by
  obtain ⟨h1, hf⟩ := renderRadix_spec val b dig hb hv n n (Nat.le_refl n)
  rw [parseDigits_append val b 0 _ rest h1 h2, hf]

def decVal (c : Char) : Option Nat := if c.isDigit then some (c.toNat - 48) else none

def hexVal (c : Char) : Option Nat :=
  if c.isDigit then some (c.toNat - 48)
  else if 'a' ≤ c ∧ c ≤ 'f' then some (c.toNat - 87)
  else none

theorem decVal_decDigit : ∀ d, d < 10 → decVal (decDigit d) = some d := by decide

theorem hexVal_hexDigit : ∀ d, d < 16 → hexVal (hexDigit d) = some d := by decide

/-- what makes the delimiters end a token: they are structural punctuation (no identifier character),
    no float characters and no decimal digits -/
theorem delimStart_ends {rest : Text} (h : delimStart rest = true) {c : Char} {r : Text} (e : rest = c :: r) :
    isStructural c = true ∧ isFloatChar c = false ∧ decVal c = none := by
  subst e
  rcases isDelim_cases h with rfl | rfl | rfl | rfl | rfl | rfl <;> decide

/-! ### Numbers -/

/-- an unsigned decimal: at least one digit -/
def parseNat (s : Text) : Option (Nat × Text) :=
  match s with
  | [] => none
  | c :: r => if (decVal c).isSome then some (parseDigits decVal 10 0 (c :: r)) else none

theorem renderNat_digits (n : Nat) : ∀ c ∈ renderNat n, (decVal c).isSome = true :=
  (renderRadix_spec decVal 10 decDigit (by omega) decVal_decDigit n n (Nat.le_refl n)).1

theorem renderNat_head (n : Nat) : ∃ d ds, renderNat n = d :: ds ∧ (decVal d).isSome = true := by
  cases h : renderNat n with
  | nil => exact absurd h (renderRadix_ne_nil 10 decDigit n n)
  | cons d ds => exact ⟨d, ds, rfl, renderNat_digits n d (by simp [h])⟩

theorem parseNat_render (n : Nat) (rest : Text) (hd : delimStart rest = true) :
    parseNat (renderNat n ++ rest) = some (n, rest) := by
  obtain ⟨d, ds, hr, hdv⟩ := renderNat_head n
  rw [hr, List.cons_append, parseNat, if_pos hdv, ← List.cons_append, ← hr]
  exact congrArg some (parseDigits_renderRadix decVal 10 decDigit (by omega) decVal_decDigit n rest
    fun _ _ hc => (delimStart_ends hd hc).2.2)

/-- a signed decimal -/
def parseInt (s : Text) : Option (Int × Text) :=
  match s with
  | [] => none
  | c :: r =>
    if c = '-' then (parseNat r).map (fun p => (-(p.1 : Int), p.2))
    else (parseNat (c :: r)).map (fun p => ((p.1 : Int), p.2))

theorem parseInt_render (i : Int) (rest : Text) (hd : delimStart rest = true) :
    parseInt (renderInt i ++ rest) = some (i, rest) := by
  cases i with
  | ofNat n =>
    obtain ⟨d, ds, hr, hdv⟩ := renderNat_head n
    have hne : d ≠ '-' := by rintro rfl; revert hdv; decide
    have hp := parseNat_render n rest hd
    simp only [renderInt, hr, List.cons_append] at hp ⊢
    simp [parseInt, hne, hp]
  | negSucc n =>
    simp only [renderInt, List.cons_append, parseInt, if_true, parseNat_render (n + 1) rest hd, Option.map_some]
    congr 1

/-! ### Escapes and literals -/

/-- after `\u{`: hex digits up to the closing brace -/
def parseHexBrace (s : Text) : Option (Nat × Text) :=
  match parseDigits hexVal 16 0 s with
  | (n, c :: r) => if c = '}' then some (n, r) else none
  | (_, []) => none

theorem parseHexBrace_render (n : Nat) (rest : Text) :
    parseHexBrace (renderHex n ++ '}' :: rest) = some (n, rest) := by
  have := parseDigits_renderRadix hexVal 16 hexDigit (by omega) hexVal_hexDigit n ('}' :: rest)
    (fun c r hc => by cases hc; decide)
  simp [parseHexBrace, renderHex, this]

/-- one (possibly escaped) character of a literal delimited by `q`; the caller has already checked
    that the input does not start with the closing quote -/
def parseEscChar (q : Quote) : Text → Option (Char × Text)
  | [] => none
  | c :: r =>
    if c = '\\' then
      match r with
      | [] => none
      | e :: r' =>
        if e = '0' then some ('\x00', r')
        else if e = 't' then some ('\t', r')
        else if e = 'r' then some ('\r', r')
        else if e = 'n' then some ('\n', r')
        else if e = '\\' then some ('\\', r')
        else if e = q.char then some (q.char, r')
        else if e = 'u' then
          match r' with
          | [] => none
          | b :: r'' =>
            if b = '{' then (parseHexBrace r'').map (fun p => (Char.ofNat p.1, p.2)) else none
        else none
    else some (c, r)

theorem Quote.char_ne (q : Quote) :
    q.char ≠ '0' ∧ q.char ≠ 't' ∧ q.char ≠ 'r' ∧ q.char ≠ 'n' ∧ q.char ≠ '\\' ∧ q.char ≠ 'u' := by
  cases q <;> decide

/-- The three shapes of `escape_debug_ext` output: a two-character escape that `parseEscChar` maps
    back to `c`, a `\u{…}` escape, or `c` itself, which is then neither a backslash nor the quote. -/
theorem escapeChar_cases (esc : Char → Bool) (q : Quote) (c : Char) :
    (∃ e, escapeChar esc q c = ['\\', e] ∧ ∀ r, parseEscChar q ('\\' :: e :: r) = some (c, r)) ∨
    escapeChar esc q c = unicodeEsc c ∨
    (escapeChar esc q c = [c] ∧ c ≠ '\\' ∧ c ≠ q.char) := by
  by_cases hfix : c ∈ ['\x00', '\t', '\r', '\n', '\\']
  · simp only [List.mem_cons, List.not_mem_nil, or_false] at hfix
    rcases hfix with rfl | rfl | rfl | rfl | rfl <;> exact .inl ⟨_, rfl, fun r => by simp [parseEscChar]⟩
  · simp only [List.mem_cons, List.not_mem_nil, or_false, not_or] at hfix
    obtain ⟨h0, ht, hr, hn, hb⟩ := hfix
    obtain ⟨q0, qt, qr, qn, qb, _⟩ := q.char_ne
    unfold escapeChar
    rw [if_neg h0, if_neg ht, if_neg hr, if_neg hn, if_neg hb]
    by_cases hq : c = q.char
    · subst hq; exact .inl ⟨q.char, if_pos rfl, fun r => by simp [parseEscChar, q0, qt, qr, qn, qb]⟩
    rw [if_neg hq]
    by_cases he : esc c = true
    · exact .inr (.inl (if_pos he))
    · exact .inr (.inr ⟨if_neg he, hb, hq⟩)

theorem parseEscChar_escape (esc : Char → Bool) (q : Quote) (c : Char) (rest : Text) :
    parseEscChar q (escapeChar esc q c ++ rest) = some (c, rest) := by
  rcases escapeChar_cases esc q c with ⟨e, h, hp⟩ | h | ⟨h, hb, _⟩ <;> rw [h]
  · exact hp rest
  · simp [unicodeEsc, parseEscChar, parseHexBrace_render, Char.ofNat_toNat, Ne.symm q.char_ne.2.2.2.2.2]
  · simp [parseEscChar, hb]

/-- so the test for the closing quote in `parseBody` never fires inside the body -/
theorem escapeChar_head (esc : Char → Bool) (q : Quote) (c : Char) :
    ∃ d ds, escapeChar esc q c = d :: ds ∧ d ≠ q.char := by
  have qb := Ne.symm q.char_ne.2.2.2.2.1
  rcases escapeChar_cases esc q c with ⟨e, h, _⟩ | h | ⟨h, _, hq⟩
  · exact ⟨_, _, h, qb⟩
  · exact ⟨_, _, h, qb⟩
  · exact ⟨_, _, h, hq⟩

/-- literal body up to the closing quote; one unit of fuel per decoded character -/
def parseBody (q : Quote) : Nat → Text → Option (Text × Text)
  | 0, _ => none
  | fuel + 1, s =>
    match s with
    | [] => none
    | c :: r =>
      if c = q.char then some ([], r)
      else
        match parseEscChar q (c :: r) with
        | some (d, r') => (parseBody q fuel r').map (fun p => (d :: p.1, p.2))
        | none => none

theorem parseBody_escape (esc : Char → Bool) (q : Quote) (s rest : Text) (fuel : Nat)
    (hf : (escapeBody esc q s).length < fuel) :
    parseBody q fuel (escapeBody esc q s ++ q.char :: rest) = some (s, rest) := by
  induction s generalizing fuel with
  | nil =>
    cases fuel with
    | zero => omega
    | succ fuel => simp [escapeBody, parseBody]
  | cons c cs ih =>
    cases fuel with
    | zero => omega
    | succ fuel =>
      obtain ⟨d, ds, hd, hne⟩ := escapeChar_head esc q c
      have hp := parseEscChar_escape esc q c (escapeBody esc q cs ++ q.char :: rest)
      have := ih fuel (by simp [escapeBody, hd] at hf; omega)
      simp only [escapeBody, List.append_assoc]
      rw [hd] at hp ⊢
      simp only [List.cons_append] at hp ⊢
      simp [parseBody, hne, hp, this]

/-- a string literal `"…"` -/
def parseStrLit (s : Text) : Option (Text × Text) :=
  match s with
  | [] => none
  | c :: r => if c = '"' then parseBody .double r.length r else none

/-- string literals are self-delimiting: no condition on `rest` -/
theorem parseStrLit_render (esc : Char → Bool) (s rest : Text) :
    parseStrLit (renderStr esc s ++ rest) = some (s, rest) := by
  simp only [renderStr, parseStrLit, List.cons_append, List.append_assoc, if_true]
  exact parseBody_escape esc .double s rest _ (by simp)

/-- a character literal `'c'` -/
def parseCharLit (s : Text) : Option (Char × Text) :=
  match s with
  | [] => none
  | c :: r =>
    if c = '\'' then
      match parseEscChar .single r with
      | some (d, e :: r') => if e = '\'' then some (d, r') else none
      | _ => none
    else none

theorem parseCharLit_render (esc : Char → Bool) (c : Char) (rest : Text) :
    parseCharLit (renderChar esc c ++ rest) = some (c, rest) := by
  have := parseEscChar_escape esc .single c ('\'' :: rest)
  simp [renderChar, parseCharLit, this]

/-! ### `bool` and floats -/

def parseBool (s : Text) : Option (Bool × Text) :=
  match dropPrefix ['t', 'r', 'u', 'e'] s with
  | some r => some (true, r)
  | none => (dropPrefix ['f', 'a', 'l', 's', 'e'] s).map (fun r => (false, r))

theorem parseBool_render (b : Bool) (rest : Text) : parseBool (renderBool b ++ rest) = some (b, rest) := by
  cases b <;> rfl

/-- a float token is the longest run of float characters; `g` reads it back -/
def parseFloat {F : Type} (g : Text → Option F) (s : Text) : Option (F × Text) :=
  (g (spanP isFloatChar s).1).map (fun f => (f, (spanP isFloatChar s).2))

theorem parseFloat_render {F : Type} (rf : F → Text) (hf : FloatOK rf) (g : Text → Option F)
    (hg : ∀ f, g (rf f) = some f) (f : F) (rest : Text) (hd : delimStart rest = true) :
    parseFloat g (rf f ++ rest) = some (f, rest) := by
  have := spanP_append isFloatChar (rf f) rest (hf.alphabet f) fun _ _ hc => (delimStart_ends hd hc).2.1
  simp [parseFloat, this, hg]

/-! ### The parser -/

/-- `, x, y` up to the closing bracket; the element parser is a parameter -/
def parseVecTail {F : Type} (p : Text → Option (Val F × Text)) :
    Nat → Text → Option (List (Val F) × Text)
  | 0, _ => none
  | fuel + 1, s =>
    match dropPrefix [']'] s with
    | some r => some ([], r)
    | none =>
      match dropPrefix [',', ' '] s with
      | none => none
      | some r =>
        match p r with
        | none => none
        | some (v, r) => (parseVecTail p fuel r).map (fun q => (v :: q.1, q.2))

mutual
/-- type-directed parser for `Debug` output; `g` reads a float token back -/
def parse {F : Type} (g : Text → Option F) : Ty → Text → Option (Val F × Text)
  | .uint, s => (parseNat s).map (fun p => (.nat p.1, p.2))
  | .sint, s => (parseInt s).map (fun p => (.int p.1, p.2))
  | .bool, s => (parseBool s).map (fun p => (.bool p.1, p.2))
  | .char, s => (parseCharLit s).map (fun p => (.char p.1, p.2))
  | .str, s => (parseStrLit s).map (fun p => (.str p.1, p.2))
  | .float, s => (parseFloat g s).map (fun p => (.float p.1, p.2))
  | .unit, s => (dropPrefix ['(', ')'] s).map (fun r => (.unit, r))
  | .option t, s =>
    match dropPrefix ['N', 'o', 'n', 'e'] s with
    | some r => some (.none, r)
    | none =>
      match dropPrefix ['S', 'o', 'm', 'e', '('] s with
      | none => none
      | some r =>
        match parse g t r with
        | none => none
        | some (v, r) => (dropPrefix [')'] r).map (fun r => (.some v, r))
  | .vec t, s =>
    match dropPrefix ['['] s with
    | none => none
    | some r =>
      match dropPrefix [']'] r with
      | some r => some (.vec [], r)
      | none =>
        match parse g t r with
        | none => none
        | some (v, r) => (parseVecTail (parse g t) r.length r).map (fun q => (.vec (v :: q.1), q.2))
  | .tuple ts, s =>
    match dropPrefix ['('] s with
    | none => none
    | some r =>
      match ts with
      | [] => (dropPrefix [')'] r).map (fun r => (.tuple [], r))
      | t :: ts =>
        match parse g t r with
        | none => none
        | some (v, r) =>
          match ts with
          | [] => (dropPrefix [',', ')'] r).map (fun r => (.tuple [v], r))
          | _ :: _ =>
            match parseTail g ts r with
            | none => none
            | some (vs, r) => (dropPrefix [')'] r).map (fun r => (.tuple (v :: vs), r))
  | .adt vars, s =>
    parseVariants g vars (spanP (fun c => !isStructural c) s).1 (spanP (fun c => !isStructural c) s).2
/-- `, a, b` for a fixed list of types -/
def parseTail {F : Type} (g : Text → Option F) : List Ty → Text → Option (List (Val F) × Text)
  | [], s => some ([], s)
  | t :: ts, s =>
    match dropPrefix [',', ' '] s with
    | none => none
    | some r =>
      match parse g t r with
      | none => none
      | some (v, r) => (parseTail g ts r).map (fun q => (v :: q.1, q.2))
/-- the payload of the (first) variant called `name` -/
def parseVariants {F : Type} (g : Text → Option F) : List Variant → Text → Text → Option (Val F × Text)
  | [], _, _ => none
  | .unit n :: more, name, r =>
    if name = n.chars then some (.unitV n, r) else parseVariants g more name r
  | .tuple n ts :: more, name, r =>
    if name = n.chars then
      match ts with
      | [] => some (.tupleV n [], r)
      | t :: ts =>
        match dropPrefix ['('] r with
        | none => none
        | some r =>
          match parse g t r with
          | none => none
          | some (v, r) =>
            match parseTail g ts r with
            | none => none
            | some (vs, r) => (dropPrefix [')'] r).map (fun r => (.tupleV n (v :: vs), r))
    else parseVariants g more name r
  | .named n fs :: more, name, r =>
    if name = n.chars then
      match fs with
      | [] => some (.namedV n [], r)
      | (f, t) :: fs =>
        match dropPrefix (' ' :: '{' :: ' ' :: (f.chars ++ [':', ' '])) r with
        | none => none
        | some r =>
          match parse g t r with
          | none => none
          | some (v, r) =>
            match parseFieldsTail g fs r with
            | none => none
            | some (fvs, r) => (dropPrefix [' ', '}'] r).map (fun r => (.namedV n ((f, v) :: fvs), r))
    else parseVariants g more name r
/-- `, x: a, y: b` for a fixed list of fields -/
def parseFieldsTail {F : Type} (g : Text → Option F) :
    List (Ident × Ty) → Text → Option (List (Ident × Val F) × Text)
  | [], s => some ([], s)
  | (f, t) :: fs, s =>
    match dropPrefix (',' :: ' ' :: (f.chars ++ [':', ' '])) s with
    | none => none
    | some r =>
      match parse g t r with
      | none => none
      | some (v, r) => (parseFieldsTail g fs r).map (fun q => ((f, v) :: q.1, q.2))
end

/-- the name a variant is selected by -/
def Variant.name : Variant → Ident
  | .unit n | .tuple n _ | .named n _ => n

theorem parseVariants_skip {F : Type} (g : Text → Option F) {var : Variant} {name : Text}
    (h : name ≠ var.name.chars) (more : List Variant) (r : Text) :
    parseVariants g (var :: more) name r = parseVariants g more name r :=
  match var, h with
  | .unit _, h | .tuple _ [], h | .tuple _ (_ :: _), h | .named _ [], h | .named _ (_ :: _), h => by
    rw [parseVariants]; exact if_neg h

/-! ### What `render` produces and `wt` admits: continuations, constructor names, first characters -/

theorem Ident.all_nonstructural (n : Ident) : ∀ c ∈ n.chars, (!isStructural c) = true := by
  have := n.ok
  simp only [isIdent, Bool.and_eq_true, List.all_eq_true] at this
  exact this.2

theorem delimStart_renderTail {F : Type} (fm : Fmt F) (vs : List (Val F)) (rest : Text)
    (h : delimStart rest = true) : delimStart (renderTail fm vs ++ rest) = true :=
  match vs with
  | [] => h
  | _ :: _ => rfl

theorem delimStart_renderFieldsTail {F : Type} (fm : Fmt F) (fs : List (Ident × Val F)) (rest : Text)
    (h : delimStart rest = true) : delimStart (renderFieldsTail fm fs ++ rest) = true :=
  match fs with
  | [] => h
  | (_, _) :: _ => rfl

/-- inside a value an element is followed by `)`, `]`, `,` or a space -/
theorem delimStart_closers (r : Text) :
    delimStart (')' :: r) = true ∧ delimStart (']' :: r) = true ∧ delimStart (',' :: r) = true ∧
      delimStart (' ' :: r) = true :=
  ⟨rfl, rfl, rfl, rfl⟩

/-- what follows the constructor name of a user-type value -/
def renderPayload {F : Type} (fm : Fmt F) : Val F → Text
  | .tupleV _ (v :: vs) => '(' :: (render fm v ++ (renderTail fm vs ++ [')']))
  | .namedV _ ((f, v) :: fs) =>
      ' ' :: '{' :: ' ' :: (f.chars ++ ':' :: ' ' :: (render fm v ++ (renderFieldsTail fm fs ++ [' ', '}'])))
  | _ => []

theorem render_adt {F : Type} (fm : Fmt F) (v : Val F) (n : Ident) (h : v.name? = some n) :
    render fm v = n.chars ++ renderPayload fm v :=
  match v, h with
  | .unitV _, rfl | .tupleV _ [], rfl | .namedV _ [], rfl => (List.append_nil _).symm
  | .tupleV _ (_ :: _), rfl | .namedV _ (_ :: _), rfl => rfl

theorem dropPrefix_close {p : Char → Bool} (hp : p ']' = false) {s : Text} (hne : s ≠ [])
    (hall : ∀ c ∈ s, p c = true) (x : Text) : dropPrefix [']'] (s ++ x) = none := by
  cases s with
  | nil => exact absurd rfl hne
  | cons c cs =>
    exact if_neg fun (e : ']' = c) => Bool.false_ne_true (hp.symm.trans (e ▸ hall c List.mem_cons_self))

/-- so `[]` and `[x…` are told apart by their second character: numbers, float tokens and names are
    non-empty texts over alphabets without `]`, everything else starts with a fixed character -/
theorem render_not_close {F : Type} (fm : Fmt F) (hf : FloatOK fm.float) (v : Val F) (r : Text) :
    dropPrefix [']'] (render fm v ++ r) = none := by
  have hnat (n : Nat) : dropPrefix [']'] (renderNat n ++ r) = none :=
    dropPrefix_close (p := fun c => (decVal c).isSome) (by decide) (renderRadix_ne_nil 10 decDigit n n)
      (renderNat_digits n) r
  cases hn : v.name? with
  | some n =>
    rw [render_adt fm v n hn, List.append_assoc]
    exact dropPrefix_close (p := fun c => !isStructural c) (by decide)
      (fun e => by have := n.ok; rw [e] at this; cases this) n.all_nonstructural _
  | none =>
    cases v with
    | nat n => exact hnat n
    | int i => cases i with | ofNat n => exact hnat n | negSucc n => rfl
    | bool b => cases b <;> rfl
    | float f => exact dropPrefix_close (p := isFloatChar) (by decide) (hf.nonempty f) (hf.alphabet f) r
    | vec vs => cases vs <;> rfl
    | tuple vs => match vs with | [] | [_] | _ :: _ :: _ => rfl
    | unitV _ | tupleV _ _ | namedV _ _ => cases hn
    | _ => rfl

/-- what follows a constructor name starts with structural punctuation, so the name ends there -/
theorem renderPayload_head {F : Type} (fm : Fmt F) (v : Val F) (rest : Text)
    (hd : delimStart rest = true) :
    ∀ c r, renderPayload fm v ++ rest = c :: r → (!isStructural c) = false := by
  unfold renderPayload
  split
  · intro c r h; cases h; rfl
  · intro c r h; cases h; rfl
  · exact fun c r e => by simp [(delimStart_ends hd e).1]

theorem wtVariants_skip {F : Type} {var : Variant} {v : Val F} (h : v.name? ≠ some var.name)
    (more : List Variant) : wtVariants (var :: more) v = wtVariants more v := by
  cases var <;> exact if_neg h

theorem wtVariants_name {F : Type} (vars : List Variant) (v : Val F) (h : wtVariants vars v = true) :
    ∃ n, v.name? = some n := by
  induction vars with
  | nil => cases h
  | cons var more ih =>
    by_cases e : v.name? = some var.name
    · exact ⟨_, e⟩
    · exact ih (wtVariants_skip e more ▸ h)

/-! ### The parser inverts `render` -/

theorem parseVecTail_render {F : Type} (fm : Fmt F) (p : Text → Option (Val F × Text))
    (vs : List (Val F))
    (hp : ∀ v ∈ vs, ∀ rest, delimStart rest = true → p (render fm v ++ rest) = some (v, rest))
    (rest : Text) (fuel : Nat) (hfuel : (renderTail fm vs).length < fuel) :
    parseVecTail p fuel (renderTail fm vs ++ ']' :: rest) = some (vs, rest) := by
  induction vs generalizing fuel with
  | nil =>
    cases fuel with
    | zero => omega
    | succ fuel => simp [renderTail, parseVecTail, dropPrefix]
  | cons v vs ih =>
    cases fuel with
    | zero => omega
    | succ fuel =>
      have h2 := ih (fun w hw => hp w (by simp [hw])) fuel (by simp [renderTail] at hfuel; omega)
      simp [renderTail, parseVecTail, dropPrefix, hp v (by simp), h2, delimStart_renderTail, delimStart_closers]

section
variable {F : Type} (fm : Fmt F) (hf : FloatOK fm.float) (g : Text → Option F)
  (hg : ∀ f, g (fm.float f) = some f)
include hf hg

/- how `simp` sees that what follows an element starts with a delimiter, so that it can take the
   continuation of a recursive call from the goal -/
attribute [local simp] delimStart_closers delimStart_renderTail delimStart_renderFieldsTail

-- the linter looks at each theorem of the block by itself and misses that `hf`, `hg` reach it through the calls
set_option linter.unusedSectionVars false in
mutual
theorem parse_render : (t : Ty) → (v : Val F) → wt t v = true → (rest : Text) →
    delimStart rest = true → parse g t (render fm v ++ rest) = some (v, rest)
  | .uint, v, h, rest, hd | .sint, v, h, rest, hd | .bool, v, h, rest, hd | .char, v, h, rest, hd
  | .str, v, h, rest, hd | .float, v, h, rest, hd | .unit, v, h, rest, hd => by
    unfold wt at h; split at h
    · simp [render, parse, dropPrefix, parseNat_render, parseInt_render, parseBool_render, parseCharLit_render,
        parseStrLit_render, parseFloat_render fm.float hf g hg, hd]
    · cases h
  | .option t, v, h, rest, hd => by
    unfold wt at h; split at h
    · rfl
    · simp [render, parse, dropPrefix, parse_render t _ h]
    · cases h
  | .vec t, v, h, rest, hd => by
    unfold wt at h; split at h
    · rename_i vs
      rw [List.all_eq_true] at h
      cases vs with
      | nil => rfl
      | cons w ws =>
        have ht := parseVecTail_render fm (parse g t) ws
          (fun x hx r hr => parse_render t x (h x (by simp [hx])) r hr) rest
        simp [render, parse, dropPrefix, render_not_close fm hf w, parse_render t w (h w (by simp)), ht]
    · cases h
  | .tuple ts, v, h, rest, hd => by
    unfold wt at h; split at h
    · rename_i vs
      match ts, vs, h with
      | [], [], _ => rfl
      | [t], [w], h =>
        simp [wtList] at h
        simp [render, parse, dropPrefix, parse_render t w h]
      | [t], _ :: _ :: _, h => simp [wtList] at h
      | _ :: _ :: _, [_], h => simp [wtList] at h
      | t :: t2 :: ts, w :: w2 :: ws, h =>
        have h := Bool.and_eq_true_iff.mp h
        simp [render, parse, dropPrefix, parse_render t w h.1, parseTail_render (t2 :: ts) (w2 :: ws) h.2]
    · cases h
  | .adt vars, v, h, rest, hd => by
    have h : wtVariants vars v = true := h
    obtain ⟨n, hn⟩ : ∃ n, v.name? = some n := wtVariants_name vars v h
    have hs := spanP_append (fun c => !isStructural c) n.chars (renderPayload fm v ++ rest)
      n.all_nonstructural (renderPayload_head fm v rest hd)
    have iv := parseVariants_render vars v h n hn rest hd
    rw [render_adt fm v n hn]
    simp only [parse, List.append_assoc, hs, iv]
theorem parseTail_render : (ts : List Ty) → (vs : List (Val F)) → wtList ts vs = true →
    (rest : Text) → delimStart rest = true →
    parseTail g ts (renderTail fm vs ++ rest) = some (vs, rest)
  | [], [], _, rest, hd => rfl
  | t :: ts, w :: ws, h, rest, hd => by
    have h := Bool.and_eq_true_iff.mp h
    simp [renderTail, parseTail, dropPrefix, parse_render t w h.1, parseTail_render ts ws h.2, hd]
theorem parseVariants_render : (vars : List Variant) → (v : Val F) → wtVariants vars v = true →
    (n : Ident) → v.name? = some n → (rest : Text) → delimStart rest = true →
    parseVariants g vars n.chars (renderPayload fm v ++ rest) = some (v, rest)
  | [], v, h, n, hn, rest, hd => by simp [wtVariants] at h
  | var :: more, v, h, n, hn, rest, hd => by
    by_cases e : n = var.name
    · cases var with
      | unit m =>
        obtain rfl : n = m := e
        simp only [wtVariants, hn, if_true] at h
        split at h
        · cases hn
          simp [parseVariants, renderPayload]
        · cases h
      | tuple m ts =>
        obtain rfl : n = m := e
        simp only [wtVariants, hn, if_true] at h
        split at h
        · rename_i n' vs
          cases hn
          match ts, vs, h with
          | [], [], _ => simp [parseVariants, renderPayload]
          | t :: ts, w :: ws, h =>
            have h := Bool.and_eq_true_iff.mp h
            simp [parseVariants, renderPayload, dropPrefix, parse_render t w h.1, parseTail_render ts ws h.2]
        · cases h
      | named m fs =>
        obtain rfl : n = m := e
        simp only [wtVariants, hn, if_true] at h
        split at h
        · rename_i n' fvs
          cases hn
          match fs, fvs, h with
          | [], [], _ => simp [parseVariants, renderPayload]
          | (f, t) :: fs, (f', w) :: fws, h =>
            simp only [wtFields, Bool.and_eq_true, decide_eq_true_eq] at h
            obtain ⟨⟨rfl, hw⟩, hfs⟩ := h
            simp [parseVariants, renderPayload, dropPrefix, dropPrefix_append_left, parse_render t w hw,
              parseFieldsTail_render fs fws hfs]
        · cases h
    · rw [wtVariants_skip (hn ▸ fun hc => e (Option.some.inj hc))] at h
      rw [parseVariants_skip g (fun hc => e (Ident.ext hc))]
      exact parseVariants_render more v h n hn rest hd
theorem parseFieldsTail_render : (fs : List (Ident × Ty)) → (fvs : List (Ident × Val F)) →
    wtFields fs fvs = true → (rest : Text) → delimStart rest = true →
    parseFieldsTail g fs (renderFieldsTail fm fvs ++ rest) = some (fvs, rest)
  | [], [], _, rest, hd => rfl
  | (f, t) :: fs, (f', w) :: fws, h, rest, hd => by
    simp only [wtFields, Bool.and_eq_true, decide_eq_true_eq] at h
    obtain ⟨⟨rfl, hw⟩, hfs⟩ := h
    simp [renderFieldsTail, parseFieldsTail, dropPrefix, dropPrefix_append_left, parse_render t w hw,
      parseFieldsTail_render fs fws hfs, hd]
end

end

/-! ### A rendered value, and a joined key, determine what was rendered -/

/-- an injective printer has a reader (classically) -/
theorem FloatOK.exists_reader {F : Type} {rf : F → Text} (hf : FloatOK rf) :
    ∃ g : Text → Option F, ∀ f, g (rf f) = some f := by
  classical
  refine ⟨fun s => if h : ∃ f, rf f = s then some (Classical.choose h) else none, ?_⟩
  intro f
  have h : ∃ f', rf f' = rf f := ⟨f, rfl⟩
  simp only [dif_pos h]
  exact congrArg some (hf.inj _ _ (Classical.choose_spec h))

theorem delimStart_joinTail (ps : List Text) : delimStart (joinTail ['|'] ps) = true := by
  cases ps <;> rfl

section
variable {F : Type} (fm : Fmt F) (hf : FloatOK fm.float)
include hf

/-- a rendered value followed by delimiter-started text determines both the value and the text: nothing
    inside a value can move its end -/
theorem render_append_injective (t : Ty) (v w : Val F) (hv : wt t v = true) (hw : wt t w = true)
    (x y : Text) (hx : delimStart x = true) (hy : delimStart y = true)
    (h : render fm v ++ x = render fm w ++ y) : v = w ∧ x = y := by
  obtain ⟨g, hg⟩ := hf.exists_reader
  have h1 := parse_render fm hf g hg t v hv x hx
  rw [h, parse_render fm hf g hg t w hw y hy] at h1
  cases h1
  exact ⟨rfl, rfl⟩

theorem joinTail_render_injective : (ts : List Ty) → (a b : List (Val F)) → wtList ts a = true →
    wtList ts b = true → joinTail ['|'] (a.map (render fm)) = joinTail ['|'] (b.map (render fm)) → a = b
  -- lists of different length than `ts` are excluded by `wtList … = true`, which is `false = true` for them
  | [], [], [], _, _, _ => rfl
  | t :: ts, v :: a, w :: b, ha, hb, h => by
    simp only [wtList, Bool.and_eq_true] at ha hb
    obtain ⟨rfl, ht⟩ := render_append_injective fm hf t v w ha.1 hb.1 _ _
      (delimStart_joinTail _) (delimStart_joinTail _) (List.cons.inj h).2
    rw [joinTail_render_injective ts a b ha.2 hb.2 ht]

theorem joinWith_render_injective : (ts : List Ty) → (a b : List (Val F)) → wtList ts a = true →
    wtList ts b = true → joinWith ['|'] (a.map (render fm)) = joinWith ['|'] (b.map (render fm)) → a = b
  | [], [], [], _, _, _ => rfl
  | t :: ts, v :: a, w :: b, ha, hb, h =>
    -- with a separator in front, a non-empty `joinWith` is a `joinTail`
    joinTail_render_injective fm hf (t :: ts) (v :: a) (w :: b) ha hb (congrArg ('|' :: ·) h)

end

theorem Sig.wt_keyVals {F : Type} (sig : Sig) (r : Option (Val F)) (a : List (Val F))
    (h : sig.wt r a = true) : wtList sig.tys (keyVals r a) = true := by
  obtain ⟨recv, args⟩ := sig
  cases recv <;> cases r <;> simp_all [Sig.wt, Sig.tys, keyVals, wtList]

theorem Sig.keyVals_injective {F : Type} (sig : Sig) (ra rb : Option (Val F)) (a b : List (Val F))
    (ha : sig.wt ra a = true) (hb : sig.wt rb b = true) (h : keyVals ra a = keyVals rb b) :
    ra = rb ∧ a = b := by
  obtain ⟨recv, args⟩ := sig
  cases recv <;> cases ra <;> cases rb <;> simp_all [Sig.wt, keyVals]

/-! ### Without injectivity of the float printer: values up to the text of their floats -/

mutual
/-- replace every float leaf by its image under `h` -/
def Val.mapF {F G : Type} (h : F → G) : Val F → Val G
  | .nat n => .nat n
  | .int i => .int i
  | .bool b => .bool b
  | .char c => .char c
  | .str s => .str s
  | .float f => .float (h f)
  | .unit => .unit
  | .none => .none
  | .some v => .some (Val.mapF h v)
  | .vec vs => .vec (mapFList h vs)
  | .tuple vs => .tuple (mapFList h vs)
  | .unitV n => .unitV n
  | .tupleV n vs => .tupleV n (mapFList h vs)
  | .namedV n fs => .namedV n (mapFFields h fs)
def mapFList {F G : Type} (h : F → G) : List (Val F) → List (Val G)
  | [] => []
  | v :: vs => Val.mapF h v :: mapFList h vs
def mapFFields {F G : Type} (h : F → G) : List (Ident × Val F) → List (Ident × Val G)
  | [] => []
  | (f, v) :: fs => (f, Val.mapF h v) :: mapFFields h fs
end

theorem mapFList_eq_map {F G : Type} (h : F → G) (vs : List (Val F)) :
    mapFList h vs = vs.map (Val.mapF h) := by
  induction vs with
  | nil => simp [mapFList]
  | cons v vs ih => simp [mapFList, ih]

section
variable {F G : Type} (h : F → G) (fm : Fmt F) (gm : Fmt G) (hesc : gm.esc = fm.esc)
  (hfl : ∀ f, gm.float (h f) = fm.float f)
include hesc hfl

-- as for `parse_render`: `hesc`, `hfl` reach the list lemmas through `render_mapF`
set_option linter.unusedSectionVars false in
mutual
theorem render_mapF : (v : Val F) → render gm (Val.mapF h v) = render fm v
  | .nat _ | .int _ | .bool _ | .unit | .none | .vec [] | .tuple [] | .unitV _ | .tupleV _ [] | .namedV _ [] => rfl
  | .char _ | .str _ | .float _ => by simp [Val.mapF, render, hesc, hfl]
  | .some v => by simp [Val.mapF, render, render_mapF v]
  | .vec (v :: vs) | .tupleV _ (v :: vs) => by
    simp [Val.mapF, mapFList, render, render_mapF v, renderTail_mapF vs]
  | .tuple [v] => by simp [Val.mapF, mapFList, render, render_mapF v]
  | .tuple (v :: w :: vs) => by
    simp [Val.mapF, mapFList, render, renderTail, render_mapF v, render_mapF w, renderTail_mapF vs]
  | .namedV n ((f, v) :: fs) => by
    simp [Val.mapF, mapFFields, render, render_mapF v, renderFieldsTail_mapF fs]
theorem renderTail_mapF : (vs : List (Val F)) → renderTail gm (mapFList h vs) = renderTail fm vs
  | [] => rfl
  | v :: vs => by simp [mapFList, renderTail, render_mapF v, renderTail_mapF vs]
theorem renderFieldsTail_mapF : (fs : List (Ident × Val F)) →
    renderFieldsTail gm (mapFFields h fs) = renderFieldsTail fm fs
  | [] => rfl
  | (f, v) :: fs => by simp [mapFFields, renderFieldsTail, render_mapF v, renderFieldsTail_mapF fs]
end

end

theorem name?_mapF {F G : Type} (h : F → G) (v : Val F) : (Val.mapF h v).name? = v.name? := by
  cases v <;> simp [Val.mapF, Val.name?]

mutual
theorem wt_mapF {F G : Type} (h : F → G) : (t : Ty) → (v : Val F) → wt t (Val.mapF h v) = wt t v
  | .uint, v | .sint, v | .bool, v | .char, v | .str, v | .float, v | .unit, v => by
    -- `wt` unfolded first: `rfl` then only has to compute `Val.mapF`
    unfold wt; cases v <;> rfl
  | .option t, v => by
    unfold wt
    cases v
    case some w => exact wt_mapF h t w
    all_goals rfl
  | .vec t, v => by
    unfold wt
    cases v
    case vec vs =>
      show (mapFList h vs).all (wt t) = vs.all (wt t)
      rw [mapFList_eq_map, List.all_map]
      exact congrArg vs.all (funext (wt_mapF h t))
    all_goals rfl
  | .tuple ts, v => by
    unfold wt
    cases v
    case tuple vs => exact wtList_mapF h ts vs
    all_goals rfl
  | .adt vars, v => wtVariants_mapF h vars v
theorem wtList_mapF {F G : Type} (h : F → G) : (ts : List Ty) → (vs : List (Val F)) →
    wtList ts (mapFList h vs) = wtList ts vs
  | [], [] | [], _ :: _ | _ :: _, [] => rfl
  | t :: ts, v :: vs => by simp only [mapFList, wtList, wt_mapF h t v, wtList_mapF h ts vs]
theorem wtVariants_mapF {F G : Type} (h : F → G) : (vars : List Variant) → (v : Val F) →
    wtVariants vars (Val.mapF h v) = wtVariants vars v
  | [], v => rfl
  | .unit n :: more, v => by
    simp only [wtVariants, name?_mapF, wtVariants_mapF h more v]
    congr 1
    cases v <;> rfl
  | .tuple n ts :: more, v => by
    simp only [wtVariants, name?_mapF, wtVariants_mapF h more v]
    congr 1
    cases v
    case tupleV _ vs => exact wtList_mapF h ts vs
    all_goals rfl
  | .named n fs :: more, v => by
    simp only [wtVariants, name?_mapF, wtVariants_mapF h more v]
    congr 1
    cases v
    case namedV _ fvs => exact wtFields_mapF h fs fvs
    all_goals rfl
theorem wtFields_mapF {F G : Type} (h : F → G) : (fs : List (Ident × Ty)) →
    (fvs : List (Ident × Val F)) → wtFields fs (mapFFields h fvs) = wtFields fs fvs
  | [], [] | [], (_, _) :: _ | (_, _) :: _, [] => rfl
  | (f, t) :: fs, (f', v) :: fvs => by simp only [mapFFields, wtFields, wt_mapF h t v, wtFields_mapF h fs fvs]
end

/-- the text of a float: a non-empty string over the float alphabet -/
def FloatText : Type := { t : Text // t ≠ [] ∧ ∀ c ∈ t, isFloatChar c = true }

theorem floatOK_text : FloatOK (fun x : FloatText => x.val) where
  inj _ _ h := Subtype.ext h
  nonempty x := x.property.1
  alphabet x := x.property.2

mutual
theorem mapF_comp {F G H : Type} (h : F → G) (k : G → H) :
    (v : Val F) → Val.mapF k (Val.mapF h v) = Val.mapF (fun x => k (h x)) v
  | .nat _ | .int _ | .bool _ | .char _ | .str _ | .float _ | .unit | .none | .unitV _ => rfl
  | .some v => by simp [Val.mapF, mapF_comp h k v]
  | .vec vs | .tuple vs | .tupleV _ vs => by simp [Val.mapF, mapFList_comp h k vs]
  | .namedV n fs => by simp [Val.mapF, mapFFields_comp h k fs]
theorem mapFList_comp {F G H : Type} (h : F → G) (k : G → H) :
    (vs : List (Val F)) → mapFList k (mapFList h vs) = mapFList (fun x => k (h x)) vs
  | [] => rfl
  | v :: vs => by simp [mapFList, mapF_comp h k v, mapFList_comp h k vs]
theorem mapFFields_comp {F G H : Type} (h : F → G) (k : G → H) :
    (fs : List (Ident × Val F)) → mapFFields k (mapFFields h fs) = mapFFields (fun x => k (h x)) fs
  | [] => rfl
  | (f, v) :: fs => by simp [mapFFields, mapF_comp h k v, mapFFields_comp h k fs]
end

theorem keyOf_mapF {F G : Type} (h : F → G) (fm : Fmt F) (gm : Fmt G) (hesc : gm.esc = fm.esc)
    (hfl : ∀ f, gm.float (h f) = fm.float f) (r : Option (Val F)) (a : List (Val F)) :
    keyOf gm (r.map (Val.mapF h)) (a.map (Val.mapF h)) = keyOf fm r a := by
  have hv : keyVals (r.map (Val.mapF h)) (a.map (Val.mapF h)) = (keyVals r a).map (Val.mapF h) := by
    cases r <;> simp [keyVals]
  rw [keyOf, hv, List.map_map]
  exact congrArg (joinWith ['|']) (List.map_congr_left fun v _ => render_mapF h fm gm hesc hfl v)

theorem Sig.wt_mapF {F G : Type} (h : F → G) (sig : Sig) (r : Option (Val F)) (a : List (Val F)) :
    sig.wt (r.map (Val.mapF h)) (a.map (Val.mapF h)) = sig.wt r a := by
  obtain ⟨recv, args⟩ := sig
  have := wtList_mapF h args a
  rw [mapFList_eq_map] at this
  cases recv <;> cases r <;> simp [Sig.wt, this, Keys.wt_mapF]

end Cachelito.Keys
