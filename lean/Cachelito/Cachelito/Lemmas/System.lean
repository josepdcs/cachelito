/-
  Lemmas about the system model (`Cachelito/System.lean`): lookup of cache instances, effect of every
  `sysStep` on every cache instance (frame lemmas), the registration set `called`, the targets of the
  registry operations, the per-cache invariant lifted to the system, an empty store staying empty until its
  function is called, and the group invalidations in terms of `Matches` / `Target` (C12).

  Everything lives in `namespace Cachelito.SysLemmas`.  Use `open Cachelito.SysLemmas`.  The engine facts behind C13,
  which do not mention `Sys`, are in the engine's lemma files: the exact store and memory after a conditional
  invalidation (`Lemmas/Mem.lean`), the next FIFO/LRU overflow after one (`insert_full_head`, `Lemmas/Order.lean`),
  and, in this namespace, stores that cannot overflow commuting with a later deletion (`dropKeys_run_commute`,
  `Lemmas/Hist.lean`).
-/
import Cachelito.System
import Cachelito.Lemmas.Inv
import Cachelito.Lemmas.Order
import Cachelito.Lemmas.Wrapper

set_option linter.unusedSectionVars false

namespace Cachelito.SysLemmas
open Cachelito
variable {K V S : Type} [DecidableEq K]

/-! ### cache lookup -/

/-- the state of a cache instance nobody has touched yet, at clock `n` -/
def State.fresh (n : Nat) : State K V := { (State.init : State K V) with now := n }

theorem getCache_of_find_none {sys : Sys K V} {id : CacheId}
    (h : sys.caches.find? (fun p => p.1 = id) = none) : sys.getCache id = State.fresh sys.now := by
  unfold Sys.getCache; rw [h]; rfl

theorem getCache_of_find_some {sys : Sys K V} {id : CacheId} {p : CacheId × State K V}
    (h : sys.caches.find? (fun p => p.1 = id) = some p) : sys.getCache id = p.2 := by
  unfold Sys.getCache; rw [h]

theorem getCache_congr {a b : Sys K V} (hc : a.caches = b.caches) (hn : a.now = b.now) (id : CacheId) :
    a.getCache id = b.getCache id := by
  unfold Sys.getCache; rw [hc, hn]

theorem getCache_setCache_same (sys : Sys K V) (id : CacheId) (s : State K V) :
    (sys.setCache id s).getCache id = s := by
  simp [Sys.getCache, Sys.setCache]

theorem find_filter_ne (l : List (CacheId × State K V)) {id id' : CacheId} (h : id' ≠ id) :
    (l.filter (fun p => p.1 ≠ id)).find? (fun p => p.1 = id') = l.find? (fun p => p.1 = id') := by
  rw [List.find?_filter]
  congr 1; funext p
  by_cases hp : p.1 = id' <;> simp [hp, h]

theorem getCache_setCache_ne (sys : Sys K V) {id id' : CacheId} (s : State K V) (h : id' ≠ id) :
    (sys.setCache id s).getCache id' = sys.getCache id' := by
  have h2 : ¬ id = id' := fun hh => h hh.symm
  simp only [Sys.getCache, Sys.setCache, List.find?_cons, h2, decide_false, find_filter_ne _ h]

theorem getCache_setCache (sys : Sys K V) (id id' : CacheId) (s : State K V) :
    (sys.setCache id s).getCache id' = if id' = id then s else sys.getCache id' := by
  split
  · rename_i h; rw [h]; exact getCache_setCache_same sys id s
  · rename_i h; exact getCache_setCache_ne sys s h

theorem getCache_mapFn (sys : Sys K V) (i : Nat) (f : State K V → State K V)
    (hf : ∀ n, f (State.fresh n) = State.fresh n) (id : CacheId) :
    (sys.mapFn i f).getCache id =
      if id.fn = i ∧ id.thread = none then f (sys.getCache id) else sys.getCache id := by
  unfold Sys.getCache Sys.mapFn
  simp only [List.find?_map]
  have hcomp : ((fun p : CacheId × State K V => decide (p.1 = id)) ∘
      (fun p : CacheId × State K V => if p.1.fn = i ∧ p.1.thread = none then (p.1, f p.2) else p))
      = (fun p => decide (p.1 = id)) := by
    funext p; simp only [Function.comp]; split <;> rfl
  rw [hcomp]
  cases hfd : sys.caches.find? (fun p => p.1 = id) with
  | none =>
    simp only [Option.map_none]
    split
    · exact (hf sys.now).symm
    · rfl
  | some p =>
    have hp : p.1 = id := by simpa using List.find?_some hfd
    simp only [Option.map_some]
    subst hp
    split <;> rfl

@[simp] theorem mapFn_now (sys : Sys K V) (i : Nat) (f : State K V → State K V) : (sys.mapFn i f).now = sys.now := rfl
@[simp] theorem mapFn_called (sys : Sys K V) (i : Nat) (f : State K V → State K V) :
    (sys.mapFn i f).called = sys.called := rfl

theorem mapFn_id (sys : Sys K V) (i : Nat) : sys.mapFn i (fun s => s) = sys := by
  unfold Sys.mapFn
  have : (fun p : CacheId × State K V => if p.1.fn = i ∧ p.1.thread = none then (p.1, p.2) else p) = id := by
    funext p; simp
  rw [this, List.map_id]

theorem foldl_mapFn_called_now (g : Nat → State K V → State K V) (ts : List Nat) (sys : Sys K V) :
    (ts.foldl (fun sy j => sy.mapFn j (g j)) sys).called = sys.called ∧
    (ts.foldl (fun sy j => sy.mapFn j (g j)) sys).now = sys.now := by
  induction ts generalizing sys with
  | nil => exact ⟨rfl, rfl⟩
  | cons j ts ih => simp only [List.foldl_cons]; exact ih _

/-- applying per-function updates `g j` to the global/async instances of the functions in `ts`
    (each listed once): an instance is updated iff it is the shared instance of a listed function.
    An instance nobody has touched is not in `caches` and is read as `fresh`, so `mapFn` passes it by: the
    equation holds for it only because `g j` fixes `fresh` (`hg`). -/
theorem getCache_foldl_mapFn (g : Nat → State K V → State K V) (hg : ∀ j n, g j (State.fresh n) = State.fresh n)
    (ts : List Nat) (hnd : ts.Nodup) (sys : Sys K V) (id : CacheId) :
    (ts.foldl (fun sy j => sy.mapFn j (g j)) sys).getCache id =
      if id.thread = none ∧ id.fn ∈ ts then g id.fn (sys.getCache id) else sys.getCache id := by
  induction ts generalizing sys with
  | nil => simp
  | cons j ts ih =>
    simp only [List.foldl_cons]
    have hn := List.nodup_cons.mp hnd
    rw [ih hn.2, getCache_mapFn _ _ _ (hg j)]
    by_cases ht : id.thread = none
    · by_cases hj : id.fn = j
      · have hnot : id.fn ∉ ts := hj ▸ hn.1
        simp [ht, hj, hn.1]
      · by_cases hm : id.fn ∈ ts <;> simp [ht, hj, hm]
    · simp [ht]

/-! ### registration predicates and the targets of the registry operations -/

section
variable (fns : List FnSpec) (tls : Nat → Tlru S) (size : V → Nat) (isOk : V → Bool) (rs : List Nat) (sys : Sys K V)

/-- the function declares at least one tag, event or dependency -/
def HasMeta (spec : FnSpec) : Prop := spec.tags ≠ [] ∨ spec.events ≠ [] ∨ spec.deps ≠ []

/-- function `i` exists, is global or async, and its first call has happened -/
def Registered (fns : List FnSpec) (sys : Sys K V) (i : Nat) : Prop :=
  ∃ spec, fns[i]? = some spec ∧ spec.threadScope = false ∧ i ∈ sys.called

/-- function `i` is registered, declares metadata, and is selected by `sel` -/
def IsTarget (fns : List FnSpec) (sys : Sys K V) (sel : FnSpec → Bool) (i : Nat) : Prop :=
  ∃ spec, fns[i]? = some spec ∧ spec.threadScope = false ∧ i ∈ sys.called ∧ HasMeta spec ∧ sel spec = true

/-- function `i` is registered and selected by `sel` (conditional invalidation, statistics) -/
def IsRegTarget (fns : List FnSpec) (sys : Sys K V) (sel : FnSpec → Bool) (i : Nat) : Prop :=
  ∃ spec, fns[i]? = some spec ∧ spec.threadScope = false ∧ i ∈ sys.called ∧ sel spec = true

theorem isRegistered_iff (i : Nat) :
    isRegistered fns sys i = true ↔ Registered fns sys i := by
  unfold isRegistered Registered
  cases h : fns[i]? with
  | none => simp
  | some spec => simp [and_comm]

theorem hasClearCallback_iff (i : Nat) :
    hasClearCallback fns sys i = true ↔
      ∃ spec, fns[i]? = some spec ∧ spec.threadScope = false ∧ i ∈ sys.called ∧ HasMeta spec := by
  unfold hasClearCallback HasMeta
  cases h : fns[i]? with
  | none => simp
  | some spec =>
    simp only [Option.some.injEq, exists_eq_left', Bool.and_eq_true, List.contains_eq_mem, decide_eq_true_eq,
      Bool.not_eq_true', Bool.and_eq_false_iff, List.isEmpty_eq_false_iff, ne_eq]
    constructor
    · rintro ⟨⟨h1, h2⟩, h3⟩
      exact ⟨h2, h1, by rwa [or_assoc] at h3⟩
    · rintro ⟨h2, h1, h3⟩
      exact ⟨⟨h1, h2⟩, by rwa [or_assoc]⟩

/-- indices of registered functions selected by `sel` — the list `sysStep` folds over for
    `invalidateWith`, `invalidateAllWith`, `statsGet`, `statsReset` -/
def regTargets (fns : List FnSpec) (sys : Sys K V) (sel : FnSpec → Bool) : List Nat :=
  (List.range fns.length).filter (fun i =>
    isRegistered fns sys i && (match fns[i]? with | some spec => sel spec | none => false))

theorem lt_length_of_getElem? {fns : List FnSpec} {i : Nat} {spec : FnSpec} (h : fns[i]? = some spec) :
    i < fns.length := by
  apply Classical.byContradiction; intro hn
  rw [List.getElem?_eq_none (by omega)] at h; cases h

theorem mem_clearTargets (sel : FnSpec → Bool) (i : Nat) :
    i ∈ clearTargets fns sys sel ↔ IsTarget fns sys sel i := by
  unfold clearTargets IsTarget
  simp only [List.mem_filter, List.mem_range, Bool.and_eq_true, hasClearCallback_iff]
  constructor
  · rintro ⟨_, ⟨spec, h1, h2, h3, h4⟩, h5⟩
    rw [h1] at h5
    exact ⟨spec, h1, h2, h3, h4, h5⟩
  · rintro ⟨spec, h1, h2, h3, h4, h5⟩
    refine ⟨lt_length_of_getElem? h1, ⟨spec, h1, h2, h3, h4⟩, ?_⟩
    rw [h1]; exact h5

theorem mem_regTargets (sel : FnSpec → Bool) (i : Nat) :
    i ∈ regTargets fns sys sel ↔ IsRegTarget fns sys sel i := by
  unfold regTargets IsRegTarget
  simp only [List.mem_filter, List.mem_range, Bool.and_eq_true, isRegistered_iff, Registered]
  constructor
  · rintro ⟨_, ⟨spec, h1, h2, h3⟩, h5⟩
    rw [h1] at h5
    exact ⟨spec, h1, h2, h3, h5⟩
  · rintro ⟨spec, h1, h2, h3, h5⟩
    refine ⟨lt_length_of_getElem? h1, ⟨spec, h1, h2, h3⟩, ?_⟩
    rw [h1]; exact h5

theorem hasMeta_of_tag {spec : FnSpec} {t : String} (h : t ∈ spec.tags) : HasMeta spec :=
  Or.inl (List.ne_nil_of_mem h)

theorem hasMeta_of_event {spec : FnSpec} {e : String} (h : e ∈ spec.events) : HasMeta spec :=
  Or.inr (Or.inl (List.ne_nil_of_mem h))

theorem hasMeta_of_dep {spec : FnSpec} {d : String} (h : d ∈ spec.deps) : HasMeta spec :=
  Or.inr (Or.inr (List.ne_nil_of_mem h))

/-- the targets of a selector that already implies metadata (a tag, event or dependency the function
    declares): registered functions satisfying it -/
theorem mem_clearTargets_of_meta (sel : FnSpec → Bool) (P : FnSpec → Prop)
    (hP : ∀ spec, sel spec = true ↔ P spec) (hm : ∀ spec, P spec → HasMeta spec) (i : Nat) :
    i ∈ clearTargets fns sys sel ↔
      ∃ spec, fns[i]? = some spec ∧ spec.threadScope = false ∧ i ∈ sys.called ∧ P spec := by
  rw [mem_clearTargets]
  constructor
  · rintro ⟨spec, h1, h2, h3, _, h5⟩; exact ⟨spec, h1, h2, h3, (hP spec).mp h5⟩
  · rintro ⟨spec, h1, h2, h3, h5⟩; exact ⟨spec, h1, h2, h3, hm spec h5, (hP spec).mpr h5⟩

theorem clearTargets_nodup (sel : FnSpec → Bool) :
    (clearTargets fns sys sel).Nodup := List.Pairwise.filter _ List.nodup_range

theorem regTargets_nodup (sel : FnSpec → Bool) :
    (regTargets fns sys sel).Nodup := List.Pairwise.filter _ List.nodup_range

/-- the targets depend on the system only through the registration set -/
theorem clearTargets_congr (fns : List FnSpec) {a b : Sys K V} (h : a.called = b.called) (sel : FnSpec → Bool) :
    clearTargets fns a sel = clearTargets fns b sel := by
  unfold clearTargets hasClearCallback; rw [h]

theorem regTargets_congr (fns : List FnSpec) {a b : Sys K V} (h : a.called = b.called) (sel : FnSpec → Bool) :
    regTargets fns a sel = regTargets fns b sel := by
  unfold regTargets isRegistered; rw [h]

theorem index_unique_of_name {fns : List FnSpec} (hn : (fns.map (·.name)).Nodup) {i j : Nat} {a b : FnSpec}
    (hi : fns[i]? = some a) (hj : fns[j]? = some b) (hab : a.name = b.name) : i = j := by
  have hi' : (fns.map (·.name))[i]? = some a.name := by rw [List.getElem?_map, hi]; rfl
  have hj' : (fns.map (·.name))[j]? = some a.name := by rw [List.getElem?_map, hj, hab]; rfl
  exact (List.getElem?_inj (by
    have := lt_length_of_getElem? hi; simpa using this) hn).mp (hi'.trans hj'.symm)

/-! ### what each `sysStep` does -/

theorem cacheIdOf_thread {spec : FnSpec} (h : spec.threadScope = true) (fn th : Nat) :
    cacheIdOf spec fn th = ⟨fn, some th⟩ := by simp [cacheIdOf, h]

theorem cacheIdOf_shared {spec : FnSpec} (h : spec.threadScope = false) (fn th : Nat) :
    cacheIdOf spec fn th = ⟨fn, none⟩ := by simp [cacheIdOf, h]

theorem cacheIdOf_fn (spec : FnSpec) (fn th : Nat) : (cacheIdOf spec fn th).fn = fn := by
  unfold cacheIdOf; split <;> rfl

theorem clear_fresh (n : Nat) : clear (State.fresh n : State K V) = State.fresh n := rfl

theorem invalidateWith_fresh (p : K → Bool) (n : Nat) :
    invalidateWith p (State.fresh n : State K V) = State.fresh n := rfl

theorem getCache_clearAll (sys : Sys K V) (ts : List Nat) (hnd : ts.Nodup) (id : CacheId) :
    (clearAll sys ts).getCache id =
      if id.thread = none ∧ id.fn ∈ ts then clear (sys.getCache id) else sys.getCache id :=
  getCache_foldl_mapFn (fun _ => clear) (fun _ n => clear_fresh n) ts hnd sys id

theorem clearAll_called_now (ts : List Nat) :
    (clearAll sys ts).called = sys.called ∧ (clearAll sys ts).now = sys.now :=
  foldl_mapFn_called_now (fun _ => clear) ts sys

theorem clearAll_nil : clearAll sys [] = sys := rfl

/-- clearing the targets of `sel`: their shared instances are cleared, every other instance is untouched -/
theorem getCache_clearTargets (sel : FnSpec → Bool) (id : CacheId) :
    (id.thread = none ∧ IsTarget fns sys sel id.fn →
      (clearAll sys (clearTargets fns sys sel)).getCache id = clear (sys.getCache id)) ∧
    (¬ (id.thread = none ∧ IsTarget fns sys sel id.fn) →
      (clearAll sys (clearTargets fns sys sel)).getCache id = sys.getCache id) := by
  rw [getCache_clearAll sys _ (clearTargets_nodup fns sys sel), ← mem_clearTargets]
  exact ⟨fun h => if_pos h, fun h => if_neg h⟩

/-- the selector of the four group invalidations -/
def groupSel : SysOp K V → Option (FnSpec → Bool)
  | .invalidateByTag t => some (fun spec => spec.tags.contains t)
  | .invalidateByEvent e => some (fun spec => spec.events.contains e)
  | .invalidateByDependency d => some (fun spec => spec.deps.contains d)
  | .invalidateCache name => some (fun spec => spec.name = name)
  | _ => none

theorem sysStep_group {op : SysOp K V} {sel : FnSpec → Bool} (h : groupSel op = some sel) :
    (sysStep fns tls size isOk rs sys op).1 = clearAll sys (clearTargets fns sys sel) := by
  cases op <;> simp only [groupSel, Option.some.injEq, reduceCtorEq] at h <;> subst h <;> rfl

theorem sysStep_call_none (fn th : Nat) (c : CallIn K V) (h : fns[fn]? = none) :
    sysStep fns tls size isOk rs sys (.call fn th c) = (sys, .noSuchFn) := by
  simp only [sysStep, h]

/-- a call of an existing function: the wrapper runs on the state of the instance the call lands on, the new
    state is written back, and a shared function is registered -/
theorem sysStep_call_eq {fn : Nat} {spec : FnSpec} (th : Nat) (c : CallIn K V) (h : fns[fn]? = some spec) :
    sysStep fns tls size isOk rs sys (.call fn th c) =
      (if spec.threadScope || sys.called.contains fn
        then sys.setCache (cacheIdOf spec fn th)
          (callFn spec (tls fn) size isOk rs (sys.getCache (cacheIdOf spec fn th)) c).1
        else { sys.setCache (cacheIdOf spec fn th)
                (callFn spec (tls fn) size isOk rs (sys.getCache (cacheIdOf spec fn th)) c).1 with
               called := fn :: sys.called },
       .ret (callFn spec (tls fn) size isOk rs (sys.getCache (cacheIdOf spec fn th)) c).2.1
            (callFn spec (tls fn) size isOk rs (sys.getCache (cacheIdOf spec fn th)) c).2.2) := by
  simp only [sysStep, h]; rfl

theorem out_call {fn : Nat} {spec : FnSpec} (th : Nat) (c : CallIn K V) (h : fns[fn]? = some spec) :
    (sysStep fns tls size isOk rs sys (.call fn th c)).2 =
      .ret (callFn spec (tls fn) size isOk rs (sys.getCache (cacheIdOf spec fn th)) c).2.1
           (callFn spec (tls fn) size isOk rs (sys.getCache (cacheIdOf spec fn th)) c).2.2 := by
  rw [sysStep_call_eq fns tls size isOk rs sys th c h]

theorem getCache_call {fn : Nat} {spec : FnSpec} (th : Nat) (c : CallIn K V) (h : fns[fn]? = some spec)
    (id' : CacheId) :
    (sysStep fns tls size isOk rs sys (.call fn th c)).1.getCache id' =
      if id' = cacheIdOf spec fn th then
        (callFn spec (tls fn) size isOk rs (sys.getCache (cacheIdOf spec fn th)) c).1
      else sys.getCache id' := by
  rw [sysStep_call_eq fns tls size isOk rs sys th c h, ← getCache_setCache]
  simp only
  split
  · rfl
  · exact getCache_congr rfl rfl _

theorem called_call {fn : Nat} {spec : FnSpec} (th : Nat) (c : CallIn K V) (h : fns[fn]? = some spec) :
    (sysStep fns tls size isOk rs sys (.call fn th c)).1.called =
      if spec.threadScope || sys.called.contains fn then sys.called else fn :: sys.called := by
  rw [sysStep_call_eq fns tls size isOk rs sys th c h]
  simp only
  split <;> rfl

theorem mem_called_call {fn : Nat} {spec : FnSpec} (th : Nat) (c : CallIn K V) (h : fns[fn]? = some spec)
    (i : Nat) :
    i ∈ (sysStep fns tls size isOk rs sys (.call fn th c)).1.called ↔
      i ∈ sys.called ∨ (i = fn ∧ spec.threadScope = false) := by
  rw [called_call fns tls size isOk rs sys th c h]
  cases hts : spec.threadScope
  · by_cases hm : fn ∈ sys.called
    · rw [if_pos (by simpa using hm)]
      exact ⟨Or.inl, fun hh => hh.elim id fun hh => hh.1 ▸ hm⟩
    · rw [if_neg (by simpa using hm)]
      exact ⟨fun hh => (List.mem_cons.mp hh).elim (fun hh => Or.inr ⟨hh, rfl⟩) Or.inl,
        fun hh => hh.elim (List.mem_cons_of_mem _) fun hh => hh.1 ▸ List.mem_cons_self⟩
  · rw [if_pos (Bool.true_or _)]
    exact ⟨Or.inl, fun hh => hh.elim id fun hh => Bool.noConfusion hh.2⟩

/-- a tick advances the clock of every instance (touched or not) and changes nothing else -/
theorem getCache_tick (ms : Nat) (id : CacheId) :
    (sysStep fns tls size isOk rs sys (.tick ms)).1.getCache id =
      { sys.getCache id with now := (sys.getCache id).now + ms } := by
  simp only [sysStep, Sys.getCache, List.find?_map]
  have hcomp : ((fun p : CacheId × State K V => decide (p.1 = id)) ∘
      (fun p : CacheId × State K V => (p.1, { p.2 with now := p.2.now + ms }))) = (fun p => decide (p.1 = id)) := by
    funext p; rfl
  rw [hcomp]
  cases sys.caches.find? (fun p => p.1 = id) <;> rfl

/-- the list `sysStep` folds over for `invalidateAllWith` -/
def regAll (fns : List FnSpec) (sys : Sys K V) : List Nat :=
  (List.range fns.length).filter (fun i => isRegistered fns sys i)

theorem mem_regAll (i : Nat) : i ∈ regAll fns sys ↔ Registered fns sys i := by
  unfold regAll
  simp only [List.mem_filter, List.mem_range, isRegistered_iff]
  constructor
  · exact fun h => h.2
  · rintro ⟨spec, h1, h2, h3⟩
    exact ⟨lt_length_of_getElem? h1, spec, h1, h2, h3⟩

theorem regAll_nodup : (regAll fns sys).Nodup :=
  List.Pairwise.filter _ List.nodup_range

/-- the per-function update of `invalidate_all_with` -/
def allWith (fns : List FnSpec) (p : String → K → Bool) (i : Nat) : State K V → State K V :=
  match fns[i]? with
  | some spec => invalidateWith (p spec.name)
  | none => fun s => s

theorem allWith_fresh (p : String → K → Bool) (i n : Nat) :
    allWith fns p i (State.fresh n : State K V) = State.fresh n := by
  unfold allWith; cases fns[i]? <;> rfl

/-- updating the shared instances of the registered functions selected by `sel`, all by the same `g` -/
theorem getCache_regTargets (g : State K V → State K V) (hg : ∀ n, g (State.fresh n) = State.fresh n)
    (sel : FnSpec → Bool) (id : CacheId) :
    (id.thread = none ∧ IsRegTarget fns sys sel id.fn →
      ((regTargets fns sys sel).foldl (fun sy j => sy.mapFn j g) sys).getCache id = g (sys.getCache id)) ∧
    (¬ (id.thread = none ∧ IsRegTarget fns sys sel id.fn) →
      ((regTargets fns sys sel).foldl (fun sy j => sy.mapFn j g) sys).getCache id = sys.getCache id) := by
  rw [getCache_foldl_mapFn (fun _ => g) (fun _ => hg) _ (regTargets_nodup fns sys sel), ← mem_regTargets]
  exact ⟨fun h => if_pos h, fun h => if_neg h⟩

/-- updating the shared instance of every registered function by its own `allWith` -/
theorem getCache_regAll (p : String → K → Bool) (id : CacheId) :
    (id.thread = none ∧ Registered fns sys id.fn →
      ((regAll fns sys).foldl (fun sy j => sy.mapFn j (allWith fns p j)) sys).getCache id =
        allWith fns p id.fn (sys.getCache id)) ∧
    (¬ (id.thread = none ∧ Registered fns sys id.fn) →
      ((regAll fns sys).foldl (fun sy j => sy.mapFn j (allWith fns p j)) sys).getCache id = sys.getCache id) := by
  rw [getCache_foldl_mapFn (allWith fns p) (allWith_fresh fns p) _ (regAll_nodup fns sys), ← mem_regAll]
  exact ⟨fun h => if_pos h, fun h => if_neg h⟩

theorem sysStep_invalidateWith (name : String) (p : K → Bool) :
    sysStep fns tls size isOk rs sys (.invalidateWith name p) =
      ((regTargets fns sys (fun spec => spec.name = name)).foldl (fun sy i => sy.mapFn i (invalidateWith p)) sys,
       .flag (!(regTargets fns sys (fun spec => spec.name = name)).isEmpty)) := rfl

theorem sysStep_invalidateAllWith (p : String → K → Bool) :
    sysStep fns tls size isOk rs sys (.invalidateAllWith p) =
      ((regAll fns sys).foldl (fun sy i => sy.mapFn i (allWith fns p i)) sys, .count (regAll fns sys).length) := by
  simp only [sysStep]; unfold regAll
  congr 2
  funext sy i
  unfold allWith
  cases h : fns[i]? with
  | none => exact (mapFn_id sy i).symm
  | some spec => rfl

theorem sysStep_statsGet_eq (name : String) :
    sysStep fns tls size isOk rs sys (.statsGet name) =
      (sys, .stats (match regTargets fns sys (fun spec => spec.name = name) with
        | i :: _ => some ((sys.getCache ⟨i, none⟩).hitStat, (sys.getCache ⟨i, none⟩).missStat)
        | [] => none)) := by
  simp only [sysStep]
  show (match regTargets fns sys (fun spec => spec.name = name) with | i :: _ => _ | [] => _) = _
  cases regTargets fns sys (fun spec => spec.name = name) <;> rfl

theorem sysStep_statsGet (name : String) :
    (sysStep fns tls size isOk rs sys (.statsGet name)).1 = sys := by
  rw [sysStep_statsGet_eq]

theorem statsReset_fresh (n : Nat) :
    (fun s : State K V => { s with hitStat := 0, missStat := 0 }) (State.fresh n) = State.fresh n := rfl

theorem sysStep_statsReset (name : String) :
    sysStep fns tls size isOk rs sys (.statsReset name) =
      ((regTargets fns sys (fun spec => spec.name = name)).foldl
          (fun sy i => sy.mapFn i (fun s => { s with hitStat := 0, missStat := 0 })) sys,
       .flag (!(regTargets fns sys (fun spec => spec.name = name)).isEmpty)) := rfl

/-! ### the registration set -/

theorem sysStep_called_of_not_call (op : SysOp K V) (h : ∀ fn th c, op ≠ .call fn th c) :
    (sysStep fns tls size isOk rs sys op).1.called = sys.called := by
  cases op with
  | call fn th c => exact absurd rfl (h fn th c)
  | tick ms => rfl
  | invalidateByTag t | invalidateByEvent t | invalidateByDependency t | invalidateCache t =>
    exact (clearAll_called_now _ _).1
  | invalidateWith name p => rw [sysStep_invalidateWith]; exact (foldl_mapFn_called_now _ _ _).1
  | invalidateAllWith p => rw [sysStep_invalidateAllWith]; exact (foldl_mapFn_called_now _ _ _).1
  | statsGet name => rw [sysStep_statsGet]
  | statsReset name => rw [sysStep_statsReset]; exact (foldl_mapFn_called_now _ _ _).1

theorem mem_called_sysStep (op : SysOp K V) (i : Nat) :
    i ∈ (sysStep fns tls size isOk rs sys op).1.called ↔
      i ∈ sys.called ∨ ∃ th c spec, op = .call i th c ∧ fns[i]? = some spec ∧ spec.threadScope = false := by
  by_cases hc : ∃ fn th c, op = .call fn th c
  · obtain ⟨fn, th, c, rfl⟩ := hc
    cases hs : fns[fn]? with
    | none =>
      rw [sysStep_call_none _ _ _ _ _ _ _ _ _ hs]
      constructor
      · exact Or.inl
      · rintro (h | ⟨th', c', spec, h1, h2, _⟩)
        · exact h
        · cases h1; rw [hs] at h2; cases h2
    | some spec =>
      rw [mem_called_call fns tls size isOk rs sys th c hs i]
      constructor
      · rintro (h | ⟨h1, h2⟩)
        · exact Or.inl h
        · subst h1; exact Or.inr ⟨th, c, spec, rfl, hs, h2⟩
      · rintro (h | ⟨th', c', spec', h1, h2, h3⟩)
        · exact Or.inl h
        · cases h1; rw [hs] at h2; cases h2; exact Or.inr ⟨rfl, h3⟩
  · have hn : ∀ fn th c, op ≠ .call fn th c := fun fn th c hh => hc ⟨fn, th, c, hh⟩
    rw [sysStep_called_of_not_call _ _ _ _ _ _ _ hn]
    constructor
    · exact Or.inl
    · rintro (h | ⟨th, c, spec, h1, _⟩)
      · exact h
      · exact absurd h1 (hn _ _ _)

/-- **Characterisation of the registration set**: after a history, `i` is registered iff it was
    registered before or the history contains a call of `i` and `i` is an existing global/async function. -/
theorem mem_called_sysRun (ops : List (SysOp K V × List Nat)) (i : Nat) :
    i ∈ (sysRun fns tls size isOk sys ops).1.called ↔
      i ∈ sys.called ∨
      ∃ th c rs spec, (SysOp.call i th c, rs) ∈ ops ∧ fns[i]? = some spec ∧ spec.threadScope = false := by
  induction ops generalizing sys with
  | nil => simp [sysRun]
  | cons a ops ih =>
    obtain ⟨op, rs⟩ := a
    simp only [sysRun]
    rw [ih, mem_called_sysStep]
    constructor
    · rintro ((h | ⟨th, c, spec, h1, h2, h3⟩) | ⟨th, c, rs', spec, h1, h2, h3⟩)
      · exact Or.inl h
      · exact Or.inr ⟨th, c, rs, spec, by rw [h1]; exact List.mem_cons_self, h2, h3⟩
      · exact Or.inr ⟨th, c, rs', spec, List.mem_cons_of_mem _ h1, h2, h3⟩
    · rintro (h | ⟨th, c, rs', spec, h1, h2, h3⟩)
      · exact Or.inl (Or.inl h)
      · rcases List.mem_cons.mp h1 with h1 | h1
        · cases h1; exact Or.inl (Or.inr ⟨th, c, spec, rfl, h2, h3⟩)
        · exact Or.inr ⟨th, c, rs', spec, h1, h2, h3⟩

/-! ### frame: which cache instances an operation can change -/

/-- the cache instances an operation is addressed to -/
def Addresses (fns : List FnSpec) (sys : Sys K V) : SysOp K V → CacheId → Prop
  | .call fn th _, id => ∃ spec, fns[fn]? = some spec ∧ id = cacheIdOf spec fn th
  | .tick _, _ => False
  | .invalidateByTag t, id => id.thread = none ∧ IsTarget fns sys (fun spec => spec.tags.contains t) id.fn
  | .invalidateByEvent e, id => id.thread = none ∧ IsTarget fns sys (fun spec => spec.events.contains e) id.fn
  | .invalidateByDependency d, id => id.thread = none ∧ IsTarget fns sys (fun spec => spec.deps.contains d) id.fn
  | .invalidateCache name, id => id.thread = none ∧ IsTarget fns sys (fun spec => spec.name = name) id.fn
  | .invalidateWith name _, id => id.thread = none ∧ IsRegTarget fns sys (fun spec => spec.name = name) id.fn
  | .invalidateAllWith _, id => id.thread = none ∧ Registered fns sys id.fn
  | .statsGet _, _ => False
  | .statsReset name, id => id.thread = none ∧ IsRegTarget fns sys (fun spec => spec.name = name) id.fn

/-- the time an operation lets pass -/
def tickOf : SysOp K V → Nat
  | .tick ms => ms
  | _ => 0

/-- **Frame lemma.**  An operation leaves every cache instance it is not addressed to unchanged, except
    that a `tick` advances its clock. -/
theorem sysStep_frame (op : SysOp K V) (id : CacheId) (h : ¬ Addresses fns sys op id) :
    (sysStep fns tls size isOk rs sys op).1.getCache id =
      { sys.getCache id with now := (sys.getCache id).now + tickOf op } := by
  cases op with
  | call fn th c =>
    cases hs : fns[fn]? with
    | none => rw [sysStep_call_none _ _ _ _ _ _ _ _ _ hs]; rfl
    | some spec =>
      rw [getCache_call fns tls size isOk rs sys th c hs, if_neg fun hh => h ⟨spec, hs, hh⟩]; rfl
  | tick ms => exact getCache_tick fns tls size isOk rs sys ms id
  | invalidateByTag t | invalidateByEvent t | invalidateByDependency t | invalidateCache t =>
    exact (getCache_clearTargets fns sys _ id).2 h
  | invalidateWith name p =>
    rw [sysStep_invalidateWith]
    exact (getCache_regTargets fns sys _ (invalidateWith_fresh p) _ id).2 h
  | invalidateAllWith p =>
    rw [sysStep_invalidateAllWith]
    exact (getCache_regAll fns sys p id).2 h
  | statsGet name => rw [sysStep_statsGet]; rfl
  | statsReset name =>
    rw [sysStep_statsReset]
    exact (getCache_regTargets fns sys _ statsReset_fresh _ id).2 h

/-- **Shape lemma.**  Whatever the operation, every cache instance either stays as it is (with its clock
    advanced by a `tick`), is cleared, is conditionally invalidated, has its statistics reset, or is the
    instance of the called function and moves by `callFn`. -/
theorem sysStep_shape (op : SysOp K V) (id : CacheId) :
    let s := sys.getCache id
    let s' := (sysStep fns tls size isOk rs sys op).1.getCache id
    s' = { s with now := s.now + tickOf op } ∨ s' = clear s ∨ (∃ p, s' = invalidateWith p s) ∨
      s' = { s with hitStat := 0, missStat := 0 } ∨
      ∃ fn th c spec, op = .call fn th c ∧ fns[fn]? = some spec ∧ id = cacheIdOf spec fn th ∧
        s' = (callFn spec (tls fn) size isOk rs s c).1 := by
  intro s s'
  by_cases h : Addresses fns sys op id
  · cases op with
    | call fn th c =>
      obtain ⟨spec, hs, hid⟩ := h
      right; right; right; right
      refine ⟨fn, th, c, spec, rfl, hs, hid, ?_⟩
      simp only [s', s]
      rw [getCache_call fns tls size isOk rs sys th c hs, hid, if_pos rfl]
    | tick ms => exact absurd h (fun x => x)
    | invalidateByTag t | invalidateByEvent t | invalidateByDependency t | invalidateCache t =>
      exact Or.inr (Or.inl ((getCache_clearTargets fns sys _ id).1 h))
    | invalidateWith name p =>
      right; right; left; refine ⟨p, ?_⟩
      simp only [s', s]
      rw [sysStep_invalidateWith]
      exact (getCache_regTargets fns sys _ (invalidateWith_fresh p) _ id).1 h
    | invalidateAllWith p =>
      obtain ⟨h1, spec, h2, h3, h4⟩ := h
      right; right; left; refine ⟨p spec.name, ?_⟩
      simp only [s', s]
      rw [sysStep_invalidateAllWith, (getCache_regAll fns sys p id).1 ⟨h1, spec, h2, h3, h4⟩]
      unfold allWith; rw [h2]
    | statsGet name => exact absurd h (fun x => x)
    | statsReset name =>
      right; right; right; left
      simp only [s', s]
      rw [sysStep_statsReset]
      exact (getCache_regTargets fns sys _ statsReset_fresh _ id).1 h
  · left; exact sysStep_frame fns tls size isOk rs sys op id h

/-! ### the per-cache invariant, system-wide -/

/-- every cache instance (touched or not) satisfies the store/queue invariant -/
def SysInv (sys : Sys K V) : Prop := ∀ id, Inv (sys.getCache id)

theorem inv_fresh (n : Nat) : Inv (State.fresh n : State K V) := by
  simp [Inv, InvMQ, State.fresh, State.init]

theorem sysInv_init : SysInv (Sys.init : Sys K V) := by
  intro id; exact inv_fresh 0

theorem sysStep_inv (op : SysOp K V) (h : SysInv sys) :
    SysInv (sysStep fns tls size isOk rs sys op).1 := by
  intro id
  have hi := h id
  rcases sysStep_shape fns tls size isOk rs sys op id with e | e | ⟨p, e⟩ | e | ⟨fn, th, c, spec, _, _, _, e⟩
  · rw [e]; exact hi
  · rw [e]; exact clear_inv _
  · rw [e]; exact invalidateWith_inv p _ hi
  · rw [e]; exact hi
  · rw [e]; exact Wrap.callFn_inv _ _ _ _ _ _ _ hi

/-- **Invariants of histories.**  A property of the system kept by every operation that satisfies `Q`
    holds after any history all of whose operations satisfy `Q`. -/
theorem sysRun_invariant {P : Sys K V → Prop} {Q : SysOp K V × List Nat → Prop}
    (hstep : ∀ sys op rs, Q (op, rs) → P sys → P (sysStep fns tls size isOk rs sys op).1)
    (ops : List (SysOp K V × List Nat)) (hQ : ∀ a ∈ ops, Q a) (h : P sys) :
    P (sysRun fns tls size isOk sys ops).1 := by
  induction ops generalizing sys with
  | nil => exact h
  | cons a ops ih =>
    obtain ⟨op, rs⟩ := a
    exact ih _ (fun a ha => hQ a (List.mem_cons_of_mem _ ha)) (hstep sys op rs (hQ _ List.mem_cons_self) h)

theorem sysRun_inv (ops : List (SysOp K V × List Nat)) (h : SysInv sys) :
    SysInv (sysRun fns tls size isOk sys ops).1 :=
  sysRun_invariant fns tls size isOk sys (Q := fun _ => True)
    (fun sys op rs _ h => sysStep_inv fns tls size isOk rs sys op h) ops (fun _ _ => trivial) h

/-! ### an empty store stays empty until its own function is called -/

theorem sysStep_store_nil (op : SysOp K V) (id : CacheId)
    (hop : ∀ fn th c spec, op = .call fn th c → fns[fn]? = some spec → id ≠ cacheIdOf spec fn th)
    (h : (sys.getCache id).store = [] ∧ (sys.getCache id).queue = []) :
    ((sysStep fns tls size isOk rs sys op).1.getCache id).store = [] ∧
    ((sysStep fns tls size isOk rs sys op).1.getCache id).queue = [] := by
  rcases sysStep_shape fns tls size isOk rs sys op id with e | e | ⟨p, e⟩ | e | ⟨fn, th, c, spec, e1, e2, e3, _⟩
  · rw [e]; exact h
  · rw [e]; exact ⟨rfl, rfl⟩
  · rw [e]; unfold invalidateWith; simp [h.1, h.2]
  · rw [e]; exact h
  · exact absurd e3 (hop fn th c spec e1 e2)

theorem sysRun_store_nil (ops : List (SysOp K V × List Nat)) (id : CacheId)
    (hop : ∀ fn th c rs spec, (SysOp.call fn th c, rs) ∈ ops → fns[fn]? = some spec → id ≠ cacheIdOf spec fn th)
    (h : (sys.getCache id).store = [] ∧ (sys.getCache id).queue = []) :
    ((sysRun fns tls size isOk sys ops).1.getCache id).store = [] ∧
    ((sysRun fns tls size isOk sys ops).1.getCache id).queue = [] :=
  sysRun_invariant fns tls size isOk sys
    (P := fun sys => (sys.getCache id).store = [] ∧ (sys.getCache id).queue = [])
    (Q := fun a => ∀ fn th c spec, a.1 = .call fn th c → fns[fn]? = some spec → id ≠ cacheIdOf spec fn th)
    (fun sys op rs hq h => sysStep_store_nil fns tls size isOk rs sys op id hq h) ops
    (fun a ha fn th c spec e hs => hop fn th c a.2 spec (by rw [← e]; exact ha) hs) h

/-- no operation of the history is addressed to `id` (judged in the state in which it executes) -/
def NotAddressed (fns : List FnSpec) (tls : Nat → Tlru S) (size : V → Nat) (isOk : V → Bool) :
    Sys K V → List (SysOp K V × List Nat) → CacheId → Prop
  | _, [], _ => True
  | sys, (op, rs) :: ops, id =>
    ¬ Addresses fns sys op id ∧ NotAddressed fns tls size isOk (sysStep fns tls size isOk rs sys op).1 ops id

/-- total time a history lets pass -/
def ticksOf : List (SysOp K V × List Nat) → Nat
  | [] => 0
  | (op, _) :: ops => tickOf op + ticksOf ops

/-- **Frame lemma for histories**: operations addressed to other caches leave a cache instance as it
    is; only its clock advances by the ticks of the history. -/
theorem sysRun_frame (ops : List (SysOp K V × List Nat)) (id : CacheId)
    (h : NotAddressed fns tls size isOk sys ops id) :
    (sysRun fns tls size isOk sys ops).1.getCache id =
      { sys.getCache id with now := (sys.getCache id).now + ticksOf ops } := by
  induction ops generalizing sys with
  | nil => rfl
  | cons a ops ih =>
    obtain ⟨op, rs⟩ := a
    simp only [sysRun, ticksOf]
    rw [ih _ h.2, sysStep_frame fns tls size isOk rs sys op id h.1]
    simp only [Nat.add_assoc]

/-! ### group invalidations: matching, targets, effect -/

/-- the request names something the function declares (its tag / event / dependency) or its name -/
def Matches : SysOp K V → FnSpec → Prop
  | .invalidateByTag t, spec => t ∈ spec.tags
  | .invalidateByEvent e, spec => e ∈ spec.events
  | .invalidateByDependency d, spec => d ∈ spec.deps
  | .invalidateCache name, spec => spec.name = name
  | _, _ => False

/-- "such a cache" of C12: an existing global/async function, called at least once, with metadata,
    matching the request -/
def Target (fns : List FnSpec) (sys : Sys K V) (op : SysOp K V) (i : Nat) : Prop :=
  ∃ spec, fns[i]? = some spec ∧ spec.threadScope = false ∧ i ∈ sys.called ∧ HasMeta spec ∧ Matches op spec

theorem groupSel_matches {op : SysOp K V} {sel : FnSpec → Bool} (h : groupSel op = some sel) (spec : FnSpec) :
    sel spec = true ↔ Matches op spec := by
  cases op <;> simp only [groupSel, Option.some.injEq, reduceCtorEq] at h <;> subst h <;>
    simp [Matches]

theorem groupSel_of_matches {op : SysOp K V} {spec : FnSpec} (h : Matches op spec) :
    ∃ sel, groupSel op = some sel := by
  cases op <;> first | exact ⟨_, rfl⟩ | exact absurd h (fun x => x)

theorem isTarget_iff_target {fns : List FnSpec} {sys : Sys K V} {op : SysOp K V} {sel : FnSpec → Bool}
    (h : groupSel op = some sel) (i : Nat) : IsTarget fns sys sel i ↔ Target fns sys op i := by
  unfold IsTarget Target
  constructor
  · rintro ⟨spec, h1, h2, h3, h4, h5⟩; exact ⟨spec, h1, h2, h3, h4, (groupSel_matches h spec).mp h5⟩
  · rintro ⟨spec, h1, h2, h3, h4, h5⟩; exact ⟨spec, h1, h2, h3, h4, (groupSel_matches h spec).mpr h5⟩

theorem group_getCache {op : SysOp K V} {sel : FnSpec → Bool} (h : groupSel op = some sel) (id : CacheId) :
    (id.thread = none ∧ Target fns sys op id.fn →
      (sysStep fns tls size isOk rs sys op).1.getCache id = clear (sys.getCache id)) ∧
    (¬ (id.thread = none ∧ Target fns sys op id.fn) →
      (sysStep fns tls size isOk rs sys op).1.getCache id = sys.getCache id) := by
  rw [sysStep_group fns tls size isOk rs sys h, ← isTarget_iff_target h]
  exact getCache_clearTargets fns sys sel id

theorem group_out {op : SysOp K V} {sel : FnSpec → Bool} (h : groupSel op = some sel) :
    (sysStep fns tls size isOk rs sys op).2 =
      (match op with
       | .invalidateCache _ => .flag (!(clearTargets fns sys sel).isEmpty)
       | _ => .count (clearTargets fns sys sel).length) := by
  cases op <;> simp only [groupSel, Option.some.injEq, reduceCtorEq] at h <;> subst h <;> rfl

/-- a duplicate-free list whose members are all equal has at most one -/
theorem length_le_one_of_all_eq {l : List Nat} (hnd : l.Nodup) (h : ∀ a ∈ l, ∀ b ∈ l, a = b) : l.length ≤ 1 := by
  match l, hnd, h with
  | [], _, _ => exact Nat.zero_le 1
  | [_], _, _ => exact Nat.le_refl 1
  | a :: b :: l, hnd, h =>
    have hab := h a List.mem_cons_self b (List.mem_cons_of_mem _ List.mem_cons_self)
    exact absurd (hab ▸ List.mem_cons_self) (List.nodup_cons.mp hnd).1

theorem not_isEmpty_eq_decide {l : List Nat} (h : l.length ≤ 1) : (!l.isEmpty) = decide (l.length = 1) := by
  match l, h with
  | [], _ => rfl
  | [_], _ => rfl
  | _ :: _ :: _, h => exact absurd h (by simp)

theorem not_isEmpty_iff_exists_mem {l : List Nat} : (!l.isEmpty) = true ↔ ∃ i, i ∈ l := by
  cases l with
  | nil => simp
  | cons a l => simp

end

end Cachelito.SysLemmas
