/-
  Lemmas and vocabulary for the two extra property files.

  Part 1 (X01): the sync global and the thread-local engine are the same machine.  `asGlobal cfg` /
  `asThread cfg` are `cfg` with the flavour overwritten; every flavour-dependent definition of `Core.lean`
  branches `| .async => … | _ => …`, so the two take the same branch — except the FIFO/LRU arm of
  `evictMem` (`popStored` vs `popOne`).  Under `InvMQ` the two pops coincide (`evictMem_gt`, `memLoop_gt`);
  without it one iteration of the memory loop may differ but the loop does not (`memLoop_gt_queue`), so
  `step` and `run` agree on EVERY state (`step_gt_any`, `run_gt_any`).  The TLRU scorer `tl.score` receives
  the whole `Cfg`; an arbitrary scorer could inspect the flavour, hence the hypothesis `SyncBlind`
  (satisfied by every scorer of the development).

  Part 2 (C01c): what its statements are written in — a call built from an argument tuple (`argCall`) and
  histories in which every call of a function is such a call (`CallsHaveArgs`).
-/
import Cachelito.Lemmas.Inv
import Cachelito.Keys
import Cachelito.System

namespace Cachelito.Extra
open Cachelito
variable {K V S : Type} [DecidableEq K]

/-! ## Part 1: global vs thread-local -/

/-- `cfg` run by the sync global engine -/
abbrev asGlobal (cfg : Cfg) : Cfg := { cfg with flavour := .global }
/-- `cfg` run by the thread-local engine -/
abbrev asThread (cfg : Cfg) : Cfg := { cfg with flavour := .threadLocal }

/-- the TLRU scorer does not distinguish the two sync flavours under `cfg` (it may depend on policy,
    limit, ttl, max_memory, and on sync-vs-async) -/
def SyncBlind (tl : Tlru S) (cfg : Cfg) : Prop :=
  ∀ hits el rk, tl.score (asGlobal cfg) hits el rk = tl.score (asThread cfg) hits el rk

theorem elapsedMs_gt (cfg : Cfg) (now birth : Nat) :
    elapsedMs (asGlobal cfg) now birth = elapsedMs (asThread cfg) now birth := rfl

theorem expired_gt (cfg : Cfg) (now : Nat) (e : Entry V) :
    expired (asGlobal cfg) now e = expired (asThread cfg) now e := rfl

theorem stamp_gt (cfg : Cfg) (now : Nat) : stamp (asGlobal cfg) now = stamp (asThread cfg) now := rfl

theorem rank_gt (cfg : Cfg) (i len : Nat) : rank (asGlobal cfg) i len = rank (asThread cfg) i len := rfl

theorem removeBoth_gt (cfg : Cfg) (k : K) (m : Store K V) (q : List K) :
    removeBoth (asGlobal cfg) k m q = removeBoth (asThread cfg) k m q := rfl

set_option linter.unusedSectionVars false in
theorem overLimit_gt (cfg : Cfg) (n : Nat) (m : Store K V) (q : List K) :
    overLimit (asGlobal cfg) n m q = overLimit (asThread cfg) n m q := rfl

theorem hitUpdate_gt (cfg : Cfg) (k : K) (m : Store K V) (q : List K) :
    hitUpdate (asGlobal cfg) k m q = hitUpdate (asThread cfg) k m q := rfl

theorem get_gt (cfg : Cfg) (s : State K V) (k : K) : get (asGlobal cfg) s k = get (asThread cfg) s k := rfl

theorem victim_gt (cfg : Cfg) (tl : Tlru S) (htl : cfg.policy = .tlru → SyncBlind tl cfg)
    (now : Nat) (m : Store K V) (q : List K) :
    victim (asGlobal cfg) tl now m q = victim (asThread cfg) tl now m q := by
  unfold victim
  cases hp : cfg.policy
  case tlru =>
    have hb : ∀ a b c, tl.score (asGlobal cfg) a b c = tl.score (asThread cfg) a b c := htl hp
    simp only [hb]
    rfl
  all_goals rfl

theorem evictScored_gt (cfg : Cfg) (tl : Tlru S) (htl : cfg.policy = .tlru → SyncBlind tl cfg)
    (now : Nat) (m : Store K V) (q : List K) :
    evictScored (asGlobal cfg) tl now m q = evictScored (asThread cfg) tl now m q := by
  unfold evictScored
  rw [victim_gt cfg tl htl]
  rfl

theorem evictLimit_gt (cfg : Cfg) (tl : Tlru S) (htl : cfg.policy = .tlru → SyncBlind tl cfg)
    (now r : Nat) (m : Store K V) (q : List K) :
    evictLimit (asGlobal cfg) tl now r m q = evictLimit (asThread cfg) tl now r m q := by
  unfold evictLimit
  cases cfg.policy
  case fifo | lru | random => rfl
  all_goals exact evictScored_gt cfg tl htl now m q

theorem limitStep_gt (cfg : Cfg) (tl : Tlru S) (htl : cfg.policy = .tlru → SyncBlind tl cfg)
    (now r : Nat) (m : Store K V) (q : List K) :
    limitStep (asGlobal cfg) tl now r m q = limitStep (asThread cfg) tl now r m q := by
  unfold limitStep
  rw [evictLimit_gt cfg tl htl]
  rfl

/-- under the invariant the front key is stored, so "pop until a stored key" pops exactly one key -/
theorem popStored_eq_popOne {m : Store K V} {q : List K} (h : InvMQ m q) : popStored m q = popOne m q := by
  cases q with
  | nil => rfl
  | cons k q =>
    have hk : hasKey k m = true := (hasKey_iff k m).mpr ((h.2.2 k).mp List.mem_cons_self)
    simp only [popStored, popOne, hk, if_true]

/-- FIFO or LRU: the policies whose memory-loop arm differs between the two engines -/
def QueuePolicy (cfg : Cfg) : Prop := cfg.policy = .fifo ∨ cfg.policy = .lru

/-- the one place where the two sync engines differ textually: `popStored` against `popOne`, under FIFO/LRU -/
theorem evictMem_gt_of (cfg : Cfg) (tl : Tlru S) (htl : cfg.policy = .tlru → SyncBlind tl cfg)
    (now r : Nat) {m : Store K V} {q : List K} (hpop : QueuePolicy cfg → popStored m q = popOne m q) :
    evictMem (asGlobal cfg) tl now r m q = evictMem (asThread cfg) tl now r m q := by
  unfold evictMem
  cases hp : cfg.policy
  case fifo => exact hpop (.inl hp)
  case lru => exact hpop (.inr hp)
  case random => rfl
  all_goals exact evictScored_gt cfg tl htl now m q

theorem evictMem_gt (cfg : Cfg) (tl : Tlru S) (htl : cfg.policy = .tlru → SyncBlind tl cfg)
    (now r : Nat) {m : Store K V} {q : List K} (h : InvMQ m q) :
    evictMem (asGlobal cfg) tl now r m q = evictMem (asThread cfg) tl now r m q :=
  evictMem_gt_of cfg tl htl now r (fun _ => popStored_eq_popOne h)

/-- if one iteration agrees on the states satisfying `P` and keeps `P`, the loops agree on them -/
theorem memLoop_gt_of (cfg : Cfg) (tl : Tlru S) (size : V → Nat) (now maxM extra : Nat)
    (P : Store K V → List K → Prop)
    (hstep : ∀ r m q, P m q →
      evictMem (asGlobal cfg) tl now r m q = evictMem (asThread cfg) tl now r m q ∧
      P (evictMem (asThread cfg) tl now r m q).1 (evictMem (asThread cfg) tl now r m q).2.1)
    (fuel : Nat) (rs : List Nat) {m : Store K V} {q : List K} (h : P m q) :
    memLoop (asGlobal cfg) tl size now maxM extra fuel rs m q =
      memLoop (asThread cfg) tl size now maxM extra fuel rs m q := by
  induction fuel generalizing rs m q with
  | zero => rfl
  | succ fuel ih =>
    simp only [memLoop]
    split
    · rfl
    · obtain ⟨he, hi⟩ := hstep (rs.headD 0) m q h
      rw [he]
      generalize evictMem (asThread cfg) tl now (rs.headD 0) m q = r at hi
      obtain ⟨m', q', ev⟩ := r
      cases ev
      · rfl
      · exact ih rs.tail hi

theorem memLoop_gt (cfg : Cfg) (tl : Tlru S) (htl : cfg.policy = .tlru → SyncBlind tl cfg)
    (size : V → Nat) (now maxM extra fuel : Nat) (rs : List Nat) {m : Store K V} {q : List K} (h : InvMQ m q) :
    memLoop (asGlobal cfg) tl size now maxM extra fuel rs m q =
      memLoop (asThread cfg) tl size now maxM extra fuel rs m q :=
  memLoop_gt_of cfg tl size now maxM extra InvMQ
    (fun r _ _ h => ⟨evictMem_gt cfg tl htl now r h, (evictMem_spec h (asThread cfg) tl now r).inv h⟩) fuel rs h

theorem insert_gt (cfg : Cfg) (tl : Tlru S) (htl : cfg.policy = .tlru → SyncBlind tl cfg)
    (r : Nat) (s : State K V) (k : K) (v : V) :
    insert (asGlobal cfg) tl r s k v = insert (asThread cfg) tl r s k v := by
  unfold insert
  simp only
  rw [limitStep_gt cfg tl htl]
  rfl

/-! ### Without the invariant

On states with orphan queue keys one ITERATION of the memory loop differs (`popStored` skips the orphans
and removes the first stored key, `popOne` pops a single key), but the LOOP does not: popping an orphan
frees no memory, so the thread-local loop keeps popping until it has removed the same stored key.  Only
the number of iterations, hence the number of random draws consumed, differs — and FIFO/LRU use no
draws. -/

theorem evictMem_global_queue (cfg : Cfg) (tl : Tlru S) (hq : QueuePolicy cfg) (now r : Nat) (m : Store K V)
    (q : List K) :
    evictMem (asGlobal cfg) tl now r m q = popStored m q := by
  unfold evictMem
  rcases hq with hp | hp <;> simp only [hp]

theorem evictMem_thread_queue (cfg : Cfg) (tl : Tlru S) (hq : QueuePolicy cfg) (now r : Nat) (m : Store K V)
    (q : List K) :
    evictMem (asThread cfg) tl now r m q = popOne m q := by
  unfold evictMem
  rcases hq with hp | hp <;> simp only [hp]

/-- FIFO/LRU: the entry-limit step uses no random draw -/
theorem limitStep_queue_draw (cfg : Cfg) (tl : Tlru S) (hq : QueuePolicy cfg) (now r r' : Nat) (m : Store K V)
    (q : List K) :
    limitStep cfg tl now r m q = limitStep cfg tl now r' m q := by
  unfold limitStep evictLimit
  rcases hq with hp | hp <;> simp only [hp]

/-- FIFO/LRU, ANY store and queue (orphans, duplicates): with enough fuel the two memory loops end in
    the same store and queue, whatever draws they are given.  (They differ in the draws left over.) -/
theorem memLoop_gt_queue (cfg : Cfg) (tl : Tlru S) (hq : QueuePolicy cfg) (size : V → Nat) (now maxM extra : Nat)
    (q : List K) (m : Store K V) (fG fT : Nat) (rsG rsT : List Nat)
    (hG : q.length + 1 ≤ fG) (hT : q.length + 1 ≤ fT) :
    ∃ m' q' rG rT, memLoop (asGlobal cfg) tl size now maxM extra fG rsG m q = (m', q', rG) ∧
      memLoop (asThread cfg) tl size now maxM extra fT rsT m q = (m', q', rT) := by
  induction q generalizing m fG fT rsG rsT with
  | nil =>
    match fG, fT, hG, hT with
    | g + 1, t + 1, _, _ =>
      simp only [memLoop, evictMem_global_queue cfg tl hq, evictMem_thread_queue cfg tl hq, popStored, popOne,
        Bool.false_eq_true, if_false]
      split <;> exact ⟨_, _, _, _, rfl, rfl⟩
  | cons k q ih =>
    match fG, fT, hG, hT with
    | g + 1, t + 1, hG, hT =>
      simp only [List.length_cons, Nat.add_le_add_iff_right] at hG hT
      by_cases hk : hasKey k m = true
      · simp only [memLoop, evictMem_global_queue cfg tl hq, evictMem_thread_queue cfg tl hq, popStored, popOne, hk,
          if_true]
        split
        · exact ⟨_, _, _, _, rfl, rfl⟩
        · exact ih _ g t _ _ hG hT
      · -- an orphan: the global loop is still in the same iteration, the thread-local one has used one
        have hk' : hasKey k m = false := by simpa using hk
        have := ih m (g + 1) t rsG rsT.tail (by omega) hT
        simp only [memLoop, evictMem_global_queue cfg tl hq, evictMem_thread_queue cfg tl hq, popStored, popOne, hk',
          Bool.false_eq_true, if_false, if_true, eraseKey_of_not_mem ((hasKey_false_iff k m).mp hk')] at this ⊢
        split
        · exact ⟨_, _, _, _, rfl, rfl⟩
        · rename_i hfit
          simpa only [hfit, if_false] using this

/-- the memory-aware store of the two engines agrees on EVERY state -/
theorem insertMem_gt_any (cfg : Cfg) (tl : Tlru S) (htl : cfg.policy = .tlru → SyncBlind tl cfg)
    (size : V → Nat) (rs : List Nat) (s : State K V) (k : K) (v : V) :
    insertMem (asGlobal cfg) tl size rs s k v = insertMem (asThread cfg) tl size rs s k v := by
  unfold insertMem
  simp only
  cases hm : cfg.maxMem with
  | none =>
    simp only
    rw [limitStep_gt cfg tl htl]
    rfl
  | some maxM =>
    simp only
    split
    · rfl
    · rw [stamp_gt]
      by_cases hq : QueuePolicy cfg
      · -- `insertMem` gives the loop `q0.length + 1` units of fuel: exactly the bound of `memLoop_gt_queue`
        obtain ⟨m1, q1, rG, rT, eG, eT⟩ := memLoop_gt_queue cfg tl hq size s.now maxM 0 (erasePush k s.queue)
          (put k ⟨v, stamp (asThread cfg) s.now, 0⟩ s.store) _ _ rs rs (Nat.le_refl _) (Nat.le_refl _)
        rw [eG, eT]
        simp only
        rw [limitStep_gt cfg tl htl, limitStep_queue_draw (asThread cfg) tl hq s.now (rG.headD 0) (rT.headD 0)]
      · rw [memLoop_gt_of cfg tl size s.now maxM 0 (fun _ _ => True)
          (fun r _ _ _ => ⟨evictMem_gt_of cfg tl htl s.now r (fun hq' => absurd hq' hq), trivial⟩) _ rs trivial]
        simp only [limitStep_gt cfg tl htl]

theorem step_gt_any (cfg : Cfg) (tl : Tlru S) (htl : cfg.policy = .tlru → SyncBlind tl cfg)
    (size : V → Nat) (rs : List Nat) (s : State K V) (op : Op K V) :
    step (asGlobal cfg) tl size rs s op = step (asThread cfg) tl size rs s op := by
  cases op with
  | insert k v => exact congrArg (·, Out.unit) (insert_gt cfg tl htl _ s k v)
  | insertMem k v => exact congrArg (·, Out.unit) (insertMem_gt_any cfg tl htl size rs s k v)
  | _ => rfl

theorem run_gt_any (cfg : Cfg) (tl : Tlru S) (htl : cfg.policy = .tlru → SyncBlind tl cfg)
    (size : V → Nat) (s : State K V) (ops : List (Op K V × List Nat)) :
    run (asGlobal cfg) tl size s ops = run (asThread cfg) tl size s ops := by
  induction ops generalizing s with
  | nil => rfl
  | cons a ops ih =>
    obtain ⟨op, rs⟩ := a
    simp only [run]
    rw [step_gt_any cfg tl htl size rs s op, ih]

set_option linter.unusedVariables false in
/-- `step_gt_any` under the hypothesis with which X01 is stated in the design; `h` is not used -/
theorem step_gt (cfg : Cfg) (tl : Tlru S) (htl : cfg.policy = .tlru → SyncBlind tl cfg)
    (size : V → Nat) (rs : List Nat) (s : State K V) (op : Op K V) (h : Inv s) :
    step (asGlobal cfg) tl size rs s op = step (asThread cfg) tl size rs s op :=
  step_gt_any cfg tl htl size rs s op

set_option linter.unusedVariables false in
/-- `run_gt_any` from a consistent start state; `h` is not used -/
theorem run_gt (cfg : Cfg) (tl : Tlru S) (htl : cfg.policy = .tlru → SyncBlind tl cfg)
    (size : V → Nat) (s : State K V) (ops : List (Op K V × List Nat)) (h : Inv s) :
    run (asGlobal cfg) tl size s ops = run (asThread cfg) tl size s ops :=
  run_gt_any cfg tl htl size s ops

/-! ## Part 2: calls built from argument tuples -/

section ArgCalls
open Cachelito.Keys
variable {F : Type}

/-- a call of a decorated function with receiver `r` and arguments `a`: the key both macro key builders
    generate for them, the value the undecorated body `g` returns for them, and arbitrary oracles for
    the two user predicates -/
def argCall (fm : Fmt F) (g : Option (Val F) → List (Val F) → V) (r : Option (Val F)) (a : List (Val F))
    (cacheIf invalidateOn : Text → V → Bool) : CallIn Text V :=
  ⟨keyOf fm r a, g r a, cacheIf, invalidateOn⟩

/-- every call of function `i` in `ops` is a call with a well-typed receiver/argument tuple of signature
    `sg`: its key is the key of that tuple and its body returns `g` of that tuple -/
def CallsHaveArgs (fm : Fmt F) (sg : Sig) (g : Option (Val F) → List (Val F) → V) (i : Nat)
    (ops : List (SysOp Text V × List Nat)) : Prop :=
  ∀ p ∈ ops, ∀ th c, p.1 = SysOp.call i th c →
    ∃ r a, sg.wt r a = true ∧ c.key = keyOf fm r a ∧ c.bodyVal = g r a

end ArgCalls

end Cachelito.Extra
