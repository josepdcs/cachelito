/-
  Lemmas about the score scan (`firstMin`, `cands`, `victim`) used by the LFU / ARC / TLRU
  evictions; the eviction phase of a store (`limitStep`, `memLoop`) as a chain of scan victims
  (`EvictChain`, `Guarded`); the flavour-uniform normal form of the two store operations (`preEvict`,
  `finishStore`); why every victim of a sync store is chosen with the newcomer present (`Newcomer`,
  `Within`, `guarded_sync`); hit counting; scorers with a bottom score (`ZeroLike`), the exact-arithmetic
  scorers `exactTlru` / `linearTlru`, and TLRU without ttl and weight being ARC (core Lean only).
-/
import Cachelito.Lemmas.Mem

namespace Cachelito
variable {K V S : Type}

/-! ### Strict weak orders and the first-minimum scan -/

/-- `lt` is a strict weak order on the scores satisfying `P` (the scores that actually occur):
    asymmetric and negatively transitive (equivalently: irreflexive, transitive, and
    "neither is smaller" is transitive).  These two laws are exactly what the scan needs. -/
structure StrictWeakOn (P : S → Prop) (lt : S → S → Bool) : Prop where
  asymm : ∀ a b, P a → P b → lt a b = true → lt b a = false
  negTrans : ∀ a b c, P a → P b → P c → lt a b = false → lt b c = false → lt a c = false

abbrev StrictWeak (lt : S → S → Bool) : Prop := StrictWeakOn (fun _ => True) lt

theorem StrictWeakOn.irrefl {P : S → Prop} {lt : S → S → Bool} (h : StrictWeakOn P lt) (a : S) (ha : P a) :
    lt a a = false := by
  cases hl : lt a a with
  | false => rfl
  | true => have := h.asymm a a ha ha hl; rw [hl] at this; cases this

/-- in `a < b` the smaller side may be replaced by anything not above it -/
theorem StrictWeakOn.lt_of_lt_of_not_lt {P : S → Prop} {lt : S → S → Bool} (h : StrictWeakOn P lt)
    {a b c : S} (ha : P a) (hb : P b) (hc : P c) (hab : lt a b = true) (hac : lt a c = false) :
    lt c b = true := by
  cases hl : lt c b with
  | true => rfl
  | false => have := h.negTrans a c b ha hc hb hac hl; rw [hab] at this; cases this

/-- in `b < c` the larger side may be replaced by anything not below it -/
theorem StrictWeakOn.lt_of_lt_of_not_lt' {P : S → Prop} {lt : S → S → Bool} (h : StrictWeakOn P lt)
    {a b c : S} (ha : P a) (hb : P b) (hc : P c) (hbc : lt b c = true) (hac : lt a c = false) :
    lt b a = true := by
  cases hl : lt b a with
  | true => rfl
  | false => have := h.negTrans b a c hb ha hc hl hac; rw [hbc] at this; cases this

/-- the usual presentation (irreflexive, transitive, incomparability transitive) gives `StrictWeakOn` -/
theorem StrictWeakOn.of_irrefl_trans {P : S → Prop} {lt : S → S → Bool}
    (hirr : ∀ a, P a → lt a a = false)
    (htr : ∀ a b c, P a → P b → P c → lt a b = true → lt b c = true → lt a c = true)
    (hneg : ∀ a b c, P a → P b → P c → lt a b = false → lt b c = false → lt a c = false) :
    StrictWeakOn P lt := by
  refine ⟨?_, hneg⟩
  intro a b ha hb hab
  cases hl : lt b a with
  | false => rfl
  | true => have := htr a b a ha hb ha hab hl; rw [hirr a ha] at this; cases this

/-- a total preorder `le` with `lt a b = !le b a` gives a strict weak order -/
theorem StrictWeakOn.of_le {P : S → Prop} {lt le : S → S → Bool}
    (hlt : ∀ a b, lt a b = !le b a)
    (htot : ∀ a b, P a → P b → le a b = true ∨ le b a = true)
    (htr : ∀ a b c, P a → P b → P c → le a b = true → le b c = true → le a c = true) :
    StrictWeakOn P lt := by
  constructor
  · intro a b ha hb hab
    rw [hlt] at hab ⊢
    rcases htot a b ha hb with h | h
    · simp [h]
    · simp [h] at hab
  · intro a b c ha hb hc hab hbc
    rw [hlt] at hab hbc ⊢
    simp only [Bool.not_eq_false'] at hab hbc ⊢
    exact htr c b a hc hb ha hbc hab

/-- The scan over `cs` started with best-so-far `b` returns an element that splits `b :: cs`: everything
    before it scores strictly above it, and nothing in the list scores strictly below it.  Induction on `cs`;
    the two laws of `StrictWeakOn` are what the step needs when the best-so-far changes, resp. survives. -/
theorem firstMinAux_spec {P : S → Prop} {lt : S → S → Bool} (h : StrictWeakOn P lt)
    (b : K × S) (cs : List (K × S)) (hP : ∀ x ∈ b :: cs, P x.2) :
    ∃ pre post, b :: cs = pre ++ firstMinAux lt b cs :: post ∧
      (∀ x ∈ pre, lt (firstMinAux lt b cs).2 x.2 = true) ∧
      (∀ x ∈ b :: cs, lt x.2 (firstMinAux lt b cs).2 = false) := by
  induction cs generalizing b with
  | nil =>
    exact ⟨[], [], rfl, nofun,
      List.forall_mem_singleton.mpr (h.irrefl _ (hP _ List.mem_cons_self))⟩
  | cons c cs ih =>
    obtain ⟨hPb, hPcs⟩ := List.forall_mem_cons.mp hP
    obtain ⟨hPc, hPcs'⟩ := List.forall_mem_cons.mp hPcs
    rw [firstMinAux]
    split
    · -- `c` beats `b`: the scan goes on from `c`, and `b` joins the prefix
      rename_i hcb
      obtain ⟨pre, post, he, h1, h2⟩ := ih c hPcs
      generalize firstMinAux lt c cs = r at he h1 h2
      have hPr : P r.2 := hPcs r (by rw [he]; exact List.mem_append_right _ List.mem_cons_self)
      have hrb : lt r.2 b.2 = true :=
        h.lt_of_lt_of_not_lt hPc hPb hPr hcb (h2 c List.mem_cons_self)
      exact ⟨b :: pre, post, congrArg (b :: ·) he, List.forall_mem_cons.mpr ⟨hrb, h1⟩,
        List.forall_mem_cons.mpr ⟨h.asymm _ _ hPr hPb hrb, h2⟩⟩
    · -- `b` survives `c`: the scan of `b :: cs`, with `c` put back behind `b`
      rename_i hcb
      have hcb : lt c.2 b.2 = false := (Bool.not_eq_true _).mp hcb
      have hPbcs : ∀ x ∈ b :: cs, P x.2 := List.forall_mem_cons.mpr ⟨hPb, hPcs'⟩
      obtain ⟨pre, post, he, h1, h2⟩ := ih b hPbcs
      generalize firstMinAux lt b cs = r at he h1 h2
      have hPr : P r.2 := hPbcs r (by rw [he]; exact List.mem_append_right _ List.mem_cons_self)
      obtain ⟨hbr, h2'⟩ := List.forall_mem_cons.mp h2
      have hcr : lt c.2 r.2 = false := h.negTrans _ _ _ hPc hPb hPr hcb hbr
      have hmin : ∀ x ∈ b :: c :: cs, lt x.2 r.2 = false :=
        List.forall_mem_cons.mpr ⟨hbr, List.forall_mem_cons.mpr ⟨hcr, h2'⟩⟩
      cases pre with
      | nil => exact ⟨[], c :: cs, congrArg (· :: c :: cs) (List.cons.inj he).1, nofun, hmin⟩
      | cons p pre' =>
        obtain ⟨hb, hcs⟩ := List.cons.inj he
        subst hb
        obtain ⟨hrb, h1'⟩ := List.forall_mem_cons.mp h1
        exact ⟨b :: c :: pre', post, congrArg (b :: c :: ·) hcs,
          List.forall_mem_cons.mpr ⟨hrb, List.forall_mem_cons.mpr
            ⟨h.lt_of_lt_of_not_lt' hPc hPr hPb hrb hcb, h1'⟩⟩, hmin⟩

theorem getElem?_lt {q : List K} {i : Nat} {k : K} (h : q[i]? = some k) : i < q.length :=
  let ⟨hi, _⟩ := List.getElem?_eq_some_iff.mp h; hi

variable [DecidableEq K]

section
set_option linter.unusedSectionVars false

theorem getElem?_unique {q : List K} (hn : q.Nodup) {i j : Nat} {k : K}
    (hi : q[i]? = some k) (hj : q[j]? = some k) : i = j :=
  (List.getElem?_inj (getElem?_lt hi) hn).mp (hi.trans hj.symm)

end

/-! ### The candidate list -/

theorem candsFrom_cons_some {score : Entry V → Nat → Nat → S} {m : Store K V} {len i : Nat} {a : K} {q : List K}
    {e : Entry V} (h : lookup a m = some e) :
    candsFrom score m len i (a :: q) = (a, score e i len) :: candsFrom score m len (i + 1) q := by
  rw [candsFrom, h]

theorem candsFrom_cons_none {score : Entry V → Nat → Nat → S} {m : Store K V} {len i : Nat} {a : K} {q : List K}
    (h : lookup a m = none) : candsFrom score m len i (a :: q) = candsFrom score m len (i + 1) q := by
  rw [candsFrom, h]

theorem candsFrom_succ (score : Entry V → Nat → Nat → S) (m : Store K V) (len : Nat) :
    ∀ (q : List K) (i : Nat),
      candsFrom score m len (i + 1) q = candsFrom (fun e j l => score e (j + 1) l) m len i q := by
  intro q
  induction q with
  | nil => intro _; rfl
  | cons a q ih =>
    intro i
    cases hl : lookup a m with
    | none => rw [candsFrom_cons_none hl, candsFrom_cons_none hl, ih]
    | some e => rw [candsFrom_cons_some hl, candsFrom_cons_some hl, ih]

theorem mem_candsFrom_of_getElem? {score : Entry V → Nat → Nat → S} {m : Store K V} {len : Nat} {q : List K} {j : Nat} {k : K}
    {e : Entry V} (hj : q[j]? = some k) (hl : lookup k m = some e) :
    (k, score e j len) ∈ candsFrom score m len 0 q := by
  induction q generalizing score j with
  | nil => cases hj
  | cons a q ih =>
    cases j with
    | zero =>
      cases (Option.some.inj hj : a = k)
      rw [candsFrom_cons_some hl]; exact List.mem_cons_self
    | succ j =>
      have := ih (score := fun e j l => score e (j + 1) l) hj
      rw [← candsFrom_succ] at this
      cases ha : lookup a m with
      | none => rw [candsFrom_cons_none ha]; exact this
      | some ea => rw [candsFrom_cons_some ha]; exact List.mem_cons_of_mem _ this

/-- A candidate `(k, s)` comes from a stored queue key: `k` sits at some queue index `j` with entry `e` and
    `s = score e j len`; and every stored queue key at a smaller index is a candidate in front of it (orphan
    queue keys are skipped but count for the index). -/
theorem candsFrom_split {score : Entry V → Nat → Nat → S} {m : Store K V} {len : Nat} {q : List K}
    {pre post : List (K × S)} {k : K} {s : S} (h : candsFrom score m len 0 q = pre ++ (k, s) :: post) :
    ∃ j e, q[j]? = some k ∧ lookup k m = some e ∧ s = score e j len ∧
      ∀ j' k' e', j' < j → q[j']? = some k' → lookup k' m = some e' → (k', score e' j' len) ∈ pre := by
  induction q generalizing score pre with
  | nil => cases pre <;> cases h
  | cons a q ih =>
    -- the statement for the tail, in terms of the original score function
    have tail : ∀ {pre'}, candsFrom score m len 1 q = pre' ++ (k, s) :: post →
        ∃ j e, q[j]? = some k ∧ lookup k m = some e ∧ s = score e (j + 1) len ∧
          ∀ j' k' e', j' < j → q[j']? = some k' → lookup k' m = some e' →
            (k', score e' (j' + 1) len) ∈ pre' := fun h' =>
      ih (score := fun e j l => score e (j + 1) l) (by rw [← candsFrom_succ]; exact h')
    cases ha : lookup a m with
    | none =>
      rw [candsFrom_cons_none ha] at h
      obtain ⟨j, e, h1, h2, h3, h4⟩ := tail h
      refine ⟨j + 1, e, h1, h2, h3, ?_⟩
      intro j' k' e' hj' hq' hl'
      cases j' with
      | zero => cases (Option.some.inj hq' : a = k'); rw [ha] at hl'; cases hl'
      | succ j' => exact h4 j' k' e' (Nat.lt_of_succ_lt_succ hj') hq' hl'
    | some ea =>
      rw [candsFrom_cons_some ha] at h
      cases pre with
      | nil =>
        cases (List.cons.inj h).1
        exact ⟨0, ea, rfl, ha, rfl, fun j' _ _ hj' => absurd hj' (Nat.not_lt_zero j')⟩
      | cons p pre' =>
        obtain ⟨hp, h⟩ := List.cons.inj h
        obtain ⟨j, e, h1, h2, h3, h4⟩ := tail h
        refine ⟨j + 1, e, h1, h2, h3, ?_⟩
        intro j' k' e' hj' hq' hl'
        cases j' with
        | zero =>
          cases (Option.some.inj hq' : a = k'); rw [ha] at hl'; cases hl'
          rw [← hp]; exact List.mem_cons_self
        | succ j' => exact List.mem_cons_of_mem _ (h4 j' k' e' (Nat.lt_of_succ_lt_succ hj') hq' hl')

theorem exists_of_mem_candsFrom {score : Entry V → Nat → Nat → S} {m : Store K V} {len : Nat} {q : List K} {x : K × S}
    (hx : x ∈ candsFrom score m len 0 q) :
    ∃ j e, q[j]? = some x.1 ∧ lookup x.1 m = some e ∧ x.2 = score e j len := by
  obtain ⟨pre, post, he⟩ := List.append_of_mem hx
  obtain ⟨j, e, h1, h2, h3, _⟩ := candsFrom_split he
  exact ⟨j, e, h1, h2, h3⟩

/-- `k` is the **first minimiser** of `score` (compared with `lt`) among the stored queue keys:
    it sits at queue index `i` with entry `e`, no stored queue key has a strictly smaller score,
    and every stored queue key in front of it has a strictly larger score. -/
def FirstMinAt (lt : S → S → Bool) (score : Entry V → Nat → Nat → S) (m : Store K V) (q : List K)
    (k : K) : Prop :=
  ∃ i e, q[i]? = some k ∧ lookup k m = some e ∧
    (∀ j k' e', q[j]? = some k' → lookup k' m = some e' →
      lt (score e' j q.length) (score e i q.length) = false) ∧
    (∀ j k' e', j < i → q[j]? = some k' → lookup k' m = some e' →
      lt (score e i q.length) (score e' j q.length) = true)

/-! ### The three score functions of `victim` -/

/-- `score < best` on `Nat` -/
abbrev natLt : Nat → Nat → Bool := fun a b => decide (a < b)

theorem strictWeak_natLt : StrictWeak natLt := by
  constructor
  · intro a b _ _ h; exact decide_eq_false (Nat.lt_asymm (of_decide_eq_true h))
  · intro a b c _ _ _ h1 h2
    exact decide_eq_false fun hac => of_decide_eq_false h2
      (Nat.lt_of_le_of_lt (Nat.le_of_not_lt (of_decide_eq_false h1)) hac)

/-- LFU score: the hit counter -/
abbrev lfuScore : Entry V → Nat → Nat → Nat := fun e _ _ => e.hits

/-- ARC score: hits × recency rank -/
abbrev arcScore (cfg : Cfg) : Entry V → Nat → Nat → Nat := fun e i len => e.hits * rank cfg i len

/-- TLRU score in the abstract score type -/
abbrev tlruScore (cfg : Cfg) (tl : Tlru S) (now : Nat) : Entry V → Nat → Nat → S :=
  fun e i len => tl.score cfg e.hits (elapsedMs cfg now e.birth) (rank cfg i len)

/-- the policies whose eviction is a score scan -/
def Scored (cfg : Cfg) : Prop := cfg.policy = .lfu ∨ cfg.policy = .arc ∨ cfg.policy = .tlru

theorem victim_lfu_eq {cfg : Cfg} (tl : Tlru S) (now : Nat) (m : Store K V) (q : List K)
    (hp : cfg.policy = .lfu) : victim cfg tl now m q = firstMin natLt (cands lfuScore m q) := by
  unfold victim; rw [hp]

theorem victim_arc_eq {cfg : Cfg} (tl : Tlru S) (now : Nat) (m : Store K V) (q : List K)
    (hp : cfg.policy = .arc) : victim cfg tl now m q = firstMin natLt (cands (arcScore cfg) m q) := by
  unfold victim; rw [hp]

theorem victim_tlru_eq {cfg : Cfg} (tl : Tlru S) (now : Nat) (m : Store K V) (q : List K)
    (hp : cfg.policy = .tlru) :
    victim cfg tl now m q = firstMin tl.lt (cands (tlruScore cfg tl now) m q) := by
  unfold victim; rw [hp]

theorem rank_pos (cfg : Cfg) {i len : Nat} (h : i < len) : 0 < rank cfg i len := by
  unfold rank
  cases cfg.flavour with
  | async => exact Nat.succ_pos i
  | _ => exact Nat.sub_pos_of_lt h

theorem rank_async {cfg : Cfg} (hf : cfg.flavour = .async) (i len : Nat) : rank cfg i len = i + 1 := by
  unfold rank; rw [hf]

/-! ### Entries with a "zero" score: the first of them is the victim -/

/-- `k` is the first queue key whose stored entry satisfies `Zp` -/
def FirstWith (Zp : Entry V → Prop) (m : Store K V) (q : List K) (k : K) : Prop :=
  ∃ (i : Nat) (e : Entry V), q[i]? = some k ∧ lookup k m = some e ∧ Zp e ∧
    ∀ (j : Nat) k' e', j < i → q[j]? = some k' → lookup k' m = some e' → ¬ Zp e'

theorem FirstWith.unique {Zp : Entry V → Prop} {m : Store K V} {q : List K} {k1 k2 : K}
    (h1 : FirstWith Zp m q k1) (h2 : FirstWith Zp m q k2) : k1 = k2 := by
  obtain ⟨i1, e1, hq1, hl1, hz1, hf1⟩ := h1
  obtain ⟨i2, e2, hq2, hl2, hz2, hf2⟩ := h2
  have : i1 = i2 := by
    apply Classical.byContradiction; intro hne
    rcases Nat.lt_or_gt_of_ne hne with h | h
    · exact hf2 i1 k1 e1 h hq1 hl1 hz1
    · exact hf1 i2 k2 e2 h hq2 hl2 hz2
  subst this
  rw [hq1] at hq2; exact Option.some.inj hq2

/-- If entries satisfying `Zp` score (equivalently to) a bottom element `z`, all other entries score
    strictly above `z`, and some stored queue key satisfies `Zp`, then the first minimiser is the
    first queue key satisfying `Zp` — whatever else the score function does. -/
theorem FirstMinAt.first_zero {P : S → Prop} {lt : S → S → Bool} (h : StrictWeakOn P lt)
    {score : Entry V → Nat → Nat → S} {m : Store K V} {q : List K}
    (hP : ∀ e i, i < q.length → P (score e i q.length))
    {Zp : Entry V → Prop} {z : S} (hPz : P z)
    (hz : ∀ e i, i < q.length → Zp e → lt z (score e i q.length) = false)
    (hpos : ∀ e i, i < q.length → ¬ Zp e → lt z (score e i q.length) = true)
    (hbot : ∀ s, P s → lt s z = false)
    (hex : ∃ (j : Nat) (k0 : K) (e0 : Entry V), q[j]? = some k0 ∧ lookup k0 m = some e0 ∧ Zp e0)
    {k : K} (hk : FirstMinAt lt score m q k) : FirstWith Zp m q k := by
  obtain ⟨i, e, hq, hl, hmin, hfirst⟩ := hk
  obtain ⟨j0, k0, e0, hq0, hl0, hz0⟩ := hex
  have hi := getElem?_lt hq
  have hj0 := getElem?_lt hq0
  refine ⟨i, e, hq, hl, Classical.byContradiction fun hn => ?_, fun j k' e' hj hq' hl' hz' => ?_⟩
  · -- `z` is not below `e0`'s score, which is not below `e`'s: so `z` is not below `e`'s score
    have := h.negTrans _ _ _ hPz (hP e0 j0 hj0) (hP e i hi) (hz e0 j0 hj0 hz0) (hmin j0 k0 e0 hq0 hl0)
    rw [hpos e i hi hn] at this; cases this
  · -- `e`'s score is not below `z`, which is not below `e'`'s: so `e` does not score below `e'`
    have hj' := getElem?_lt hq'
    have := h.negTrans _ _ _ (hP e i hi) hPz (hP e' j hj') (hbot _ (hP e i hi)) (hz e' j hj' hz')
    rw [hfirst j k' e' hj hq' hl'] at this; cases this

/-! ### Chains of evictions -/

/-- `(m', q')` is reached from `(m, q)` by removing keys `x₁, x₂, …` one after the other (from the
    store and from the queue), each `xᵢ` satisfying `Φ` in the store/queue it is removed from. -/
inductive EvictChain (Φ : Store K V → List K → K → Prop) :
    Store K V → List K → Store K V → List K → Prop
  | nil (m : Store K V) (q : List K) : EvictChain Φ m q m q
  | cons {m : Store K V} {q : List K} {x : K} {m' : Store K V} {q' : List K} :
      Φ m q x → EvictChain Φ (eraseKey x m) (q.filter (fun y => y ≠ x)) m' q' → EvictChain Φ m q m' q'

theorem EvictChain.mono {Φ Ψ : Store K V → List K → K → Prop} (hΦ : ∀ m q x, Φ m q x → Ψ m q x)
    {m : Store K V} {q : List K} {m' : Store K V} {q' : List K} (h : EvictChain Φ m q m' q') :
    EvictChain Ψ m q m' q' := by
  induction h with
  | nil m q => exact .nil m q
  | cons hx _ ih => exact .cons (hΦ _ _ _ hx) ih

theorem EvictChain.trans {Φ : Store K V → List K → K → Prop}
    {m : Store K V} {q : List K} {m1 : Store K V} {q1 : List K} {m2 : Store K V} {q2 : List K}
    (h1 : EvictChain Φ m q m1 q1) (h2 : EvictChain Φ m1 q1 m2 q2) : EvictChain Φ m q m2 q2 := by
  induction h1 with
  | nil m q => exact h2
  | cons hx _ ih => exact .cons hx (ih h2)

theorem EvictChain.single {Φ : Store K V → List K → K → Prop} {m : Store K V} {q : List K} {x : K}
    (h : Φ m q x) : EvictChain Φ m q (eraseKey x m) (q.filter (fun y => y ≠ x)) :=
  .cons h (.nil _ _)

theorem EvictChain.lookup_sub {Φ : Store K V → List K → K → Prop}
    {m : Store K V} {q : List K} {m' : Store K V} {q' : List K} (h : EvictChain Φ m q m' q')
    {k : K} {e : Entry V} (hl : lookup k m' = some e) : lookup k m = some e := by
  induction h with
  | nil m q => exact hl
  | @cons m q x m' q' hx hc ih =>
    have := ih hl
    by_cases hxk : k = x
    · subst hxk; rw [lookup_eraseKey_self] at this; cases this
    · rwa [lookup_eraseKey_ne hxk] at this

theorem EvictChain.removed {Φ : Store K V → List K → K → Prop}
    {m : Store K V} {q : List K} {m' : Store K V} {q' : List K} (h : EvictChain Φ m q m' q')
    {x : K} (hx : x ∈ keys m) (hx' : x ∉ keys m') :
    ∃ mi qi, EvictChain Φ m q mi qi ∧ Φ mi qi x := by
  induction h with
  | nil m q => exact absurd hx hx'
  | @cons m q y m' q' hy hc ih =>
    by_cases hxy : x = y
    · subst hxy; exact ⟨m, q, .nil _ _, hy⟩
    · have : x ∈ keys (eraseKey y m) := by
        rw [keys_eraseKey]; exact List.mem_filter.mpr ⟨hx, by simpa using hxy⟩
      obtain ⟨mi, qi, c, hΦ⟩ := ih this hx'
      exact ⟨mi, qi, .cons hy c, hΦ⟩

theorem evictScored_eq {m : Store K V} {q : List K} (h : InvMQ m q) (cfg : Cfg) (tl : Tlru S) (now : Nat) :
    evictScored cfg tl now m q =
      match victim cfg tl now m q with
      | none => (m, q, false)
      | some x => (eraseKey x m, q.filter (fun y => y ≠ x), true) := by
  unfold evictScored
  cases victim cfg tl now m q with
  | none => rfl
  | some x => simp only [removeBoth_eq h cfg x]

theorem evictLimit_scored {cfg : Cfg} (hp : Scored cfg) (tl : Tlru S) (now r : Nat) (m : Store K V) (q : List K) :
    evictLimit cfg tl now r m q = evictScored cfg tl now m q := by
  unfold evictLimit
  rcases hp with hp | hp | hp <;> rw [hp]

theorem evictMem_scored {cfg : Cfg} (hp : Scored cfg) (tl : Tlru S) (now r : Nat) (m : Store K V) (q : List K) :
    evictMem cfg tl now r m q = evictScored cfg tl now m q := by
  unfold evictMem
  rcases hp with hp | hp | hp <;> rw [hp]

/-- the eviction predicate of the scored policies: consistent state, `x` is the scan's victim -/
def IsVictim (cfg : Cfg) (tl : Tlru S) (now : Nat) (m : Store K V) (q : List K) (x : K) : Prop :=
  InvMQ m q ∧ victim cfg tl now m q = some x

/-- What lets one say more about the stores the victims of a store operation are taken from: a property `I`
    that survives every removal and implies `J` wherever the eviction phase removes something, that is, while
    the memory bound (with `extra` more bytes to come) or the entry limit is exceeded.  `J` then holds at every
    removal (`evictPhase_chain`). -/
structure Guarded (cfg : Cfg) (size : V → Nat) (extra : Nat) (I J : Store K V → Prop) : Prop where
  erase : ∀ m x, I m → I (eraseKey x m)
  mem : ∀ {maxM m}, cfg.maxMem = some maxM → ¬ totalMem size m + extra ≤ maxM → I m → J m
  lim : ∀ {n m q}, cfg.limit = some n → InvMQ m q → overLimit cfg n m q = true → I m → J m

theorem Guarded.trivial (cfg : Cfg) (size : V → Nat) (extra : Nat) :
    Guarded cfg size extra (fun _ : Store K V => True) (fun _ => True) :=
  ⟨fun _ _ _ => True.intro, fun _ _ _ => True.intro, fun _ _ _ _ => True.intro⟩

theorem limitStep_chain {cfg : Cfg} (hp : Scored cfg) (tl : Tlru S) (now r : Nat) {I J : Store K V → Prop}
    (hlim : ∀ {n m q}, cfg.limit = some n → InvMQ m q → overLimit cfg n m q = true → I m → J m)
    {m : Store K V} {q : List K} (h : InvMQ m q) (hm : I m) :
    EvictChain (fun m q x => IsVictim cfg tl now m q x ∧ J m) m q
      (limitStep cfg tl now r m q).1 (limitStep cfg tl now r m q).2 := by
  cases hl : cfg.limit with
  | none => rw [limitStep_none hl]; exact .nil m q
  | some n =>
    rw [limitStep_some hl]
    by_cases ho : overLimit cfg n m q = true
    · rw [if_pos ho, evictLimit_scored hp, evictScored_eq h]
      cases hv : victim cfg tl now m q with
      | none => exact .nil m q
      | some x => exact .single ⟨⟨h, hv⟩, hlim hl h ho hm⟩
    · rw [if_neg ho]; exact .nil m q

theorem memLoop_chain {cfg : Cfg} (hp : Scored cfg) (tl : Tlru S) (size : V → Nat) (now maxM extra : Nat)
    {I J : Store K V → Prop} (herase : ∀ m x, I m → I (eraseKey x m))
    (hmem : ∀ {m}, ¬ totalMem size m + extra ≤ maxM → I m → J m)
    (fuel : Nat) (rs : List Nat) {m : Store K V} {q : List K} (h : InvMQ m q) (hm : I m) :
    EvictChain (fun m q x => IsVictim cfg tl now m q x ∧ J m) m q
      (memLoop cfg tl size now maxM extra fuel rs m q).1
      (memLoop cfg tl size now maxM extra fuel rs m q).2.1 ∧
    I (memLoop cfg tl size now maxM extra fuel rs m q).1 := by
  refine memLoop_rel (R := fun m q m' q' => I m → EvictChain _ m q m' q' ∧ I m')
    (fun m q hm => ⟨.nil m q, hm⟩) ?_ fuel rs h hm
  intro m q m' q' r hi hfit hev ih hm
  rw [evictMem_scored hp, evictScored_eq hi] at hev ih
  cases hv : victim cfg tl now m q with
  | none => rw [hv] at hev; cases hev
  | some x =>
    rw [hv] at ih
    obtain ⟨c, hm'⟩ := ih (herase m x hm)
    exact ⟨.cons ⟨⟨hi, hv⟩, hmem hfit hm⟩ c, hm'⟩

theorem evictPhase_chain {cfg : Cfg} (hp : Scored cfg) (tl : Tlru S) {size : V → Nat} (now : Nat) {extra : Nat}
    (rs : List Nat) {I J : Store K V → Prop} (g : Guarded cfg size extra I J)
    {m : Store K V} {q : List K} (h : InvMQ m q) (hm : I m) :
    EvictChain (fun m q x => IsVictim cfg tl now m q x ∧ J m) m q
      (evictPhase cfg tl size now extra rs m q).1 (evictPhase cfg tl size now extra rs m q).2 := by
  cases hmax : cfg.maxMem with
  | none => rw [evictPhase_none hmax]; exact limitStep_chain hp tl now _ g.lim h hm
  | some maxM =>
    rw [evictPhase_some hmax]
    obtain ⟨c, hm'⟩ := memLoop_chain hp tl size now maxM extra g.erase (g.mem hmax) (q.length + 1) rs h hm
    exact c.trans (limitStep_chain hp tl now _ g.lim (memLoop_inv cfg tl size now maxM extra _ rs h) hm')

/-! ### Normal form of the two store operations -/

/-- store and queue on which the evictions of a store of `k` act: sync engines have already written
    the newcomer (hits = 0) and moved the key to the back; the async engine has only dropped a
    previous entry of the same key -/
def preEvict (cfg : Cfg) (s : State K V) (k : K) (v : V) : Store K V × List K :=
  match cfg.flavour with
  | .async =>
    if hasKey k s.store then (eraseKey k s.store, s.queue.filter (fun x => x ≠ k)) else (s.store, s.queue)
  | _ => (put k ⟨v, stamp cfg s.now, 0⟩ s.store, erasePush k s.queue)

/-- what happens to the store after the evictions: the async engine writes the newcomer now -/
def finishStore (cfg : Cfg) (s : State K V) (k : K) (v : V) (m : Store K V) : Store K V :=
  match cfg.flavour with
  | .async => put k ⟨v, stamp cfg s.now, 0⟩ m
  | _ => m

/-- what happens to the queue after the evictions: the async engine appends the key now -/
def finishQueue (cfg : Cfg) (k : K) (q : List K) : List K :=
  match cfg.flavour with
  | .async => q ++ [k]
  | _ => q

/-- the `extra` argument of the memory loop: the async engine has not yet written the newcomer -/
def memExtra (cfg : Cfg) (size : V → Nat) (v : V) : Nat :=
  if cfg.flavour = .async then size v else 0

theorem preEvict_sync {cfg : Cfg} (hf : cfg.flavour ≠ .async) (s : State K V) (k : K) (v : V) :
    preEvict cfg s k v = (put k ⟨v, stamp cfg s.now, 0⟩ s.store, erasePush k s.queue) := by
  unfold preEvict
  cases h : cfg.flavour with
  | async => exact absurd h hf
  | _ => rfl

theorem preEvict_async {cfg : Cfg} (hf : cfg.flavour = .async) {s : State K V} (hi : Inv s) (k : K) (v : V) :
    preEvict cfg s k v = (eraseKey k s.store, s.queue.filter (fun x => x ≠ k)) := by
  unfold preEvict; rw [hf]; exact asyncDrop_of_inv hi k

theorem finishStore_sync {cfg : Cfg} (hf : cfg.flavour ≠ .async) (s : State K V) (k : K) (v : V)
    (m : Store K V) : finishStore cfg s k v m = m := by
  unfold finishStore
  cases h : cfg.flavour with
  | async => exact absurd h hf
  | _ => rfl

theorem finishStore_async {cfg : Cfg} (hf : cfg.flavour = .async) (s : State K V) (k : K) (v : V)
    (m : Store K V) : finishStore cfg s k v m = put k ⟨v, stamp cfg s.now, 0⟩ m := by
  unfold finishStore; rw [hf]

section
omit [DecidableEq K]

theorem finishQueue_sync {cfg : Cfg} (hf : cfg.flavour ≠ .async) (k : K) (q : List K) :
    finishQueue cfg k q = q := by
  unfold finishQueue
  cases h : cfg.flavour with
  | async => exact absurd h hf
  | _ => rfl

theorem finishQueue_async {cfg : Cfg} (hf : cfg.flavour = .async) (k : K) (q : List K) :
    finishQueue cfg k q = q ++ [k] := by
  unfold finishQueue; rw [hf]

end

theorem memExtra_sync {cfg : Cfg} (hf : cfg.flavour ≠ .async) (size : V → Nat) (v : V) :
    memExtra cfg size v = 0 :=
  if_neg hf

theorem memExtra_async {cfg : Cfg} (hf : cfg.flavour = .async) (size : V → Nat) (v : V) :
    memExtra cfg size v = size v :=
  if_pos hf

theorem memExtra_le (cfg : Cfg) {size : V → Nat} {v : V} {maxM : Nat} (hv : size v ≤ maxM) :
    memExtra cfg size v ≤ maxM := by
  unfold memExtra
  split
  · exact hv
  · exact Nat.zero_le _

theorem preEvict_inv (cfg : Cfg) {s : State K V} (k : K) (v : V) (hi : Inv s) :
    InvMQ (preEvict cfg s k v).1 (preEvict cfg s k v).2 := by
  by_cases hf : cfg.flavour = .async
  · rw [preEvict_async hf hi]; exact hi.remove k
  · rw [preEvict_sync hf]; exact InvMQ.put_erasePush hi k _

/-- the shape shared by the two store operations (`storeVia`), in this vocabulary -/
theorem storeVia_eq (cfg : Cfg) (ev : Store K V → List K → Store K V × List K) (s : State K V) (k : K) (v : V) :
    storeVia cfg ev s k v =
      { s with
        store := finishStore cfg s k v (ev (preEvict cfg s k v).1 (preEvict cfg s k v).2).1
        queue := finishQueue cfg k (ev (preEvict cfg s k v).1 (preEvict cfg s k v).2).2 } := by
  unfold storeVia preEvict finishStore finishQueue
  cases cfg.flavour <;> rfl

/-- `insert` = pre-eviction state, entry-limit step, finish (all flavours, all policies) -/
theorem insert_eq (cfg : Cfg) (tl : Tlru S) (r : Nat) (s : State K V) (k : K) (v : V) :
    insert cfg tl r s k v =
      { s with
        store := finishStore cfg s k v (limitStep cfg tl s.now r (preEvict cfg s k v).1 (preEvict cfg s k v).2).1
        queue := finishQueue cfg k (limitStep cfg tl s.now r (preEvict cfg s k v).1 (preEvict cfg s k v).2).2 } := by
  rw [insert_eq_storeVia, storeVia_eq]

theorem insertMem_eq {cfg : Cfg} {size : V → Nat} {v : V} (hno : oversize cfg size v = false) (tl : Tlru S)
    (rs : List Nat) (s : State K V) (k : K) :
    insertMem cfg tl size rs s k v =
      { s with
        store := finishStore cfg s k v (evictPhase cfg tl size s.now (memExtra cfg size v) rs
          (preEvict cfg s k v).1 (preEvict cfg s k v).2).1
        queue := finishQueue cfg k (evictPhase cfg tl size s.now (memExtra cfg size v) rs
          (preEvict cfg s k v).1 (preEvict cfg s k v).2).2 } := by
  rw [insertMem_eq_storeVia hno, storeVia_eq]; rfl

/-- what the loop compares with the bound on entry, in every flavour: the other entries plus the newcomer -/
theorem totalMem_preEvict (cfg : Cfg) (size : V → Nat) {s : State K V} (hi : Inv s) (k : K) (v : V) :
    totalMem size (preEvict cfg s k v).1 + memExtra cfg size v =
      totalMem size (eraseKey k s.store) + size v := by
  by_cases hf : cfg.flavour = .async
  · rw [preEvict_async hf hi, memExtra_async hf]
  · rw [preEvict_sync hf, memExtra_sync hf]; exact totalMem_put size k _ s.store

theorem totalMem_finishStore_le (cfg : Cfg) (size : V → Nat) (s : State K V) (k : K) (v : V) (m : Store K V) :
    totalMem size (finishStore cfg s k v m) ≤ totalMem size m + memExtra cfg size v := by
  by_cases hf : cfg.flavour = .async
  · rw [finishStore_async hf, memExtra_async hf, totalMem_put]
    exact Nat.add_le_add_right (totalMem_eraseKey_le size k m) _
  · rw [finishStore_sync hf]; exact Nat.le_add_right _ _

/-! ### The two store operations of a scored policy as chains of victims -/

theorem insert_chain {cfg : Cfg} (hp : Scored cfg) (tl : Tlru S) (r : Nat) {s : State K V} (k : K) (v : V)
    (hi : Inv s) {I J : Store K V → Prop}
    (hlim : ∀ {n m q}, cfg.limit = some n → InvMQ m q → overLimit cfg n m q = true → I m → J m)
    (h0 : I (preEvict cfg s k v).1) :
    ∃ m1 q1, EvictChain (fun m q x => IsVictim cfg tl s.now m q x ∧ J m)
        (preEvict cfg s k v).1 (preEvict cfg s k v).2 m1 q1 ∧
      (insert cfg tl r s k v).store = finishStore cfg s k v m1 ∧
      (insert cfg tl r s k v).queue = finishQueue cfg k q1 := by
  rw [insert_eq]
  exact ⟨_, _, limitStep_chain hp tl s.now r hlim (preEvict_inv cfg k v hi) h0, rfl, rfl⟩

theorem insertMem_chain {cfg : Cfg} (hp : Scored cfg) (tl : Tlru S) (size : V → Nat) (rs : List Nat)
    {s : State K V} (k : K) (v : V) (hi : Inv s) {I J : Store K V → Prop}
    (g : Guarded cfg size (memExtra cfg size v) I J) (h0 : I (preEvict cfg s k v).1) :
    (∃ maxM, cfg.maxMem = some maxM ∧ size v > maxM) ∨
    ∃ m2 q2, EvictChain (fun m q x => IsVictim cfg tl s.now m q x ∧ J m)
        (preEvict cfg s k v).1 (preEvict cfg s k v).2 m2 q2 ∧
      (insertMem cfg tl size rs s k v).store = finishStore cfg s k v m2 ∧
      (insertMem cfg tl size rs s k v).queue = finishQueue cfg k q2 := by
  cases hov : oversize cfg size v with
  | true => exact Or.inl (oversize_true hov)
  | false =>
    rw [insertMem_eq hov]
    exact Or.inr ⟨_, _, evictPhase_chain hp tl s.now rs g (preEvict_inv cfg k v hi) h0, rfl, rfl⟩

theorem insert_victims {cfg : Cfg} (hp : Scored cfg) (tl : Tlru S) (r : Nat) {s : State K V} (k : K) (v : V)
    (hi : Inv s) :
    ∃ m1 q1, EvictChain (IsVictim cfg tl s.now) (preEvict cfg s k v).1 (preEvict cfg s k v).2 m1 q1 ∧
      (insert cfg tl r s k v).store = finishStore cfg s k v m1 ∧
      (insert cfg tl r s k v).queue = finishQueue cfg k q1 := by
  obtain ⟨m1, q1, c, h⟩ :=
    insert_chain hp tl r k v hi (I := fun _ => True) (J := fun _ => True) (fun _ _ _ _ => trivial) trivial
  exact ⟨m1, q1, c.mono fun _ _ _ hx => hx.1, h⟩

theorem insertMem_victims {cfg : Cfg} (hp : Scored cfg) (tl : Tlru S) (size : V → Nat) (rs : List Nat)
    {s : State K V} (k : K) (v : V) (hi : Inv s) :
    (∃ maxM, cfg.maxMem = some maxM ∧ size v > maxM) ∨
    ∃ m2 q2, EvictChain (IsVictim cfg tl s.now) (preEvict cfg s k v).1 (preEvict cfg s k v).2 m2 q2 ∧
      (insertMem cfg tl size rs s k v).store = finishStore cfg s k v m2 ∧
      (insertMem cfg tl size rs s k v).queue = finishQueue cfg k q2 :=
  (insertMem_chain hp tl size rs k v hi (.trivial cfg size _) trivial).imp id
    fun ⟨m2, q2, c, h⟩ => ⟨m2, q2, c.mono fun _ _ _ hx => hx.1, h⟩

/-- `k` is stored with a never-hit entry (as the newcomer of a sync store is until it is evicted) -/
def Newcomer (k : K) (m : Store K V) : Prop := ∃ e0, lookup k m = some e0 ∧ e0.hits = 0

/-- the eviction predicate of the sync engines: the scan's victim, chosen while the newcomer is still stored -/
def IsVictimWith (cfg : Cfg) (tl : Tlru S) (now : Nat) (k : K) (m : Store K V) (q : List K) (x : K) : Prop :=
  IsVictim cfg tl now m q x ∧ Newcomer k m

theorem preEvict_sync_newcomer {cfg : Cfg} (hf : cfg.flavour ≠ .async) (s : State K V) (k : K) (v : V) :
    Newcomer k (preEvict cfg s k v).1 := by
  rw [preEvict_sync hf]
  exact ⟨_, lookup_put_self _ _ _, rfl⟩

theorem insert_chain_sync {cfg : Cfg} (hp : Scored cfg) (hf : cfg.flavour ≠ .async) (tl : Tlru S) (r : Nat)
    {s : State K V} (k : K) (v : V) (hi : Inv s) :
    ∃ m1 q1, EvictChain (IsVictimWith cfg tl s.now k) (preEvict cfg s k v).1 (preEvict cfg s k v).2 m1 q1 ∧
      (insert cfg tl r s k v).store = m1 ∧ (insert cfg tl r s k v).queue = q1 := by
  obtain ⟨m1, q1, c, h1, h2⟩ :=
    insert_chain hp tl r k v hi (I := Newcomer k) (fun _ _ _ hm => hm) (preEvict_sync_newcomer hf s k v)
  exact ⟨m1, q1, c, h1.trans (finishStore_sync hf s k v m1), h2.trans (finishQueue_sync hf k q1)⟩

/-- `m` respects the memory bound and the entry limit of `cfg` -/
def Within (cfg : Cfg) (size : V → Nat) (m : Store K V) : Prop :=
  (∀ maxM, cfg.maxMem = some maxM → totalMem size m ≤ maxM) ∧ (∀ n, cfg.limit = some n → m.length ≤ n)

theorem Within.eraseKey {cfg : Cfg} {size : V → Nat} {m : Store K V} (h : Within cfg size m) (x : K) :
    Within cfg size (eraseKey x m) :=
  ⟨fun maxM hM => Nat.le_trans (totalMem_eraseKey_le size x m) (h.1 maxM hM),
   fun n hn => Nat.le_trans (length_eraseKey_le x m) (h.2 n hn)⟩

/-- Sync engines, started within the memory bound and the entry limit: as long as the newcomer `k` is stored
    the other entries are within both, and once it has been evicted the whole store is — so the eviction
    phase removes nothing more, and every victim was chosen with the newcomer present. -/
theorem guarded_sync {cfg : Cfg} (hf : cfg.flavour ≠ .async) (size : V → Nat) (v : V) (k : K) :
    Guarded cfg size (memExtra cfg size v)
      (fun m => (Newcomer k m ∧ Within cfg size (eraseKey k m)) ∨ Within cfg size m) (Newcomer k) where
  erase := by
    intro m x hI
    rcases hI with ⟨hk, hw⟩ | hw
    · by_cases hxk : x = k
      · right; rw [hxk]; exact hw
      · left
        refine ⟨?_, by rw [eraseKey_comm]; exact hw.eraseKey x⟩
        unfold Newcomer; rw [lookup_eraseKey_ne (fun hh => hxk hh.symm)]; exact hk
    · right; exact hw.eraseKey x
  mem := by
    intro maxM m hM hfit hI
    rw [memExtra_sync hf] at hfit
    exact (hI.resolve_right fun hw => hfit (hw.1 maxM hM)).1
  lim := by
    intro n m q hl h ho hI
    have ho : n < q.length := (overLimit_sync_iff hf n m q).mp ho
    exact (hI.resolve_right fun hw => Nat.not_le_of_gt ho (h.length_eq ▸ hw.2 n hl)).1

/-- Sync engines, memory-aware store, started in a state that respects the memory bound and the entry
    limit (the invariants of C05 / C04): every victim of the memory loop and of the final entry-limit
    step is chosen with the newcomer still present. -/
theorem insertMem_chain_sync {cfg : Cfg} (hp : Scored cfg) (hf : cfg.flavour ≠ .async) (tl : Tlru S)
    (size : V → Nat) (rs : List Nat) {s : State K V} (k : K) (v : V) (hi : Inv s)
    (hmem : ∀ maxM, cfg.maxMem = some maxM → totalMem size s.store ≤ maxM)
    (hlim : ∀ n, cfg.limit = some n → s.store.length ≤ n) :
    (∃ maxM, cfg.maxMem = some maxM ∧ size v > maxM) ∨
    ∃ m2 q2, EvictChain (IsVictimWith cfg tl s.now k) (preEvict cfg s k v).1 (preEvict cfg s k v).2 m2 q2 ∧
      (insertMem cfg tl size rs s k v).store = m2 ∧ (insertMem cfg tl size rs s k v).queue = q2 := by
  have h0 : Within cfg size (eraseKey k (preEvict cfg s k v).1) := by
    rw [preEvict_sync hf, eraseKey_after_put]; exact Within.eraseKey ⟨hmem, hlim⟩ k
  refine (insertMem_chain hp tl size rs k v hi (guarded_sync hf size v k)
    (Or.inl ⟨preEvict_sync_newcomer hf s k v, h0⟩)).imp id ?_
  intro ⟨m2, q2, c, h1, h2⟩
  exact ⟨m2, q2, c, h1.trans (finishStore_sync hf s k v m2), h2.trans (finishQueue_sync hf k q2)⟩

/-! ### Hit counting -/

/-- effect of one completed operation (with its output) on the ghost hit count of `k`:
    a store of `k` resets it, a successful lookup of `k` increments it -/
def hitsStep (k : K) (n : Nat) : Op K V → Out V → Nat
  | .get k', .val (some _) => if k' = k then n + 1 else n
  | .insert k' _, _ => if k' = k then 0 else n
  | .insertMem k' _, _ => if k' = k then 0 else n
  | _, _ => n

/-- ghost hit count of `k` after a history with its outputs, starting from `n`: the number of
    successful lookups of `k` since the latest store of `k` (or since the start, plus `n`) -/
def ghostHits (k : K) : Nat → List (Op K V × List Nat) → List (Out V) → Nat
  | n, a :: ops, o :: os => ghostHits k (hitsStep k n a.1 o) ops os
  | n, _, _ => n

/-- every stored entry's hit counter agrees with the ghost count `g` (hit-counting policies) or is
    zero (the others) -/
def HitsOK (cfg : Cfg) (s : State K V) (g : K → Nat) : Prop :=
  ∀ k e, lookup k s.store = some e → e.hits = if cfg.policy.bumps then g k else 0

theorem storeVia_lookup {cfg : Cfg} {ev : Store K V → List K → Store K V × List K}
    (hev : ∀ {m q}, InvMQ m q → Shrunk m q (ev m q)) {s : State K V} (hi : Inv s) (k : K) (v : V) {x : K}
    {e : Entry V} (h : lookup x (storeVia cfg ev s k v).store = some e) :
    (x = k ∧ e.hits = 0) ∨ (x ≠ k ∧ lookup x s.store = some e) := by
  by_cases hf : cfg.flavour = .async
  · rw [storeVia_async hf ev hi] at h
    rcases lookup_put_sub h with ⟨hx, he⟩ | ⟨_, h⟩
    · exact Or.inl ⟨hx, he ▸ rfl⟩
    · exact Or.inr (lookup_eraseKey_sub ((hev (hi.remove k)).lookup_sub h))
  · rw [storeVia_sync hf] at h
    exact (lookup_put_sub ((hev (InvMQ.put_erasePush hi k _)).lookup_sub h)).imp
      (fun ⟨hx, he⟩ => ⟨hx, he ▸ rfl⟩) id

theorem insert_lookup (cfg : Cfg) (tl : Tlru S) (r : Nat) {s : State K V} (k : K) (v : V) (hi : Inv s)
    {x : K} {e : Entry V} (h : lookup x (insert cfg tl r s k v).store = some e) :
    (x = k ∧ e.hits = 0) ∨ (x ≠ k ∧ lookup x s.store = some e) := by
  rw [insert_eq_storeVia] at h
  exact storeVia_lookup (fun hm => limitStep_shrunk hm cfg tl s.now r) hi k v h

theorem insertMem_lookup (cfg : Cfg) (tl : Tlru S) (size : V → Nat) (rs : List Nat) {s : State K V} (k : K) (v : V)
    (hi : Inv s) {x : K} {e : Entry V} (h : lookup x (insertMem cfg tl size rs s k v).store = some e) :
    (x = k ∧ e.hits = 0) ∨ (x ≠ k ∧ lookup x s.store = some e) := by
  cases hov : oversize cfg size v with
  | true => rw [insertMem_oversize hov tl rs hi k] at h; exact Or.inr (lookup_eraseKey_sub h)
  | false =>
    rw [insertMem_eq_storeVia hov] at h
    exact storeVia_lookup (fun hm => evictPhase_shrunk cfg tl size s.now _ rs hm) hi k v h

theorem hits_after_store {cfg : Cfg} {s : State K V} {g : K → Nat} (hg : HitsOK cfg s g) {k x : K} {e : Entry V}
    (h : (x = k ∧ e.hits = 0) ∨ (x ≠ k ∧ lookup x s.store = some e)) :
    e.hits = if cfg.policy.bumps then (if k = x then 0 else g x) else 0 := by
  rcases h with ⟨hxk, h0⟩ | ⟨hxk, h1⟩
  · rw [if_pos hxk.symm, ite_self]; exact h0
  · rw [if_neg (show ¬ k = x from fun hh => hxk hh.symm)]; exact hg x e h1

theorem step_hits (cfg : Cfg) (tl : Tlru S) (size : V → Nat) (rs : List Nat) (s : State K V) (op : Op K V)
    (g : K → Nat) (hi : Inv s) (hg : HitsOK cfg s g) :
    HitsOK cfg (step cfg tl size rs s op).1 (fun k => hitsStep k (g k) op (step cfg tl size rs s op).2) := by
  intro x e hl
  cases op with
  | get k =>
    change lookup x (get cfg s k).1.store = some e at hl
    show e.hits = if cfg.policy.bumps then hitsStep x (g x) (.get k) (.val (get cfg s k).2) else 0
    cases hk : lookup k s.store with
    | none => rw [get_miss hk] at hl ⊢; exact hg x e hl
    | some ek =>
      cases hx : expired cfg s.now ek with
      | true =>
        rw [get_expired hk hx] at hl ⊢
        rw [removeBoth_eq hi] at hl
        exact hg x e (lookup_eraseKey_sub hl).2
      | false =>
        rw [get_hit hk hx] at hl ⊢
        rw [hitUpdate_store] at hl
        -- a hit: the ghost count of `k` goes up by one
        show e.hits = if cfg.policy.bumps then (if k = x then g x + 1 else g x) else 0
        by_cases hb : cfg.policy.bumps = true
        · rw [if_pos hb] at hl ⊢
          unfold bumpHits at hl
          by_cases hxk : k = x
          · subst hxk
            rw [lookup_modify_self, hk] at hl
            cases hl
            have := hg k ek hk
            rw [if_pos hb] at this
            rw [if_pos rfl]; exact congrArg (· + 1) this
          · rw [lookup_modify_ne (fun hh => hxk hh.symm)] at hl
            have := hg x e hl
            rw [if_pos hb] at this
            rw [if_neg hxk]; exact this
        · rw [if_neg hb] at hl ⊢
          have := hg x e hl
          rwa [if_neg hb] at this
  | insert k v => exact hits_after_store hg (insert_lookup cfg tl _ k v hi hl)
  | insertMem k v => exact hits_after_store hg (insertMem_lookup cfg tl size rs k v hi hl)
  | clear => cases (show (none : Option (Entry V)) = some e from hl)
  | invalidateWith p => exact hg x e ((invalidateWith_shrunk p hi).lookup_sub hl)
  | tick ms => exact hg x e hl

/-! ### Vocabulary of the C08 statements -/

theorem stored_has_index {m : Store K V} {q : List K} (hi : InvMQ m q) {k : K} {e : Entry V}
    (h : lookup k m = some e) : ∃ j : Nat, q[j]? = some k :=
  List.mem_iff_getElem?.mp ((hi.2.2 k).mpr (mem_keys_of_lookup h))

/-- `x` is stored in `m` and no stored entry has fewer hits -/
def MinHits (m : Store K V) (x : K) : Prop :=
  ∃ e, lookup x m = some e ∧ ∀ k' e', lookup k' m = some e' → e.hits ≤ e'.hits

/-- what the scan guarantees for its victim, per policy: the first minimiser of the policy's score -/
def VictimSpec (cfg : Cfg) (tl : Tlru S) (now : Nat) (m : Store K V) (q : List K) (x : K) : Prop :=
  match cfg.policy with
  | .lfu => FirstMinAt natLt lfuScore m q x
  | .arc => FirstMinAt natLt (arcScore cfg) m q x
  | .tlru => FirstMinAt tl.lt (tlruScore cfg tl now) m q x
  | _ => False

/-- A TLRU scorer with a bottom score `z`: exactly the (hits, elapsed) pairs in `Z` ("a zero factor":
    never hit, or no lifetime left) score like `z`, everything else scores strictly above `z` at every
    positive rank, and nothing scores below `z`.  Both the linear-weight and the power-weight
    formula, with either rank orientation, are of this kind for a positive weight. -/
structure ZeroLike (cfg : Cfg) (tl : Tlru S) (P : S → Prop) (z : S) (Z : Nat → Nat → Prop) : Prop where
  sw : StrictWeakOn P tl.lt
  carrier : ∀ h el r, P (tl.score cfg h el r)
  zero_mem : P z
  bot : ∀ s, P s → tl.lt s z = false
  zero : ∀ h el r, Z h el → tl.lt z (tl.score cfg h el r) = false
  pos : ∀ h el r, 0 < r → ¬ Z h el → tl.lt z (tl.score cfg h el r) = true
  zero_hits : ∀ el, Z 0 el

theorem scan_eq_of_first_with {S' : Type} {lt : S → S → Bool} {lt' : S' → S' → Bool}
    {score : Entry V → Nat → Nat → S} {score' : Entry V → Nat → Nat → S'} {Zp : Entry V → Prop}
    {m : Store K V} {q : List K}
    (h1 : ∀ k, firstMin lt (cands score m q) = some k → FirstWith Zp m q k)
    (h2 : ∀ k, firstMin lt' (cands score' m q) = some k → FirstWith Zp m q k)
    (hex : ∃ (j : Nat) (k0 : K) (e0 : Entry V), q[j]? = some k0 ∧ lookup k0 m = some e0) :
    firstMin lt (cands score m q) = firstMin lt' (cands score' m q) := by
  obtain ⟨j, k0, e0, hq0, hl0⟩ := hex
  have hk0 : k0 ∈ q := List.mem_iff_getElem?.mpr ⟨j, hq0⟩
  have hne : ∀ {T : Type} (l : T → T → Bool) (sc : Entry V → Nat → Nat → T),
      firstMin l (cands sc m q) ≠ none := by
    intro T l sc hn
    exact candsFrom_eq_nil sc m q.length 0 q (firstMin_eq_none hn) k0 hk0 (mem_keys_of_lookup hl0)
  cases ha : firstMin lt (cands score m q) with
  | none => exact absurd ha (hne lt score)
  | some a =>
    cases hb : firstMin lt' (cands score' m q) with
    | none => exact absurd hb (hne lt' score')
    | some b => rw [(h1 a ha).unique (h2 b hb)]

/-! ### An exact-arithmetic TLRU scorer -/

/-- remaining lifetime, scaled by the (constant) ttl in ms so that it is a natural number:
    `ttl_ms − min(elapsed, ttl_ms)`; `1` when no ttl is configured.  With `ttl = some 0` it is `0` at every
    age: the "no lifetime left" disjunct of the `ZeroLike` instances. -/
def lifeNum (cfg : Cfg) (elapsedMs : Nat) : Nat :=
  match cfg.ttl with
  | none => 1
  | some t => t * 1000 - min elapsedMs (t * 1000)

/-- the documented TLRU score `hits^w × rank × remaining-lifetime-fraction` for a natural exponent `w`
    (standing for the `f64` `frequency_weight`), multiplied by the constant `ttl_ms` (which does not change any comparison), compared with `<` on `Nat` -/
def exactTlru (w : Nat) : Tlru Nat :=
  ⟨natLt, fun cfg h el r => h ^ w * r * lifeNum cfg el⟩

/-- the sync engines' formula with a LINEAR natural weight: `(hits × w) × rank × remaining lifetime`
    (`utils.rs:463-515`), in exact arithmetic -/
def linearTlru (w : Nat) : Tlru Nat :=
  ⟨natLt, fun cfg h el r => h * w * r * lifeNum cfg el⟩

/-! ### TLRU without ttl and weight is ARC -/

abbrev asTlru (cfg : Cfg) : Cfg := { cfg with policy := .tlru }
abbrev asArc (cfg : Cfg) : Cfg := { cfg with policy := .arc }

theorem victim_tlru_arc (cfg : Cfg) (httl : cfg.ttl = none) (tl : Tlru S) (now : Nat)
    (m : Store K V) (q : List K) :
    victim (asTlru cfg) (exactTlru 1) now m q = victim (asArc cfg) tl now m q := by
  unfold victim
  simp only [exactTlru, lifeNum, httl, Nat.pow_one, Nat.mul_one]
  rfl

theorem evictScored_tlru_arc (cfg : Cfg) (httl : cfg.ttl = none) (tl : Tlru S) (now : Nat) (m : Store K V) (q : List K) :
    evictScored (asTlru cfg) (exactTlru 1) now m q = evictScored (asArc cfg) tl now m q := by
  unfold evictScored
  rw [victim_tlru_arc cfg httl tl now m q]
  rfl

theorem evictLimit_tlru_arc (cfg : Cfg) (httl : cfg.ttl = none) (tl : Tlru S) (now r : Nat) (m : Store K V) (q : List K) :
    evictLimit (asTlru cfg) (exactTlru 1) now r m q = evictLimit (asArc cfg) tl now r m q :=
  evictScored_tlru_arc cfg httl tl now m q

theorem evictMem_tlru_arc (cfg : Cfg) (httl : cfg.ttl = none) (tl : Tlru S) (now r : Nat) (m : Store K V) (q : List K) :
    evictMem (asTlru cfg) (exactTlru 1) now r m q = evictMem (asArc cfg) tl now r m q :=
  evictScored_tlru_arc cfg httl tl now m q

theorem limitStep_tlru_arc (cfg : Cfg) (httl : cfg.ttl = none) (tl : Tlru S) (now r : Nat) (m : Store K V) (q : List K) :
    limitStep (asTlru cfg) (exactTlru 1) now r m q = limitStep (asArc cfg) tl now r m q := by
  unfold limitStep
  rw [evictLimit_tlru_arc cfg httl tl]
  rfl

theorem memLoop_tlru_arc (cfg : Cfg) (httl : cfg.ttl = none) (tl : Tlru S) (size : V → Nat) (now maxM extra : Nat)
    (fuel : Nat) (rs : List Nat) (m : Store K V) (q : List K) :
    memLoop (asTlru cfg) (exactTlru 1) size now maxM extra fuel rs m q =
      memLoop (asArc cfg) tl size now maxM extra fuel rs m q :=
  memLoop_congr (fun r m q => evictMem_tlru_arc cfg httl tl now r m q) size maxM extra fuel rs m q

theorem get_tlru_arc (cfg : Cfg) (s : State K V) (k : K) : get (asTlru cfg) s k = get (asArc cfg) s k := rfl

theorem insert_tlru_arc (cfg : Cfg) (httl : cfg.ttl = none) (tl : Tlru S) (r : Nat) (s : State K V) (k : K) (v : V) :
    insert (asTlru cfg) (exactTlru 1) r s k v = insert (asArc cfg) tl r s k v := by
  rw [insert_eq, insert_eq, limitStep_tlru_arc cfg httl tl]
  rfl

theorem insertMem_tlru_arc (cfg : Cfg) (httl : cfg.ttl = none) (tl : Tlru S) (size : V → Nat) (rs : List Nat)
    (s : State K V) (k : K) (v : V) :
    insertMem (asTlru cfg) (exactTlru 1) size rs s k v = insertMem (asArc cfg) tl size rs s k v := by
  unfold insertMem
  simp only [memLoop_tlru_arc cfg httl tl, limitStep_tlru_arc cfg httl tl]
  rfl

theorem step_tlru_arc (cfg : Cfg) (httl : cfg.ttl = none) (tl : Tlru S) (size : V → Nat) (rs : List Nat)
    (s : State K V) (op : Op K V) :
    step (asTlru cfg) (exactTlru 1) size rs s op = step (asArc cfg) tl size rs s op := by
  cases op with
  | insert k v => simp only [step, insert_tlru_arc cfg httl tl]
  | insertMem k v => simp only [step, insertMem_tlru_arc cfg httl tl]
  | _ => rfl

end Cachelito

/-! ### The memory bound of one step

  With `max_memory = M`: what one memory-aware store and one operation that is not a store do to the
  footprint.  These are the one-step facts behind `Props/C05.lean` (2), in its namespace; the
  interleaving model uses `C05.step_bound` as well. -/

namespace Cachelito.C05
open Cachelito
variable {K V S : Type} [DecidableEq K]

/-- **Bound after a store of a value that fits on its own.**  With `max_memory = M`, in any consistent
    state (no assumption on the footprint before!), after `insert_with_memory k v` with `size v ≤ M`
    the footprint of the cached values is at most `M`. -/
theorem insertMem_bound_of_fits (cfg : Cfg) (tl : Tlru S) (size : V → Nat) (rs : List Nat) (s : State K V)
    (k : K) (v : V) (M : Nat) (hM : cfg.maxMem = some M) (hi : Inv s) (hv : size v ≤ M) :
    totalMem size (insertMem cfg tl size rs s k v).store ≤ M := by
  rw [insertMem_eq (oversize_of_le hM hv)]
  exact Nat.le_trans (totalMem_finishStore_le cfg size s k v _)
    (evictPhase_fits hM tl size s.now rs (preEvict_inv cfg k v hi) (memExtra_le cfg hv))

/-- A store of an oversize value never increases the footprint (it only removes). -/
theorem insertMem_oversize_le (cfg : Cfg) (tl : Tlru S) (size : V → Nat) (rs : List Nat) (s : State K V)
    (k : K) (v : V) (M : Nat) (hM : cfg.maxMem = some M) (hi : Inv s) (hv : M < size v) :
    totalMem size (insertMem cfg tl size rs s k v).store ≤ totalMem size s.store := by
  rw [insertMem_oversize (oversize_of_lt hM hv) tl rs hi k]
  exact totalMem_eraseKey_le size k s.store

/-- **Bound after any memory-aware store**, oversize or not. -/
theorem insertMem_bound (cfg : Cfg) (tl : Tlru S) (size : V → Nat) (rs : List Nat) (s : State K V)
    (k : K) (v : V) (M : Nat) (hM : cfg.maxMem = some M) (hi : Inv s) (hb : totalMem size s.store ≤ M) :
    totalMem size (insertMem cfg tl size rs s k v).store ≤ M := by
  by_cases hv : size v ≤ M
  · exact insertMem_bound_of_fits cfg tl size rs s k v M hM hi hv
  · exact Nat.le_trans (insertMem_oversize_le cfg tl size rs s k v M hM hi (Nat.lt_of_not_le hv)) hb

theorem step_nonstore_totalMem_le (cfg : Cfg) (tl : Tlru S) (size : V → Nat) (rs : List Nat) (s : State K V) (op : Op K V)
    (hop : ∀ k v, op ≠ .insert k v ∧ op ≠ .insertMem k v) :
    totalMem size (step cfg tl size rs s op).1.store ≤ totalMem size s.store := by
  cases op with
  | get k => exact totalMem_get_le size cfg s k
  | insert k v => exact absurd rfl (hop k v).1
  | insertMem k v => exact absurd rfl (hop k v).2
  | clear => exact Nat.le_trans (Nat.le_of_eq (totalMem_clear size s)) (Nat.zero_le _)
  | invalidateWith p => exact totalMem_invalidateWith_le size p s
  | tick ms => exact Nat.le_refl _

/-- **One step keeps the bound**: every operation other than the plain (estimator-less) `insert`. -/
theorem step_bound (cfg : Cfg) (tl : Tlru S) (size : V → Nat) (rs : List Nat) (s : State K V) (op : Op K V)
    (M : Nat) (hM : cfg.maxMem = some M) (hop : op.viaMem = true) (hi : Inv s)
    (hb : totalMem size s.store ≤ M) :
    totalMem size (step cfg tl size rs s op).1.store ≤ M := by
  cases op with
  | insert k v => cases hop
  | insertMem k v => exact insertMem_bound cfg tl size rs s k v M hM hi hb
  | _ => exact Nat.le_trans (step_nonstore_totalMem_le cfg tl size rs s _ (fun _ _ => ⟨nofun, nofun⟩)) hb

end Cachelito.C05
