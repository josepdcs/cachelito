/-
  Lemmas about the statistics registry as a data structure (`Cachelito/StatsReg.lean`): the name → cell
  table seen through the history of registrations, the counter cells seen through the history of
  `record_hit` / `record_miss` / resets, and the link to the abstraction used by `Cachelito/System.lean`.

  Everything lives in `namespace Cachelito.StatsLemmas`.  Property theorems: `Cachelito/Props/C15r.lean`.
-/
import Cachelito.StatsReg
import Cachelito.Lemmas.Registry
import Cachelito.Lemmas.Calls

namespace Cachelito.StatsLemmas
open Cachelito Cachelito.StatsReg Cachelito.SysLemmas
open Cachelito.Registry (setKey getKey)
open Cachelito.RegLemmas (latest MapRel DistinctNames eq_toList_of_mem_iff)

/-! ### the abstract view of an operation history -/

/-- effect of one operation on "the (name, cell) registrations since the last `clear`" -/
def bindStep (acc : List (String × Cell)) : StatsReg.Op → List (String × Cell)
  | .register n c => acc ++ [(n, c)]
  | .clear => []
  | _ => acc

/-- the `(name, cell)` registrations since the last `clear`, oldest first -/
def bindingsSince (ops : List StatsReg.Op) : List (String × Cell) := ops.foldl bindStep []

theorem bindingsSince_snoc (ops : List StatsReg.Op) (op : StatsReg.Op) :
    bindingsSince (ops ++ [op]) = bindStep (bindingsSince ops) op := by
  unfold bindingsSince; rw [List.foldl_append]; rfl

/-- does `op`, executed when the table is `tbl`, zero cell `c`?  (`CacheStats::reset` on the cell itself, or
    `stats_registry::reset` of a name that is bound to `c`) -/
def zeroesAt (tbl : String → Option Cell) (op : StatsReg.Op) (c : Cell) : Bool :=
  match op with
  | .cellReset c' => decide (c' = c)
  | .reset n => decide (tbl n = some c)
  | _ => false

/-- does `op`, executed after the history `pre`, zero cell `c`?  Stated on the history alone: the name must be
    bound to `c` by its LAST registration since the last `clear`. -/
def zeroes (pre : List StatsReg.Op) (op : StatsReg.Op) (c : Cell) : Bool :=
  zeroesAt (latest (bindingsSince pre)) op c

/-- effect of a recording operation on the counters of cell `c` -/
def bump (c : Cell) (k : Counters) : StatsReg.Op → Counters
  | .recordHit c' => if c' = c then { k with hits := k.hits + 1 } else k
  | .recordMiss c' => if c' = c then { k with misses := k.misses + 1 } else k
  | _ => k

/-- the counters of cell `c` computed from the history alone: scanning `rest` after `pre`, a zeroing operation
    sets them to `0 / 0`, a `record_hit` / `record_miss` on `c` adds one, nothing else matters -/
def tally (c : Cell) : List StatsReg.Op → List StatsReg.Op → Counters → Counters
  | _, [], k => k
  | pre, op :: rest, k => tally c (pre ++ [op]) rest (if zeroes pre op c then Counters.zero else bump c k op)

/-- no operation of `b` (executed after `pre`) zeroes cell `c` -/
def noZero (c : Cell) : List StatsReg.Op → List StatsReg.Op → Bool
  | _, [] => true
  | pre, q :: b => !zeroes pre q c && noZero c (pre ++ [q]) b

/-- number of `record_hit` on cell `c` in `b` -/
def hitCount (c : Cell) (b : List StatsReg.Op) : Nat := b.count (.recordHit c)
/-- number of `record_miss` on cell `c` in `b` -/
def missCount (c : Cell) (b : List StatsReg.Op) : Nat := b.count (.recordMiss c)

/-! ### one step of the model -/

@[simp] theorem write_table (r : Reg) (c : Cell) (k : Counters) : (r.write c k).table = r.table := rfl

/-- reading after a write, with the comparison oriented as in `bump` / `zeroesAt` -/
theorem write_cells (r : Reg) (c : Cell) (k : Counters) (c' : Cell) :
    (r.write c k).cells c' = if c = c' then k else r.cells c' := by
  show (if c' = c then k else r.cells c') = _
  by_cases h : c = c'
  · rw [if_pos h, if_pos h.symm]
  · rw [if_neg h, if_neg (Ne.symm h)]

theorem write_update (r : Reg) (c' c : Cell) (f : Counters → Counters) :
    (r.write c' (f (r.cells c'))).cells c = if c' = c then f (r.cells c) else r.cells c := by
  rw [write_cells]
  by_cases h : c' = c
  · subst h; rfl
  · rw [if_neg h, if_neg h]

theorem reg_ext {a b : Reg} (ht : a.table = b.table) (hc : ∀ c, a.cells c = b.cells c) : a = b := by
  obtain ⟨ta, ca⟩ := a
  obtain ⟨tb, cb⟩ := b
  exact congr (congrArg Reg.mk ht) (funext hc)

theorem step_table (r : Reg) (op : StatsReg.Op) :
    (StatsReg.step r op).1.table =
      match op with
      | .register n c => setKey r.table n c
      | .clear => []
      | _ => r.table := by
  cases op with
  | reset n => simp only [StatsReg.step]; split <;> rfl
  | _ => rfl

theorem step_cells (r : Reg) (op : StatsReg.Op) (c : Cell) :
    (StatsReg.step r op).1.cells c =
      if zeroesAt (getKey r.table) op c then Counters.zero else bump c (r.cells c) op := by
  cases op with
  | reset n =>
    simp only [StatsReg.step, zeroesAt, decide_eq_true_eq]
    cases getKey r.table n with
    | none => rw [if_neg nofun]; rfl
    | some c' => simp only [write_cells, Option.some.injEq, bump]
  | cellReset c' => simp only [StatsReg.step, write_cells, zeroesAt, decide_eq_true_eq, bump]
  | recordHit c' => exact write_update r c' c fun k => { k with hits := k.hits + 1 }
  | recordMiss c' => exact write_update r c' c fun k => { k with misses := k.misses + 1 }
  | _ => rfl

theorem runState_append (r : Reg) (a b : List StatsReg.Op) :
    runState r (a ++ b) = runState (runState r a) b :=
  List.foldl_append

theorem runState_cons (r : Reg) (op : StatsReg.Op) (ops : List StatsReg.Op) :
    runState r (op :: ops) = runState (StatsReg.step r op).1 ops := rfl

theorem runState_table (ops : List StatsReg.Op) (r r' : Reg) (h : r.table = r'.table) :
    (runState r ops).table = (runState r' ops).table := by
  induction ops generalizing r r' with
  | nil => exact h
  | cons op ops ih =>
    rw [runState_cons, runState_cons]
    apply ih
    rw [step_table, step_table, h]

/-! ### reads change nothing -/

/-- the operations that change neither the table nor any cell -/
def isQuery : StatsReg.Op → Bool
  | .get _ | .getRef _ | .list | .hits _ | .misses _ | .total _ | .hitRate _ | .missRate _ => true
  | _ => false

theorem step_query (r : Reg) {op : StatsReg.Op} (h : isQuery op = true) : (StatsReg.step r op).1 = r := by
  cases op with
  | register | reset | clear | recordHit | recordMiss | cellReset => cases h
  | _ => rfl

theorem runState_queries (r : Reg) (qs : List StatsReg.Op) (h : ∀ q, q ∈ qs → isQuery q = true) :
    runState r qs = r :=
  RegLemmas.foldl_fixed fun q hq => step_query r (h q hq)

/-! ### the representation invariant: the table holds the latest binding of every name, each name once
    (`MapRel r.table bs`, `Cachelito/Lemmas/Registry.lean`) -/

theorem rel_step {r : Reg} {bs : List (String × Cell)} (h : MapRel r.table bs) (op : StatsReg.Op) :
    MapRel (StatsReg.step r op).1.table (bindStep bs op) := by
  rw [step_table]
  cases op with
  | register n c => exact h.setKey n c
  | clear => exact .nil
  | _ => exact h

theorem rel_foldl (ops : List StatsReg.Op) {r : Reg} {bs : List (String × Cell)} (h : MapRel r.table bs) :
    MapRel (runState r ops).table (ops.foldl bindStep bs) := by
  induction ops generalizing r bs with
  | nil => exact h
  | cons op ops ih => exact ih (rel_step h op)

/-- **representation theorem**: after any history from the empty registry the table holds exactly the
    latest binding of every name -/
theorem rel_run (ops : List StatsReg.Op) : MapRel (runState {} ops).table (bindingsSince ops) :=
  rel_foldl ops .nil

/-! ### … and every cell holds `tally`

  One induction along the history, from any state `r` whose table is the one the prefix `pre` builds: the invariant
  travels with the state, so that at each step the lookup `getKey r.table`, by which `step` decides what a `reset`
  zeroes, can be exchanged for `latest (bindingsSince pre)`, by which `zeroes` decides it. -/

theorem cells_run (c : Cell) (pre ops : List StatsReg.Op) (r : Reg)
    (h : MapRel r.table (bindingsSince pre)) :
    (runState r ops).cells c = tally c pre ops (r.cells c) := by
  induction ops generalizing r pre with
  | nil => rfl
  | cons op ops ih =>
    have h' : MapRel (StatsReg.step r op).1.table (bindingsSince (pre ++ [op])) := by
      rw [bindingsSince_snoc]; exact rel_step h op
    rw [runState_cons, tally, ih _ _ h', step_cells, zeroes, funext h.get_eq]

theorem cells_eq_tally (ops : List StatsReg.Op) (c : Cell) :
    (runState {} ops).cells c = tally c [] ops Counters.zero :=
  cells_run c [] ops {} .nil

/-! ### `zeroes`, `noZero` and `tally` in plain terms -/

/-- `zeroes` spelled out: the operation is `CacheStats::reset` on the cell itself, or `stats_registry::reset`
    of a name whose LAST registration since the last `clear` bound it to this cell -/
theorem zeroes_iff (pre : List StatsReg.Op) (op : StatsReg.Op) (c : Cell) :
    zeroes pre op c = true ↔
      op = .cellReset c ∨ ∃ n, op = .reset n ∧ latest (bindingsSince pre) n = some c := by
  unfold zeroes zeroesAt
  split
  · simp
  · simp
  · next h1 h2 => exact ⟨nofun, fun h => (h.elim (h1 c) fun ⟨n, hn, _⟩ => h2 n hn).elim⟩


theorem tally_append (c : Cell) (pre a b : List StatsReg.Op) (k : Counters) :
    tally c pre (a ++ b) k = tally c (pre ++ a) b (tally c pre a k) := by
  induction a generalizing pre k with
  | nil => simp [tally]
  | cons op a ih =>
    simp only [List.cons_append, tally]
    rw [ih]
    simp

theorem noZero_append (c : Cell) (pre a b : List StatsReg.Op) :
    noZero c pre (a ++ b) = (noZero c pre a && noZero c (pre ++ a) b) := by
  induction a generalizing pre with
  | nil => simp [noZero]
  | cons op a ih =>
    simp only [List.cons_append, noZero, ih, Bool.and_assoc]
    simp

/-- `noZero` spelled out: however `b` is split around one of its operations, that operation does not zero `c` -/
theorem noZero_iff (c : Cell) (pre b : List StatsReg.Op) :
    noZero c pre b = true ↔ ∀ b1 q b2, b = b1 ++ q :: b2 → zeroes (pre ++ b1) q c = false := by
  constructor
  · rintro h b1 q b2 rfl
    rw [noZero_append, noZero, Bool.and_eq_true, Bool.and_eq_true, Bool.not_eq_true'] at h
    exact h.2.1
  · intro h
    induction b generalizing pre with
    | nil => rfl
    | cons x b ih =>
      rw [noZero, Bool.and_eq_true, Bool.not_eq_true']
      refine ⟨List.append_nil pre ▸ h [] x b rfl, ih _ fun b1 q b2 e => ?_⟩
      rw [List.append_assoc]
      exact h (x :: b1) q b2 (congrArg (x :: ·) e)

/-- `bump` in the form in which `List.count_cons` counts an occurrence -/
theorem bump_eq (c : Cell) (k : Counters) (op : StatsReg.Op) :
    bump c k op = ⟨k.hits + (if op == .recordHit c then 1 else 0), k.misses + (if op == .recordMiss c then 1 else 0)⟩ := by
  unfold bump
  split
  · next c' => by_cases h : c' = c <;> simp [h]
  · next c' => by_cases h : c' = c <;> simp [h]
  · next h1 h2 =>
    rw [if_neg (fun h => h1 c (eq_of_beq h)), if_neg (fun h => h2 c (eq_of_beq h))]
    rfl

theorem tally_noZero (c : Cell) (pre b : List StatsReg.Op) (k : Counters) (h : noZero c pre b = true) :
    tally c pre b k = ⟨k.hits + hitCount c b, k.misses + missCount c b⟩ := by
  unfold hitCount missCount
  induction b generalizing pre k with
  | nil => rfl
  | cons op b ih =>
    simp only [noZero, Bool.and_eq_true, Bool.not_eq_true'] at h
    rw [tally, h.1, ih _ _ h.2, List.count_cons, List.count_cons, bump_eq]
    simp only [Bool.false_eq_true, if_false, Counters.mk.injEq]
    omega

theorem tally_since_zero (c : Cell) (pre a : List StatsReg.Op) (op : StatsReg.Op) (b : List StatsReg.Op) (k : Counters)
    (hz : zeroes (pre ++ a) op c = true) (hb : noZero c (pre ++ a ++ [op]) b = true) :
    tally c pre (a ++ op :: b) k = ⟨hitCount c b, missCount c b⟩ := by
  rw [tally_append, tally, hz, if_pos rfl, tally_noZero c _ b _ hb]
  simp [Counters.zero]

/-! ### the registration history the macros produce -/

/-- registrations in first-call order (`called` is newest-first): every global / async function registers
    its own static (cell = function index) under its cache name; thread-scope functions and indices that name
    no function register nothing -/
def macroStatsOps (fns : List FnSpec) (called : List Nat) : List StatsReg.Op :=
  called.reverse.flatMap (fun i => match fns[i]? with
    | some s => if s.threadScope then [] else [.register s.name i]
    | none => [])

theorem macroStatsOps_cons (fns : List FnSpec) (i : Nat) (called : List Nat) :
    macroStatsOps fns (i :: called) = macroStatsOps fns called ++
      (match fns[i]? with
       | some s => if s.threadScope then [] else [.register s.name i]
       | none => []) := by
  unfold macroStatsOps
  rw [List.reverse_cons, List.flatMap_append, List.flatMap_singleton]

/-- A function registers its statistics cell when it registers its conditional-invalidation callback, under the
    same name and with the same identifier (its index): the bindings of the macros' statistics history are the
    conditional-callback registrations of their invalidation history (`Cachelito/Lemmas/Registry.lean`). -/
theorem bindings_macro (fns : List FnSpec) (called : List Nat) :
    bindingsSince (macroStatsOps fns called) = RegLemmas.condsSince (RegLemmas.macroOps fns called) := by
  unfold bindingsSince macroStatsOps RegLemmas.condsSince RegLemmas.macroOps
  -- both sides fold over a `flatMap` of the same list: compare them function by function, for any list and
  -- from any common accumulator (the accumulator moves in the induction step)
  generalize called.reverse = l
  generalize ([] : List (String × Nat)) = acc
  induction l generalizing acc with
  | nil => rfl
  | cons i l ih =>
    rw [List.flatMap_cons, List.flatMap_cons, List.foldl_append, List.foldl_append]
    refine (congrArg (List.foldl _ · _) ?_).trans (ih _)
    cases fns[i]? with
    | none => rfl
    | some s =>
      dsimp only
      cases s.threadScope with
      | true => rfl
      | false =>
        show List.foldl bindStep acc [.register s.name i] =
          List.foldl _ acc (Registry.firstCallOps i s.name (RegLemmas.metaOf s))
        unfold Registry.firstCallOps
        split <;> rfl

variable {K V S : Type}

/-! ### the registry that corresponds to a system state -/

/-- the counters of the shared instance of function `i` — the content of its static -/
def cellsOf (sys : Sys K V) : Cell → Counters :=
  fun i => ⟨(sys.getCache ⟨i, none⟩).hitStat, (sys.getCache ⟨i, none⟩).missStat⟩

/-- the table the macro registrations of `sys.called` build, over the memory `cellsOf sys` -/
def regOf (fns : List FnSpec) (sys : Sys K V) : Reg :=
  ⟨(runState {} (macroStatsOps fns sys.called)).table, cellsOf sys⟩

theorem regOf_table (fns : List FnSpec) (sys : Sys K V) :
    (regOf fns sys).table = (runState {} (macroStatsOps fns sys.called)).table := rfl

theorem regOf_cells (fns : List FnSpec) (sys : Sys K V) : (regOf fns sys).cells = cellsOf sys := rfl

theorem regOf_init (fns : List FnSpec) : regOf fns (Sys.init : Sys K V) = {} := rfl

theorem regTargets_eq_getKey [DecidableEq K] {fns : List FnSpec} (hd : DistinctNames fns) (sys : Sys K V)
    (name : String) :
    regTargets fns sys (fun spec => spec.name = name) = (getKey (regOf fns sys).table name).toList := by
  rw [regOf_table, (rel_run _).get_eq, bindings_macro]
  exact eq_toList_of_mem_iff (regTargets_nodup fns sys _) (RegLemmas.withPred_targets hd sys name)

theorem regOf_congr (fns : List FnSpec) {a b : Sys K V} (hc : b.called = a.called)
    (hs : ∀ i, (b.getCache ⟨i, none⟩).hitStat = (a.getCache ⟨i, none⟩).hitStat ∧
      (b.getCache ⟨i, none⟩).missStat = (a.getCache ⟨i, none⟩).missStat) :
    regOf fns b = regOf fns a := by
  unfold regOf cellsOf
  rw [hc]
  congr 1
  funext i
  rw [(hs i).1, (hs i).2]

/-! ### every `sysStep` is simulated by the registry-level operations it performs -/

section sim
open Cachelito.Calls (found callFn_stats getCache_call called_call cacheIdOf_shared getCache_tick
  stats_invalidation isInvalidation)
variable [DecidableEq K] (fns : List FnSpec) (tls : Nat → Tlru S) (size : V → Nat) (isOk : V → Bool) (rs : List Nat)
  (sys : Sys K V)

theorem cellsOf_statsReset (i j : Nat) :
    cellsOf (sys.mapFn i (fun s => { s with hitStat := 0, missStat := 0 })) j =
      if i = j then Counters.zero else cellsOf sys j := by
  unfold cellsOf
  rw [getCache_mapFn _ _ _ (fun n => statsReset_fresh n)]
  by_cases h : i = j
  · subst h; rw [if_pos ⟨rfl, rfl⟩, if_pos rfl]; rfl
  · rw [if_neg (fun hh => h hh.1.symm), if_neg h]

theorem step_reset_regOf (hd : DistinctNames fns) (name : String) :
    StatsReg.step (regOf fns sys) (.reset name) =
      (regOf fns (sysStep fns tls size isOk rs sys (.statsReset name)).1,
        .flag (!(regTargets fns sys (fun spec => spec.name = name)).isEmpty)) := by
  simp only [StatsReg.step]
  rw [sysStep_statsReset, regTargets_eq_getKey hd sys name]
  cases getKey (regOf fns sys).table name with
  | none => rfl
  | some i =>
    refine Prod.ext (reg_ext ?_ fun j => ?_) rfl
    · rw [write_table, regOf_table, regOf_table]; rfl
    · rw [write_cells, regOf_cells, regOf_cells]
      exact (cellsOf_statsReset sys i j).symm

theorem bump_found (i j : Cell) (k : Counters) (hit : Bool) :
    bump j k (if hit then .recordHit i else .recordMiss i) =
      if i = j then ⟨k.hits + (if hit then 1 else 0), k.misses + (if hit then 0 else 1)⟩ else k := by
  cases hit <;> rfl

theorem callOps_cells (r : Reg) (i : Cell) (name : String) (first hit : Bool) (j : Cell) :
    (runState r (callOps i name first hit)).cells j =
      bump j (r.cells j) (if hit then .recordHit i else .recordMiss i) := by
  cases first <;> cases hit <;> exact step_cells _ _ j

theorem callOps_table (r : Reg) (i : Cell) (name : String) (first hit : Bool) :
    (runState r (callOps i name first hit)).table = if first then setKey r.table name i else r.table := by
  cases first <;> cases hit <;> rfl

theorem cellsOf_call {i : Nat} {spec : FnSpec} (hspec : fns[i]? = some spec) (hts : spec.threadScope = false)
    (th : Nat) (c : CallIn K V) (j : Nat) :
    cellsOf (sysStep fns tls size isOk rs sys (.call i th c)).1 j =
      bump j (cellsOf sys j) (if found spec.cfg (sys.getCache ⟨i, none⟩) c.key then .recordHit i else .recordMiss i) := by
  unfold cellsOf
  rw [bump_found, getCache_call fns tls size isOk rs sys th c hspec, cacheIdOf_shared hts]
  obtain ⟨g1, g2, _, _⟩ := callFn_stats spec (tls i) size isOk rs (sys.getCache ⟨i, none⟩) c
  by_cases hj : i = j
  · subst hj; rw [if_pos rfl, if_pos rfl, g1, g2]
  · rw [if_neg (fun h => hj (congrArg CacheId.fn h).symm), if_neg hj]

theorem table_call {i : Nat} {spec : FnSpec} (hspec : fns[i]? = some spec) (hts : spec.threadScope = false)
    (th : Nat) (c : CallIn K V) :
    (regOf fns (sysStep fns tls size isOk rs sys (.call i th c)).1).table =
      if !sys.called.contains i then setKey (regOf fns sys).table spec.name i else (regOf fns sys).table := by
  rw [regOf_table, regOf_table, called_call fns tls size isOk rs sys th c hspec, hts, Bool.false_or]
  cases sys.called.contains i with
  | true => rfl
  | false =>
    show (runState {} (macroStatsOps fns (i :: sys.called))).table = _
    rw [macroStatsOps_cons, hspec, runState_append]
    simp only [hts]
    rfl

/-- a call of a global / async function = (registration on the first call) + one recorded lookup -/
theorem call_sim {i : Nat} {spec : FnSpec} (hspec : fns[i]? = some spec) (hts : spec.threadScope = false)
    (th : Nat) (c : CallIn K V) :
    regOf fns (sysStep fns tls size isOk rs sys (.call i th c)).1 =
      runState (regOf fns sys)
        (callOps i spec.name (!sys.called.contains i) (found spec.cfg (sys.getCache ⟨i, none⟩) c.key)) := by
  apply reg_ext
  · exact (table_call fns tls size isOk rs sys hspec hts th c).trans (callOps_table (regOf fns sys) ..).symm
  · intro j
    rw [regOf_cells, callOps_cells, regOf_cells]
    exact cellsOf_call fns tls size isOk rs sys hspec hts th c j

theorem call_threadScope_sim {i : Nat} {spec : FnSpec} (hspec : fns[i]? = some spec) (hts : spec.threadScope = true)
    (th : Nat) (c : CallIn K V) :
    regOf fns (sysStep fns tls size isOk rs sys (.call i th c)).1 = regOf fns sys := by
  apply regOf_congr
  · rw [called_call fns tls size isOk rs sys th c hspec, hts]; rfl
  · intro j
    rw [getCache_call fns tls size isOk rs sys th c hspec, if_neg]
    · exact ⟨rfl, rfl⟩
    · intro h
      have := congrArg CacheId.thread h
      simp [cacheIdOf, hts] at this

/-- the registry-level statistics operations one `sysStep` performs -/
def statOpsOf (fns : List FnSpec) (sys : Sys K V) : SysOp K V → List StatsReg.Op
  | .call i _ c =>
    match fns[i]? with
    | some spec =>
      if spec.threadScope then []
      else callOps i spec.name (!sys.called.contains i) (found spec.cfg (sys.getCache ⟨i, none⟩) c.key)
    | none => []
  | .statsGet name => [.get name]
  | .statsReset name => [.reset name]
  | _ => []

theorem regOf_invalidation (op : SysOp K V) (hi : isInvalidation op = true) :
    regOf fns (sysStep fns tls size isOk rs sys op).1 = regOf fns sys :=
  regOf_congr fns (sysStep_called_of_not_call fns tls size isOk rs sys op (fun _ _ _ h => by subst h; cases hi))
    (fun _ => stats_invalidation fns tls size isOk rs sys op hi _)

/-- **one step of the system = its statistics operations on the registry** -/
theorem sysStep_sim (hd : DistinctNames fns) (op : SysOp K V) :
    regOf fns (sysStep fns tls size isOk rs sys op).1 = runState (regOf fns sys) (statOpsOf fns sys op) := by
  cases op with
  | call i th c =>
    simp only [statOpsOf]
    cases hspec : fns[i]? with
    | none => rw [Calls.sysStep_call_none fns tls size isOk rs sys th c hspec]; rfl
    | some spec =>
      dsimp only
      cases hts : spec.threadScope with
      | true => exact call_threadScope_sim fns tls size isOk rs sys hspec hts th c
      | false => exact call_sim fns tls size isOk rs sys hspec hts th c
  | tick ms =>
    exact regOf_congr fns rfl (fun j => by rw [getCache_tick]; exact ⟨rfl, rfl⟩)
  | statsGet name => rw [sysStep_statsGet]; rfl
  | statsReset name => exact (congrArg Prod.fst (step_reset_regOf fns tls size isOk rs sys hd name)).symm
  | _ => exact regOf_invalidation fns tls size isOk rs sys _ rfl

/-- the registry-level statistics operations of a whole system history -/
def statTrace (fns : List FnSpec) (tls : Nat → Tlru S) (size : V → Nat) (isOk : V → Bool) :
    Sys K V → List (SysOp K V × List Nat) → List StatsReg.Op
  | _, [] => []
  | sys, (op, rs) :: ops =>
    statOpsOf fns sys op ++ statTrace fns tls size isOk (sysStep fns tls size isOk rs sys op).1 ops

/-- **a whole history of the system = its statistics operations on the registry** -/
theorem sysRun_sim (hd : DistinctNames fns) (ops : List (SysOp K V × List Nat)) :
    regOf fns (sysRun fns tls size isOk sys ops).1 = runState (regOf fns sys) (statTrace fns tls size isOk sys ops) := by
  induction ops generalizing sys with
  | nil => rfl
  | cons p ops ih =>
    obtain ⟨op, rs⟩ := p
    rw [Calls.sysRun_cons, statTrace, runState_append, ← sysStep_sim fns tls size isOk rs sys hd op]
    exact ih _

end sim

end Cachelito.StatsLemmas
