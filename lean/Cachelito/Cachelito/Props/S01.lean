/-
  S01 — SOURCE-LEVEL COROLLARIES: property theorems stated directly about the TRANSLATED code (C01, C03–C13, C15)

  The `T`-theorems say "translated function = model definition"; the `C`-theorems are about the model.  This file composes
  them, so that the statement a user cares about is a theorem about the definitions `checklib/rust2lean.py` reads off /repo's
  CURRENT source on every check (`Generated/Pure*.lean`).  No OPERATION of the hand-written model (`insert`, `get`, `insertMem`,
  `callFn`) appears in the statements below; what they borrow from it are its list functions on store and queue and the
  predicates the hypotheses and conclusions are phrased in (`Inv`, `InvMQ`, `MinHits`, `C04.sizeWith`, `ScoresOK`).
    * C04: one plain `insert` on a consistent cache within its limit leaves exactly `min(limit, entries + [key is new])`
      entries — never more than the limit, exactly one victim per overflow — for the sync global, thread-local and async engine.
    * C06: a lookup of an entry whose age has reached the ttl returns nothing, and afterwards the key is neither stored nor
      queued (it no longer occupies capacity); every other entry is untouched.
    * C05, C07, C08, C15 on the engines and C01 / C03 / C10 / C11 on the generated wrappers: as the section headings say.
    * C09: the wrapper generated for a `Result` function without `cache_if` leaves the cache exactly as its lookup left it when the
      body returns `Err` (sync: whatever `cache_if` says).
    * C12 / C13: whatever callbacks a group request runs (T20), each empties its cache (T19); a conditional request hands every
      cache's callback the predicate specialised to that cache, and the callback removes exactly the entries it selects.
-/
import Cachelito.Props.C04
import Cachelito.Props.C06
import Cachelito.Props.C05
import Cachelito.Props.C07
import Cachelito.Props.C08
import Cachelito.Props.C15
import Cachelito.Props.T17m
import Cachelito.Props.T18
import Cachelito.Props.T19
import Cachelito.Props.T20


namespace Cachelito.S01
open Cachelito Cachelito.RustLite Cachelito.Generated

variable {K V F E T : Type} [DecidableEq K]

/-! ## Global engine -/

/-- **C04 on the translated `Global.insert`** -/
theorem global_insert_exact (A : F64 F) (c : GlobalCache K V F) (now r : Nat) (k : K) (v : V) (n : Nat)
    (ok : T08.ScoresOK A c) (hl : c.limit = some n) (hn : 1 ≤ n)
    (hi : Inv (⟨c.map, c.order, now, 0, 0⟩ : State K V)) (hb : c.map.length ≤ n) :
    (Global.insert A ⟨fun b => now - b, now⟩ r c k v).map.length = min n (C04.sizeWith k c.map) ∧
    (Global.insert A ⟨fun b => now - b, now⟩ r c k v).map.length ≤ n := by
  rw [T08.insert_eq A c now r 0 0 k v ok]
  have h := C04.insert_exact (T08.cfgOf c) (T02.srcTlru A c.frequency_weight) r (⟨c.map, c.order, now, 0, 0⟩ : State K V) k v n
    hl hn hi hb
  exact ⟨h, by rw [h]; exact Nat.min_le_left _ _⟩

/-- **C06 on the translated `Global.get`**: an entry whose age has reached the ttl is not served and is purged from store AND queue -/
theorem global_get_expired (c : GlobalCache K V F) (now : Nat) (k : K) (e : Entry V) (T' : Nat)
    (hmax : ∀ p, p ∈ c.map → p.2.hits < u64Max) (ht : c.ttl = some T')
    (hi : Inv (⟨c.map, c.order, now, c.stats.hits, c.stats.misses⟩ : State K V))
    (hl : lookup k c.map = some e) (hage : now - e.birth ≥ 1000 * T') :
    (Global.get ⟨fun b => now - b, now⟩ c k).1 = none ∧
    k ∉ keys (Global.get ⟨fun b => now - b, now⟩ c k).2.map ∧ k ∉ (Global.get ⟨fun b => now - b, now⟩ c k).2.order ∧
    (Global.get ⟨fun b => now - b, now⟩ c k).2.map = eraseKey k c.map ∧
    (Global.get ⟨fun b => now - b, now⟩ c k).2.stats.misses = c.stats.misses + 1 := by
  rw [T09.get_eq c now k hmax]
  obtain ⟨h1, h2, h3, h4, _, _, h7, _⟩ := C06.expired_never_served (T08.cfgOf c) T'
    ht (⟨c.map, c.order, now, c.stats.hits, c.stats.misses⟩ : State K V) hi k e hl hage
  exact ⟨h1, h2, h3, h4, h7⟩


/-! ## Thread engine -/

/-- **C04 on the translated `Thread.insert`** -/
theorem thread_insert_exact (A : F64 F) (c : ThreadCache K V F) (now r : Nat) (k : K) (v : V) (n : Nat)
    (ok : T11.ScoresOK A c) (hl : c.limit = some n) (hn : 1 ≤ n)
    (hi : Inv (⟨c.cache, c.order, now, 0, 0⟩ : State K V)) (hb : c.cache.length ≤ n) :
    (Thread.insert A ⟨fun b => now - b, now⟩ r c k v).cache.length = min n (C04.sizeWith k c.cache) ∧
    (Thread.insert A ⟨fun b => now - b, now⟩ r c k v).cache.length ≤ n := by
  rw [T11.insert_eq A c now r 0 0 k v ok]
  have h := C04.insert_exact (T11.cfgOf c) (T02.srcTlru A c.frequency_weight) r (⟨c.cache, c.order, now, 0, 0⟩ : State K V) k v n
    hl hn hi hb
  exact ⟨h, by rw [h]; exact Nat.min_le_left _ _⟩

/-- **C06 on the translated `Thread.get`**: an entry whose age has reached the ttl is not served and is purged from store AND queue -/
theorem thread_get_expired (c : ThreadCache K V F) (now : Nat) (k : K) (e : Entry V) (T' : Nat)
    (hmax : ∀ p, p ∈ c.cache → p.2.hits < u64Max) (ht : c.ttl = some T')
    (hi : Inv (⟨c.cache, c.order, now, c.stats.hits, c.stats.misses⟩ : State K V))
    (hl : lookup k c.cache = some e) (hage : now - e.birth ≥ 1000 * T') :
    (Thread.get ⟨fun b => now - b, now⟩ c k).1 = none ∧
    k ∉ keys (Thread.get ⟨fun b => now - b, now⟩ c k).2.cache ∧ k ∉ (Thread.get ⟨fun b => now - b, now⟩ c k).2.order ∧
    (Thread.get ⟨fun b => now - b, now⟩ c k).2.cache = eraseKey k c.cache ∧
    (Thread.get ⟨fun b => now - b, now⟩ c k).2.stats.misses = c.stats.misses + 1 := by
  rw [T12.get_eq c now k hmax]
  obtain ⟨h1, h2, h3, h4, _, _, h7, _⟩ := C06.expired_never_served (T11.cfgOf c) T'
    ht (⟨c.cache, c.order, now, c.stats.hits, c.stats.misses⟩ : State K V) hi k e hl hage
  exact ⟨h1, h2, h3, h4, h7⟩


/-! ## Async engine -/

/-- **C04 on the translated `Async.insert`** -/
theorem async_insert_exact (A : F64 F) (c : AsyncCache K V F) (now r : Nat) (k : K) (v : V) (n : Nat)
    (ok : T07.ScoresOK A c) (hl : c.limit = some n) (hn : 1 ≤ n)
    (hi : Inv (⟨c.cache, c.order, now, 0, 0⟩ : State K V)) (hb : c.cache.length ≤ n) :
    (Async.insert A ⟨fun _ => 0, now⟩ r c k v).cache.length = min n (C04.sizeWith k c.cache) ∧
    (Async.insert A ⟨fun _ => 0, now⟩ r c k v).cache.length ≤ n := by
  rw [T07.insert_eq A c now r 0 0 k v ok]
  have h := C04.insert_exact (T06.cfgOf c) (T06.srcTlruAsync A c.frequency_weight) r (⟨c.cache, c.order, now, 0, 0⟩ : State K V) k v n
    hl hn hi hb
  exact ⟨h, by rw [h]; exact Nat.min_le_left _ _⟩

/-- **C06 on the translated `Async.get`**: an entry whose age has reached the ttl is not served and is purged from store AND queue -/
theorem async_get_expired (c : AsyncCache K V F) (now : Nat) (k : K) (e : Entry V) (T' : Nat)
    (hmax : ∀ p, p ∈ c.cache → p.2.hits < u64Max) (ht : c.ttl = some T')
    (hi : Inv (⟨c.cache, c.order, now, c.stats.hits, c.stats.misses⟩ : State K V))
    (hl : lookup k c.cache = some e) (hage : now - e.birth ≥ 1000 * T') :
    (Async.get ⟨fun _ => 0, now⟩ c k).1 = none ∧
    k ∉ keys (Async.get ⟨fun _ => 0, now⟩ c k).2.cache ∧ k ∉ (Async.get ⟨fun _ => 0, now⟩ c k).2.order ∧
    (Async.get ⟨fun _ => 0, now⟩ c k).2.cache = eraseKey k c.cache ∧
    (Async.get ⟨fun _ => 0, now⟩ c k).2.stats.misses = c.stats.misses + 1 := by
  rw [T10.get_eq c now k hmax]
  obtain ⟨h1, h2, h3, h4, _, _, h7, _⟩ := C06.expired_never_served (T06.cfgOf c) T'
    ht (⟨c.cache, c.order, now, c.stats.hits, c.stats.misses⟩ : State K V) hi k e hl hage
  exact ⟨h1, h2, h3, h4, h7⟩


/-! ## C05 on the translated `insert_with_memory` (memory bound after every completed store) -/

/-- **sync global**: with `max_memory = M`, a consistent cache whose values fit, after `insert_with_memory` (the source's loop run
    with the model's fuel) the estimated sizes of the cached values sum to at most `M` — whatever the value, policy, limit, draws -/
theorem global_insert_with_memory_bound (A : F64 F) (c : GlobalCache K V F) (size : V → Nat) (now : Nat) (rs : List Nat)
    (k : K) (v : V) (M : Nat) (ok : T08.ScoresOK A c) (hM : c.max_memory = some M)
    (hi : Inv (⟨c.map, c.order, now, 0, 0⟩ : State K V)) (hb : totalMem size c.map ≤ M) :
    totalMem size (Global.insert_with_memory A ⟨fun b => now - b, now⟩ size (T17m.memFuelG c k) rs c k v).map ≤ M := by
  unfold T17m.memFuelG
  rw [(T14.insert_with_memory_model A c size now 0 0 rs k v ok).1]
  exact C05.insertMem_bound (T08.cfgOf c) (T02.srcTlru A c.frequency_weight) size rs ⟨c.map, c.order, now, 0, 0⟩ k v M
    hM hi hb

theorem thread_insert_with_memory_bound (A : F64 F) (c : ThreadCache K V F) (size : V → Nat) (now : Nat) (rs : List Nat)
    (k : K) (v : V) (M : Nat) (ok : T11.ScoresOK A c) (hM : c.max_memory = some M)
    (hi : Inv (⟨c.cache, c.order, now, 0, 0⟩ : State K V)) (hb : totalMem size c.cache ≤ M) :
    totalMem size (Thread.insert_with_memory A ⟨fun b => now - b, now⟩ size (T17m.memFuelT c k) rs c k v).cache ≤ M := by
  unfold T17m.memFuelT
  rw [(T15.insert_with_memory_model A c size now 0 0 rs k v ok).1]
  exact C05.insertMem_bound (T11.cfgOf c) (T02.srcTlru A c.frequency_weight) size rs ⟨c.cache, c.order, now, 0, 0⟩ k v M
    hM hi hb

theorem async_insert_with_memory_bound (A : F64 F) (c : AsyncCache K V F) (size : V → Nat) (now : Nat) (rs : List Nat)
    (k : K) (v : V) (M : Nat) (ok : T07.ScoresOK A c) (hM : c.max_memory = some M)
    (hi : Inv (⟨c.cache, c.order, now, 0, 0⟩ : State K V)) (hb : totalMem size c.cache ≤ M) :
    totalMem size (Async.insert_with_memory A ⟨fun _ => 0, now⟩ size (T18.memFuel c k) rs c k v).cache ≤ M := by
  unfold T18.memFuel
  rw [(T16.insert_with_memory_model A c size now 0 0 rs k v ok).1]
  exact C05.insertMem_bound (T06.cfgOf c) (T06.srcTlruAsync A c.frequency_weight) size rs ⟨c.cache, c.order, now, 0, 0⟩ k v M
    hM hi hb

/-- a value that is larger than `max_memory` on its own is not cached by the sync engine: the key is absent afterwards (C05 (3)) -/
theorem global_oversize_not_cached (A : F64 F) (c : GlobalCache K V F) (size : V → Nat) (now : Nat) (rs : List Nat)
    (k : K) (v : V) (M : Nat) (ok : T08.ScoresOK A c) (hM : c.max_memory = some M)
    (hi : Inv (⟨c.map, c.order, now, 0, 0⟩ : State K V)) (hov : size v > M) :
    lookup k (Global.insert_with_memory A ⟨fun b => now - b, now⟩ size (T17m.memFuelG c k) rs c k v).map = none := by
  unfold T17m.memFuelG
  rw [(T14.insert_with_memory_model A c size now 0 0 rs k v ok).1]
  exact C05.oversize_not_cached (T08.cfgOf c) (T02.srcTlru A c.frequency_weight) size rs ⟨c.map, c.order, now, 0, 0⟩ k v M
    hM hi hov

/-! ## C07 on the translated `insert` (FIFO / LRU evict what was stored / used longest ago) -/

/-- **sync global**: on a consistent FIFO or LRU cache whose queue (after the key's re-queue) is sorted by a stamp `f` — store
    time for FIFO, last use for LRU —, every key the plain `insert` evicts has a strictly smaller stamp than every key that
    survives it -/
theorem global_insert_victim_oldest (A : F64 F) (c : GlobalCache K V F) (now r : Nat) (k : K) (v : V)
    (ok : T08.ScoresOK A c) (hp : c.policy = .fifo ∨ c.policy = .lru)
    (hi : Inv (⟨c.map, c.order, now, 0, 0⟩ : State K V)) (f : K → Nat)
    (hs : (erasePush k c.order).Pairwise (fun a b => f a < f b)) :
    ∀ x y, x ∈ keys (put k ⟨v, now, 0⟩ c.map) → x ∉ keys (Global.insert A ⟨fun b => now - b, now⟩ r c k v).map →
      y ∈ keys (Global.insert A ⟨fun b => now - b, now⟩ r c k v).map → f x < f y := by
  rw [T08.insert_eq A c now r 0 0 k v ok, insert_eq_storeVia, storeVia_sync (show Flavour.global ≠ .async by decide)]
  exact C07.limit_victim_is_oldest (T08.cfgOf c) hp (T02.srcTlru A c.frequency_weight) now r
    (put k ⟨v, now, 0⟩ c.map) (erasePush k c.order) (InvMQ.put_erasePush hi k ⟨v, now, 0⟩) f hs

/-! ## C08 on the translated victim scans (LFU evicts an entry with the fewest successful lookups) -/

/-- **sync engines** (`utils.rs` `find_min_frequency_key`, used by the global and the thread-local cache): on a consistent
    store, the key the translated scan returns is stored and no stored entry has fewer hits -/
theorem utils_lfu_scan_min_hits (m : Store K V) (q : List K) (hi : InvMQ m q)
    (hmax : ∀ k e, lookup k m = some e → e.hits < u64Max) {x : K}
    (h : Utils.find_min_frequency_key m q = some x) : MinHits m x := by
  rw [T02.find_min_frequency_key_eq m q hmax] at h
  -- under LFU `victim` is that first minimum whatever the rest of the configuration, the scorer and the clock
  exact C08.lfu_victim_min_hits (cfg := ⟨.global, .lfu, none, none, none⟩) (tl := T02.srcTlru T02.natTop none) (now := 0) rfl hi h

/-- **async engine** (`AsyncGlobalCache::find_min_frequency_key`) -/
theorem async_lfu_scan_min_hits (c : AsyncCache K V F) (tl : Tlru F) (q : List K) (hp : c.policy = .lfu)
    (hi : InvMQ c.cache q) (hmax : ∀ k e, lookup k c.cache = some e → e.hits < u64Max) {x : K}
    (h : Async.find_min_frequency_key c q = some x) : MinHits c.cache x := by
  rw [T06.find_min_frequency_key_eq c tl 0 hp q hmax] at h
  exact C08.lfu_victim_min_hits (cfg := T06.cfgOf c) hp hi h

/-! ## C15 on the translated `get` (every lookup counts exactly once: a hit iff it returned a value) -/

theorem global_get_counts_once (c : GlobalCache K V F) (now : Nat) (k : K) (hmax : ∀ p, p ∈ c.map → p.2.hits < u64Max) :
    ((∃ v, (Global.get ⟨fun b => now - b, now⟩ c k).1 = some v) ∧
        (Global.get ⟨fun b => now - b, now⟩ c k).2.stats.hits = c.stats.hits + 1 ∧
        (Global.get ⟨fun b => now - b, now⟩ c k).2.stats.misses = c.stats.misses) ∨
    ((Global.get ⟨fun b => now - b, now⟩ c k).1 = none ∧
        (Global.get ⟨fun b => now - b, now⟩ c k).2.stats.hits = c.stats.hits ∧
        (Global.get ⟨fun b => now - b, now⟩ c k).2.stats.misses = c.stats.misses + 1) := by
  rw [T09.get_eq c now k hmax]
  exact C15.get_counts_once (T08.cfgOf c) ⟨c.map, c.order, now, c.stats.hits, c.stats.misses⟩ k

theorem async_get_counts_once (c : AsyncCache K V F) (now : Nat) (k : K) (hmax : ∀ p, p ∈ c.cache → p.2.hits < u64Max) :
    ((∃ v, (Async.get ⟨fun _ => 0, now⟩ c k).1 = some v) ∧
        (Async.get ⟨fun _ => 0, now⟩ c k).2.stats.hits = c.stats.hits + 1 ∧
        (Async.get ⟨fun _ => 0, now⟩ c k).2.stats.misses = c.stats.misses) ∨
    ((Async.get ⟨fun _ => 0, now⟩ c k).1 = none ∧
        (Async.get ⟨fun _ => 0, now⟩ c k).2.stats.hits = c.stats.hits ∧
        (Async.get ⟨fun _ => 0, now⟩ c k).2.stats.misses = c.stats.misses + 1) := by
  rw [T10.get_eq c now k hmax]
  exact C15.get_counts_once (T06.cfgOf c) ⟨c.cache, c.order, now, c.stats.hits, c.stats.misses⟩ k

/-! ## C01 / C03 / C10 / C11 on the generated wrappers -/

/-- C01 / C03 (configuration 0000, sync global): a hit is served — the cached value is returned, the body's value is not
    used, nothing is stored -/
theorem wrapGlobal_0000_hit (A : F64 F) (clock : Clock) (size : V → Nat) (fuel : Nat) (rs : List Nat)
    (io ci : K → V → Bool) (c : GlobalCache K V F) (key : K) (body cached : V)
    (hhit : (Global.get clock c key).1 = some cached) :
    Wrap.wrapGlobal_0000 A clock size fuel rs io ci c key body = (cached, (Global.get clock c key).2) := by
  rw [T17.wrapGlobal_0000_eq]
  exact T17.wrapGen_hit _ false false io ci c key body cached hhit (Or.inl rfl)

/-- C10 (configuration 0001, sync global): a result `cache_if` rejects is returned and NOT stored — the cache is as the lookup
    left it, so the next call for the key misses again -/
theorem wrapGlobal_0001_rejected (A : F64 F) (clock : Clock) (size : V → Nat) (fuel : Nat) (rs : List Nat)
    (io ci : K → V → Bool) (c : GlobalCache K V F) (key : K) (body : V)
    (hmiss : (Global.get clock c key).1 = none) (hrej : ci key body = false) :
    Wrap.wrapGlobal_0001 A clock size fuel rs io ci c key body = (body, (Global.get clock c key).2) := by
  simp [T17.wrapGlobal_0001_eq, T17.wrapGen_miss, hmiss, hrej]

/-- C10: … and an accepted one is handed to the engine's `insert` -/
theorem wrapGlobal_0001_accepted (A : F64 F) (clock : Clock) (size : V → Nat) (fuel : Nat) (rs : List Nat)
    (io ci : K → V → Bool) (c : GlobalCache K V F) (key : K) (body : V)
    (hmiss : (Global.get clock c key).1 = none) (hacc : ci key body = true) :
    Wrap.wrapGlobal_0001 A clock size fuel rs io ci c key body =
      (body, Global.insert A clock (headRand rs) (Global.get clock c key).2 key body) := by
  simp [T17.wrapGlobal_0001_eq, T17.wrapGen_miss, hmiss, hacc]

/-- C10, async (configuration 0001): the same -/
theorem wrapAsync_0001_rejected (A : F64 F) (clock : Clock) (size : V → Nat) (fuel : Nat) (rs : List Nat)
    (io ci : K → V → Bool) (c : AsyncCache K V F) (key : K) (body : V)
    (hmiss : (Async.get clock c key).1 = none) (hrej : ci key body = false) :
    WrapAsync.wrapAsync_0001 A clock size fuel rs io ci c key body = (body, (Async.get clock c key).2) := by
  simp [T18.wrapAsync_0001_eq, T17.wrapGen_miss, hmiss, hrej]

/-- C11 (configuration 0010, sync global): a cached entry `invalidate_on` calls stale is NOT served: the body's value is
    returned and stored in its place -/
theorem wrapGlobal_0010_stale (A : F64 F) (clock : Clock) (size : V → Nat) (fuel : Nat) (rs : List Nat)
    (io ci : K → V → Bool) (c : GlobalCache K V F) (key : K) (body cached : V)
    (hhit : (Global.get clock c key).1 = some cached) (hstale : io key cached = true) :
    Wrap.wrapGlobal_0010 A clock size fuel rs io ci c key body =
      (body, Global.insert A clock (headRand rs) (Global.get clock c key).2 key body) := by
  simp [T17.wrapGlobal_0010_eq, T17.wrapGen_miss, hhit, hstale]

/-- C11: … and one it calls valid is served without using the body's value -/
theorem wrapGlobal_0010_valid (A : F64 F) (clock : Clock) (size : V → Nat) (fuel : Nat) (rs : List Nat)
    (io ci : K → V → Bool) (c : GlobalCache K V F) (key : K) (body cached : V)
    (hhit : (Global.get clock c key).1 = some cached) (hvalid : io key cached = false) :
    Wrap.wrapGlobal_0010 A clock size fuel rs io ci c key body = (cached, (Global.get clock c key).2) := by
  rw [T17.wrapGlobal_0010_eq]
  exact T17.wrapGen_hit _ true false io ci c key body cached hhit (Or.inr hvalid)

/-- C11, async (configuration 0010): a stale entry is recomputed and REPLACED (the defect F1 kept the old value) -/
theorem wrapAsync_0010_stale (A : F64 F) (clock : Clock) (size : V → Nat) (fuel : Nat) (rs : List Nat)
    (io ci : K → V → Bool) (c : AsyncCache K V F) (key : K) (body cached : V)
    (hhit : (Async.get clock c key).1 = some cached) (hstale : io key cached = true) :
    WrapAsync.wrapAsync_0010 A clock size fuel rs io ci c key body =
      (body, Async.insert A clock (headRand rs) (Async.get clock c key).2 key body) := by
  simp [T18.wrapAsync_0010_eq, T17.wrapGen_miss, hhit, hstale]

/-! ## C09 on the generated wrappers -/

/-- sync global, `Result`, no `cache_if` (configuration 0100): an `Err` leaves the cache as the lookup left it -/
theorem wrapGlobal_0100_err (A : F64 F) (clock : Clock) (size : Except E T → Nat) (fuel : Nat) (rs : List Nat)
    (io ci : K → Except E T → Bool) (c : GlobalCache K (Except E T) F) (key : K) (e : E)
    (hmiss : (Global.get clock c key).1 = none) :
    Wrap.wrapGlobal_0100 A clock size fuel rs io ci c key (.error e) = (.error e, (Global.get clock c key).2) := by
  simp [T17.wrapGlobal_0100_eq, T17.wrapGen_miss, hmiss, T13.global_insert_result_err]

/-- sync global, `Result` WITH `cache_if` and `max_memory` (configuration 1101): an `Err` is not stored even when `cache_if` accepts it -/
theorem wrapGlobal_1101_err (A : F64 F) (clock : Clock) (size : Except E T → Nat) (fuel : Nat) (rs : List Nat)
    (io ci : K → Except E T → Bool) (c : GlobalCache K (Except E T) F) (key : K) (e : E)
    (hmiss : (Global.get clock c key).1 = none) :
    Wrap.wrapGlobal_1101 A clock size fuel rs io ci c key (.error e) = (.error e, (Global.get clock c key).2) := by
  simp [T17.wrapGlobal_1101_eq, T17.wrapGen_miss, hmiss, T13.global_insert_result_with_memory_err]

/-- async, `Result`, no `cache_if` (configuration 0100): an `Err` leaves the cache as the lookup left it -/
theorem wrapAsync_0100_err (A : F64 F) (clock : Clock) (size : Except E T → Nat) (fuel : Nat) (rs : List Nat)
    (io ci : K → Except E T → Bool) (c : AsyncCache K (Except E T) F) (key : K) (e : E)
    (hmiss : (Async.get clock c key).1 = none) :
    WrapAsync.wrapAsync_0100 A clock size fuel rs io ci c key (.error e) = (.error e, (Async.get clock c key).2) := by
  simp [T18.wrapAsync_0100_eq, T17.wrapGen_miss, hmiss, T18.okOnly, RustLite.isOk]

/-- … and the `Ok` of a later call IS handed to the engine's store -/
theorem wrapAsync_0100_ok (A : F64 F) (clock : Clock) (size : Except E T → Nat) (fuel : Nat) (rs : List Nat)
    (io ci : K → Except E T → Bool) (c : AsyncCache K (Except E T) F) (key : K) (v : T)
    (hmiss : (Async.get clock c key).1 = none) :
    WrapAsync.wrapAsync_0100 A clock size fuel rs io ci c key (.ok v) =
      (.ok v, Async.insert A clock (headRand rs) (Async.get clock c key).2 key (.ok v)) := by
  simp [T18.wrapAsync_0100_eq, T17.wrapGen_miss, hmiss, T18.okOnly, RustLite.isOk]

/-! ## C12 / C13: registry and callbacks together -/

/-- the state of the caches a request touches: callback identifier ↦ engine state of the cache it was registered for;
    running the clear callback with identifier `id` empties that cache -/
def runClear (caches : Nat → GlobalCache K V F) (ids : List Nat) : Nat → GlobalCache K V F :=
  fun i => if i ∈ ids then Global.macro_clear_callback (caches i) else caches i

/-- **C12 on the translated registry + callbacks**: after `invalidate_by_tag`, every cache whose callback the request ran holds
    nothing and tracks nothing; every other cache is untouched; the returned count is the number of callbacks run -/
theorem by_tag_empties (st : RegistrySt) (t : String) (caches : Nat → GlobalCache K V F) :
    let r := Generated.Registry.invalidate_by_tag st t
    r.1 = r.2.length ∧
    (∀ i, i ∈ r.2 → (runClear caches r.2 i).map = [] ∧ (runClear caches r.2 i).order = []) ∧
    (∀ i, i ∉ r.2 → runClear caches r.2 i = caches i) := by
  simp only [Generated.Registry.invalidate_by_tag, T20.invalidate_caches_eq]
  refine ⟨trivial, ?_, ?_⟩
  · intro i hi
    simp [runClear, hi, T19.global_clear_callback_eq]
  · intro i hi
    simp [runClear, hi]

/-- **C13 on the translated registry + callbacks**: `invalidate_all_with p` removes from the cache registered under `(name, id)`
    exactly the entries whose key satisfies `p name`, and keeps every other entry with its value, birth, hits and position -/
theorem all_with_precise (st : RegistrySt) (p : String → String → Bool) (caches : Nat → GlobalCache String V F)
    (name : String) (id : Nat) (h : (name, id) ∈ st.invalidation_check_callbacks) :
    (id, fun key => p name key) ∈ (Generated.Registry.invalidate_all_with st p).2 ∧
    (Global.macro_cond_callback (caches id) (fun key => p name key)).map =
      (caches id).map.filter (fun e => !p name e.1) := by
  rw [T20.invalidate_all_with_eq]
  refine ⟨?_, T19.global_cond_survivors _ _⟩
  simp only [List.mem_map]
  exact ⟨(name, id), h, rfl⟩

end Cachelito.S01
