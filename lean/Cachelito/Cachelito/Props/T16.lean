/-
  T16 — TRANSLATOR TIE, async_global_cache.rs: `insert_with_memory` of the async engine (C05, C04, C07, C08, C16, C18)

  `Generated/PureAsync.lean` is regenerated from /repo's CURRENT source on every check; the theorems are re-proved against
  whatever was generated.  Same structure as `Props/T14.lean`: Step 1, every iteration of the source's memory loop is the
  reference iteration `memBody` (stop when total + new value fits, otherwise one eviction by the model's `evictMem`, stop
  when nothing could be evicted) and the whole function is: old entry of the key dropped; an oversize value not stored
  at all; otherwise the loop, the entry-limit step, then push + store.  Step 2, `memBody` acts on (store, queue, draws) as
  `SourceLemmas.memIter` does, whose loop followed by the entry-limit step is the model's `memLoop` followed by `limitStep`
  (`SourceLemmas.limitStep_memIter_loop`); so the translated function leaves exactly the store and queue of
  `Cachelito.insertMem` (async flavour).  `refLoop_eq_memLoop` states the loop's part of this on its own.
-/
import Cachelito.Props.T07
-- not used below: a change to what is tied there re-checks this module as well
import Cachelito.Props.T14


namespace Cachelito.T16
open Cachelito Cachelito.RustLite Cachelito.Generated Cachelito.SourceLemmas Cachelito.T06 Cachelito.T07
open Cachelito.Generated.Async

variable {K V F : Type} [DecidableEq K]

/-- the state the source's loop carries: the cache, the guarded queue, the remaining draws -/
abbrev LoopSt (K V F : Type) := AsyncCache K V F × List K × List Nat

/-- one iteration of the async memory loop (`extra` = size of the value about to be stored) -/
def memBody (cfg : Cfg) (tl : Tlru F) (size : V → Nat) (now maxM extra : Nat) (st : LoopSt K V F) : Bool × LoopSt K V F :=
  if totalMem size st.1.cache + extra ≤ maxM then (true, st)
  else
    let res := evictMem cfg tl now (st.2.2.headD 0) st.1.cache st.2.1
    let rs' := if cfg.policy = .random ∧ st.2.1 ≠ [] then st.2.2.tail else st.2.2
    (!res.2.2, ({ st.1 with cache := res.1 }, res.2.1, rs'))

/-- what stays fixed along the loop: the configuration, the weight, the counters; and hit counters stay below `u64::MAX` -/
def LoopInv (c : AsyncCache K V F) (st : LoopSt K V F) : Prop :=
  cfgOf st.1 = cfgOf c ∧ st.1.frequency_weight = c.frequency_weight ∧ st.1.stats = c.stats ∧
    ∀ p, p ∈ st.1.cache → p.2.hits < u64Max

theorem memBody_inv (cfg : Cfg) (tl : Tlru F) (size : V → Nat) (now maxM extra : Nat) (c : AsyncCache K V F)
    (s : LoopSt K V F) (hs : LoopInv c s) : LoopInv c (memBody cfg tl size now maxM extra s).2 := by
  unfold memBody
  split
  · exact hs
  · exact ⟨hs.1, hs.2.1, hs.2.2.1, fun p hp => hs.2.2.2 p (mem_evictMem cfg _ now _ _ _ p hp)⟩

/-- the whole function, written with the model's primitives and the reference loop -/
def refInsertMem (A : F64 F) (size : V → Nat) (fuel : Nat) (rs : List Nat) (c : AsyncCache K V F) (now : Nat)
    (k : K) (v : V) : AsyncCache K V F :=
  let tl := srcTlruAsync A c.frequency_weight
  let m0 := eraseKey k c.cache
  let q0 := if hasKey k c.cache then c.order.filter (fun x => x ≠ k) else c.order
  match c.max_memory with
  | some maxM =>
    if size v > maxM then { c with cache := m0, order := q0 }
    else
      let st := loopFuel fuel (({ c with cache := m0 } : AsyncCache K V F), q0, rs) (memBody (cfgOf c) tl size now maxM (size v))
      let r := limitStep (cfgOf c) tl now (st.2.2.headD 0) st.1.cache st.2.1
      { st.1 with cache := put k ⟨v, now / 1000 * 1000, 0⟩ r.1, order := r.2 ++ [k] }
  | none =>
    let r := limitStep (cfgOf c) tl now (rs.headD 0) m0 q0
    { c with cache := put k ⟨v, now / 1000 * 1000, 0⟩ r.1, order := r.2 ++ [k] }

/-- **`insert_with_memory` of the async engine, read off the source** -/
theorem insert_with_memory_eq (A : F64 F) (c : AsyncCache K V F) (size : V → Nat) (now fuel : Nat) (rs : List Nat)
    (k : K) (v : V) (ok : ScoresOK A c) :
    Async.insert_with_memory A ⟨fun _ => 0, now⟩ size fuel rs c k v = refInsertMem A size fuel rs c now k v := by
  obtain ⟨cache, order, limit, mm, policy, ttl, fw, st⟩ := c
  unfold Async.insert_with_memory refInsertMem
  have ok' : ScoresOK A (AsyncCache.mk (eraseKey k cache) order limit mm policy ttl fw st) :=
    ok.congr rfl rfl (fun p hp => ok.hitsBelowMax p (mem_eraseKey hp))
  cases mm with
  | none =>
    simp (config := noEta) only [is_already_key_inserted_eq, Bool.false_eq_true, if_false, headRand, pushBack, mapInsert, asyncEntry, asSecs]
    rw [handle_entry_limit_eviction_eq A _ now _ _ ok']
    rfl
  | some maxM =>
    simp (config := noEta) only [is_already_key_inserted_eq, Bool.false_eq_true, if_false, headRand, pushBack, mapInsert, asyncEntry, asSecs]
    by_cases hov : size v > maxM
    · rw [if_pos (decide_eq_true hov), if_pos hov]
    · rw [if_neg (mt of_decide_eq_true hov), if_neg hov]
      rw [loopFuel_congr_inv (LoopInv (AsyncCache.mk cache order limit (some maxM) policy ttl fw st))
        (g := memBody (cfgOf (AsyncCache.mk cache order limit (some maxM) policy ttl fw st)) (srcTlruAsync A fw) size now maxM
          (size v)) ?body (fun s hs => memBody_inv _ _ size now maxM _ _ s hs) fuel _ ⟨rfl, rfl, rfl, ok'.hitsBelowMax⟩]
      case body =>
        -- every iteration of the source's loop is the reference iteration
        rintro ⟨⟨map2, order2, _, _, _, _, _, st2⟩, o, rs2⟩ ⟨hc, hw, -, hh⟩
        cases hc
        cases hw
        unfold memBody
        simp (config := noEta) only [sum_values_eq_totalMem, cfgOf]
        refine ite_congr decide_eq_true_eq (fun _ => rfl) (fun _ => ?_)
        · obtain ⟨hlfu, harc, htlru⟩ := find_victim_eq A (AsyncCache.mk map2 order2 limit (some maxM) policy ttl fw st2) now o
            (hits_lookup hh) ok.arcBelowMax ok.arcOrder ok.tlruBelowMax
          cases policy with
          | lfu | arc | tlru =>
            simp (config := noEta) only [hlfu, harc, htlru, cfgOf, evictMem, evictScored]
            cases victim _ _ now map2 o with
            | none => rfl
            | some key => simp (config := noEta) only [removeBoth, mapRemove, retain]; rfl
          | random =>
            simp (config := noEta) only [evictMem, evictRandom, randBelow, nextRand, dequeRemove, mapRemove]
            cases o with
            | nil => rfl
            | cons x xs =>
              obtain ⟨y, hy⟩ := random_slot (rs2.headD 0) (List.cons_ne_nil x xs)
              simp (config := noEta) only [hy, List.isEmpty_cons, Bool.not_false, if_true]
              rfl
          | fifo | lru =>
            simp (config := noEta) only [evictMem]
            cases o with
            | nil => rfl
            | cons x xs => rfl
      -- after the loop: entry-limit step, push, store
      generalize hloop : loopFuel fuel _ _ = R
      have hR : LoopInv (AsyncCache.mk cache order limit (some maxM) policy ttl fw st) R :=
        hloop ▸ loopFuel_inv _ (fun s hs => memBody_inv _ _ size now maxM _ _ s hs) fuel _ ⟨rfl, rfl, rfl, ok'.hitsBelowMax⟩
      obtain ⟨c2, o2, rs2⟩ := R
      simp (config := noEta) only []
      rw [handle_entry_limit_eviction_eq A c2 now _ _ (ok.congr hR.1 hR.2.1 hR.2.2.2), hR.1, hR.2.1]

/-- `insert_with_memory` leaves the configuration, the weight and the counters alone -/
theorem insert_with_memory_frame (A : F64 F) (size : V → Nat) (fuel : Nat) (rs : List Nat) (c : AsyncCache K V F) (now : Nat)
    (k : K) (v : V) (ok : ScoresOK A c) :
    cfgOf (Async.insert_with_memory A ⟨fun _ => 0, now⟩ size fuel rs c k v) = cfgOf c ∧
    (Async.insert_with_memory A ⟨fun _ => 0, now⟩ size fuel rs c k v).frequency_weight = c.frequency_weight ∧
    (Async.insert_with_memory A ⟨fun _ => 0, now⟩ size fuel rs c k v).stats = c.stats := by
  rw [insert_with_memory_eq A c size now fuel rs k v ok]
  obtain ⟨cache, order, limit, mm, policy, ttl, fw, st⟩ := c
  unfold refInsertMem
  cases mm with
  | none => exact ⟨rfl, rfl, rfl⟩
  | some maxM =>
    dsimp only
    split
    · exact ⟨rfl, rfl, rfl⟩
    · -- the loop invariant, without its part about the hit counters
      exact And.imp_right (And.imp_right And.left) (loopFuel_inv (LoopInv (AsyncCache.mk cache order limit (some maxM) policy ttl fw st))
        (fun s hs => memBody_inv _ _ size now _ _ _ s hs) fuel _
        ⟨rfl, rfl, rfl, fun p hp => ok.hitsBelowMax p (mem_eraseKey hp)⟩)

/-! ### Step 2: the reference loop is the model's `memLoop` -/

/-- `memBody` acts on the store, the queue and the draws as `memIter` does -/
theorem memBody_memIter (cfg : Cfg) (tl : Tlru F) (size : V → Nat) (now maxM extra : Nat) (s : LoopSt K V F) :
    (memBody cfg tl size now maxM extra s).1 = (memIter cfg tl size now maxM extra (s.1.cache, s.2)).1 ∧
    ((memBody cfg tl size now maxM extra s).2.1.cache, (memBody cfg tl size now maxM extra s).2.2) =
      (memIter cfg tl size now maxM extra (s.1.cache, s.2)).2 := by
  unfold memBody memIter
  dsimp only
  split <;> exact ⟨rfl, rfl⟩

/-- **The loop of `memBody` leaves the store and queue of the model's `memLoop`**: `memIter_loop_eq_memLoop` read through
    `memBody_memIter`.  (`insert_with_memory_model` needs the entry-limit step after the loop as well and takes both from
    `limitStep_memIter_loop`.) -/
theorem refLoop_eq_memLoop (cfg : Cfg) (tl : Tlru F) (size : V → Nat) (now maxM extra : Nat) :
    ∀ (fuel : Nat) (c : AsyncCache K V F) (q : List K) (rs rs' : List Nat), (cfg.policy = .random → rs = rs') →
      (loopFuel fuel (c, q, rs) (memBody cfg tl size now maxM extra)).1.cache = (memLoop cfg tl size now maxM extra fuel rs' c.cache q).1 ∧
      (loopFuel fuel (c, q, rs) (memBody cfg tl size now maxM extra)).2.1 = (memLoop cfg tl size now maxM extra fuel rs' c.cache q).2.1 ∧
      (cfg.policy = .random →
        (loopFuel fuel (c, q, rs) (memBody cfg tl size now maxM extra)).2.2 = (memLoop cfg tl size now maxM extra fuel rs' c.cache q).2.2 ∨
        (loopFuel fuel (c, q, rs) (memBody cfg tl size now maxM extra)).2.1 = []) := by
  intro fuel c q rs rs' hr
  have h := memIter_loop_eq_memLoop cfg tl size now maxM extra fuel c.cache q rs rs' hr
  rw [← loopFuel_map (fun s : LoopSt K V F => (s.1.cache, s.2)) (memBody_memIter cfg tl size now maxM extra) fuel (c, q, rs)] at h
  exact h

/-- **The async engine's `insert_with_memory` is the model's `insertMem`** (with the model's fuel: one more than the
    queue length after the old entry of the key was dropped) -/
theorem insert_with_memory_model (A : F64 F) (c : AsyncCache K V F) (size : V → Nat) (now hs ms : Nat) (rs : List Nat)
    (k : K) (v : V) (ok : ScoresOK A c) :
    (Async.insert_with_memory A ⟨fun _ => 0, now⟩ size
        ((if hasKey k c.cache then c.order.filter (fun x => x ≠ k) else c.order).length + 1) rs c k v).cache =
      (Cachelito.insertMem (cfgOf c) (srcTlruAsync A c.frequency_weight) size rs ⟨c.cache, c.order, now, hs, ms⟩ k v).store ∧
    (Async.insert_with_memory A ⟨fun _ => 0, now⟩ size
        ((if hasKey k c.cache then c.order.filter (fun x => x ≠ k) else c.order).length + 1) rs c k v).order =
      (Cachelito.insertMem (cfgOf c) (srcTlruAsync A c.frequency_weight) size rs ⟨c.cache, c.order, now, hs, ms⟩ k v).queue := by
  rw [insert_with_memory_eq A c size now _ rs k v ok]
  unfold refInsertMem Cachelito.insertMem
  have hfl : (cfgOf c).flavour = .async := rfl
  have hmm : (cfgOf c).maxMem = c.max_memory := rfl
  have hst : stamp (cfgOf c) now = now / 1000 * 1000 := rfl
  simp only [hfl, hmm, hst, dropOld_eq]
  generalize (if hasKey k c.cache = true then c.order.filter (fun x => x ≠ k) else c.order) = q0
  cases c.max_memory with
  | none => exact ⟨rfl, rfl⟩
  | some maxM =>
    dsimp only
    split
    · exact ⟨rfl, rfl⟩
    · rw [limitStep_memIter_loop _ _ size now maxM _ (fun s : LoopSt K V F => (s.1.cache, s.2)) (memBody_memIter _ _ size now maxM _)]
      exact ⟨rfl, rfl⟩

end Cachelito.T16
