/-
  T13 — TRANSLATOR TIE: `insert_result` of the sync engines (C09: an `Err` is never stored, an `Ok` is stored like any
  value) and `GlobalCache::clear` (C12 / C13: the whole cache, map AND queue, is emptied).

  Regenerated from /repo's CURRENT source on every check (`Generated/PureGlobal.lean`, `PureThread.lean`); re-proved
  against whatever was generated.  The cached value type is `Result<T, E>` = `Except E T`.
-/
import Cachelito.Props.T08
import Cachelito.Props.T11


namespace Cachelito.T13
open Cachelito Cachelito.RustLite Cachelito.Generated

variable {K V F E T : Type} [DecidableEq K]

/-- **`Err` is never stored** by the sync global engine: `insert_result` with an `Err` leaves the cache as it is — map,
    queue, everything — for every configuration and content -/
theorem global_insert_result_err (A : F64 F) (clock : Clock) (r : Nat) (c : GlobalCache K (Except E T) F) (k : K) (e : E) :
    Global.insert_result A clock r c k (.error e) = c := by
  simp [Global.insert_result]

/-- an `Ok` is stored exactly as `insert` stores it -/
theorem global_insert_result_ok (A : F64 F) (clock : Clock) (r : Nat) (c : GlobalCache K (Except E T) F) (k : K) (v : T) :
    Global.insert_result A clock r c k (.ok v) = Global.insert A clock r c k (.ok v) := by
  simp [Global.insert_result]

/-- the same for the thread-local engine -/
theorem thread_insert_result_err (A : F64 F) (clock : Clock) (r : Nat) (c : ThreadCache K (Except E T) F) (k : K) (e : E) :
    Thread.insert_result A clock r c k (.error e) = c := by
  simp [Thread.insert_result]

theorem thread_insert_result_ok (A : F64 F) (clock : Clock) (r : Nat) (c : ThreadCache K (Except E T) F) (k : K) (v : T) :
    Thread.insert_result A clock r c k (.ok v) = Thread.insert A clock r c k (.ok v) := by
  simp [Thread.insert_result]

/-- the `max_memory` variants (`insert_result_with_memory`) likewise -/
theorem global_insert_result_with_memory_err (A : F64 F) (clock : Clock) (size : Except E T → Nat) (fuel : Nat) (rs : List Nat)
    (c : GlobalCache K (Except E T) F) (k : K) (e : E) :
    Global.insert_result_with_memory A clock size fuel rs c k (.error e) = c := by
  simp [Global.insert_result_with_memory]

theorem global_insert_result_with_memory_ok (A : F64 F) (clock : Clock) (size : Except E T → Nat) (fuel : Nat) (rs : List Nat)
    (c : GlobalCache K (Except E T) F) (k : K) (v : T) :
    Global.insert_result_with_memory A clock size fuel rs c k (.ok v) = Global.insert_with_memory A clock size fuel rs c k (.ok v) := by
  simp [Global.insert_result_with_memory]

theorem thread_insert_result_with_memory_err (A : F64 F) (clock : Clock) (size : Except E T → Nat) (fuel : Nat) (rs : List Nat)
    (c : ThreadCache K (Except E T) F) (k : K) (e : E) :
    Thread.insert_result_with_memory A clock size fuel rs c k (.error e) = c := by
  simp [Thread.insert_result_with_memory]

theorem thread_insert_result_with_memory_ok (A : F64 F) (clock : Clock) (size : Except E T → Nat) (fuel : Nat) (rs : List Nat)
    (c : ThreadCache K (Except E T) F) (k : K) (v : T) :
    Thread.insert_result_with_memory A clock size fuel rs c k (.ok v) = Thread.insert_with_memory A clock size fuel rs c k (.ok v) := by
  simp [Thread.insert_result_with_memory]

-- the statement carries the file's `[DecidableEq K]` without needing it
set_option linter.unusedSectionVars false in
/-- `GlobalCache::clear` empties map and queue (the model's `clear`) and nothing else -/
theorem global_clear_eq (c : GlobalCache K V F) (now hs ms : Nat) :
    Global.clear c =
      { c with map := (Cachelito.clear (⟨c.map, c.order, now, hs, ms⟩ : State K V)).store,
               order := (Cachelito.clear (⟨c.map, c.order, now, hs, ms⟩ : State K V)).queue } := by
  simp [Global.clear, Cachelito.clear, clearAll]

end Cachelito.T13
