/-
  T09 — TRANSLATOR TIE, global_cache.rs: the LOOKUP PATH of the sync global engine (`get`, `increment_frequency`)
  — C01, C06, C07, C08, C15

  `Generated/PureGlobal.lean` is regenerated from /repo's CURRENT source on every check (with the `stats` feature's
  statements included); the theorems are re-proved against whatever was generated.  Sequential reading of the function
  (see `Props/T08.lean`).  `get_eq`: for every cache content, configuration, key and clock the translated
  `GlobalCache::get` returns what the model's `Cachelito.get` returns and leaves exactly its store, queue and counters:
  absent → miss; expired (whole seconds of age ≥ ttl) → removed from map and queue, miss; otherwise the stored value,
  a hit, and the policy's bookkeeping (LRU / ARC / TLRU: key to the back; LFU / ARC / TLRU: frequency + 1).
-/
import Cachelito.Props.T08
import Cachelito.Props.T03
-- not used below: a change to what is tied there re-checks this module as well
import Cachelito.Props.T04


namespace Cachelito.T09
open Cachelito Cachelito.RustLite Cachelito.Generated Cachelito.SourceLemmas Cachelito.T08
open Cachelito.Generated.Global

variable {K V F : Type} [DecidableEq K]

/-- `GlobalCache::increment_frequency` is the model's `bumpHits` (hit counters below `u64::MAX`) -/
theorem increment_frequency_eq (c : GlobalCache K V F) (k : K) (h : ∀ p, p ∈ c.map → p.2.hits < u64Max) :
    Global.increment_frequency c k = { c with map := bumpHits k c.map } := by
  unfold Global.increment_frequency
  dsimp only
  cases hl : lookup k c.map with
  | none => rw [bumpHits_of_lookup_none hl]
  | some e => exact congrArg (fun m => { c with map := m }) (mapSet_bump k c.map e hl (hits_lookup h k e hl))

/-- **The sync global engine's `get` is the model's `get`**: same returned value, same store, queue and counters, for
    every cache content, configuration, key and clock. -/
theorem get_eq (c : GlobalCache K V F) (now : Nat) (k : K) (hmax : ∀ p, p ∈ c.map → p.2.hits < u64Max) :
    Global.get ⟨fun b => now - b, now⟩ c k =
      ((Cachelito.get (cfgOf c) ⟨c.map, c.order, now, c.stats.hits, c.stats.misses⟩ k).2,
       { c with
         map := (Cachelito.get (cfgOf c) ⟨c.map, c.order, now, c.stats.hits, c.stats.misses⟩ k).1.store,
         order := (Cachelito.get (cfgOf c) ⟨c.map, c.order, now, c.stats.hits, c.stats.misses⟩ k).1.queue,
         stats := ⟨(Cachelito.get (cfgOf c) ⟨c.map, c.order, now, c.stats.hits, c.stats.misses⟩ k).1.hitStat,
                   (Cachelito.get (cfgOf c) ⟨c.map, c.order, now, c.stats.hits, c.stats.misses⟩ k).1.missStat⟩ }) := by
  obtain ⟨map, order, limit, mm, policy, ttl, fw, ⟨sh, sm⟩⟩ := c
  have hexp : ∀ e : Entry V, Entry.is_expired ⟨fun b => now - b, now⟩ e ttl =
      expired (⟨.global, policy, limit, mm, ttl⟩ : Cfg) now e :=
    fun e => T03.is_expired_eq ⟨.global, policy, limit, mm, ttl⟩ Flavour.noConfusion now e
  unfold Global.get Cachelito.get
  simp only [cfgOf]
  cases hl : lookup k map with
  | none =>
    simp [Stats.record_miss, fetchAdd]
  | some e =>
    by_cases hx : expired (⟨.global, policy, limit, mm, ttl⟩ : Cfg) now e = true
    · simp [hexp, hx, (T02.remove_key_eq _ _ _).1, removeBoth, Stats.record_miss, fetchAdd]
    · have hinc : ∀ (o : List K), Global.increment_frequency (GlobalCache.mk map o limit mm policy ttl fw ⟨sh + 1, sm⟩) k =
          GlobalCache.mk (bumpHits k map) o limit mm policy ttl fw ⟨sh + 1, sm⟩ :=
        fun o => increment_frequency_eq _ k hmax
      simp only [hexp, hx, Bool.false_eq_true, if_false, Stats.record_hit, fetchAdd, hitUpdate, T02.move_key_to_end_eq]
      cases policy <;> simp [Policy.bumps, Policy.refreshes, hinc]

end Cachelito.T09
