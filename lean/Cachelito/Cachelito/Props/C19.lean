/-
  C19 — Macro attributes mean what they say, for every valid combination (PARSER part).

  `Attrs.lean` transcribes `parse_sync_attributes` / `parse_async_attributes`
  (`cachelito-macro-utils/src/lib.rs`, including the repairs 82aef8c and 1b1b026) as
  `parseSync` / `parseAsync : AttrList → Except Reject Parsed`.  The specification is written independently:
  `Valid k l` (every name known to macro `k`, every value of the right literal kind and in range) and
  `meaning k l` ("as written": the LAST value written for each attribute, defaults otherwise,
  `n KB/MB/GB = n·1024^{1,2,3}`).

  Theorems
    T1  `parse_valid`, `parseSync_valid`, `parseAsync_valid`, `valid_compiles`, `valid_cfg`
        — every valid list is accepted with exactly its meaning; that meaning is the `Cfg` of the core cache.
    T2  `invalid_rejected` — an unknown name or an invalid `policy` / `scope` / `limit` / `ttl` / `max_memory` /
        `frequency_weight` value ANYWHERE in the list (overridden later or not) is rejected at
        compile time (parser `Err` or panic); `max_memory_overflow_rejected` — sizes that do not fit in `usize`
        are rejected whatever the build profile; `compiles_iff_ok` — nothing is left to spliced tokens;
        `accepted_limit`, `accepted_ttl`, `accepted_max_memory` — conversely whatever is accepted carries the
        value of the last occurrence, and for `max_memory` strings that is `n·1024^k` of a `[+]digits(unit)^j` form.
    T3  `hasMaxMemory_eq_false_iff`, `hasMaxMemory_meaning`, `hasMaxMemory_default` — the textual `"None"` test is sound.
    T4  `meaning_max_memory_units`, `parse_max_memory_units` — KB/MB/GB arithmetic for every number.
    T5  `isResultSpelling_iff`, `isResultSpelling_core_false`, … — exactly the two spellings modulo spaces.
  Observations reproduced by the model (examples at the end): a repeated attribute takes its last value;
  `name = 5` is silently ignored; `"1GBGB"` is 1 GB; a leading `+` is accepted; integer `frequency_weight`
  (even `0`) is accepted.
  Regression witnesses (`Legacy.parse` = the parser before the repairs): `#[cache(limit = "x", limit = 2)]`
  compiled (finding F9) and `max_memory = "17179869184GB"` wrapped to `Some(0)` without overflow checks
  (finding F10); both are refuted for the repaired parser by the theorems above.
-/
import Cachelito.Lemmas.Attrs

namespace Cachelito.C19
open Cachelito Cachelito.Attrs

/-! ### T1 — valid lists are accepted with their meaning -/

/-- **Every valid attribute list is accepted, with exactly the values it writes.**  For both macros: if every
    name is known and every value is valid, the parser returns (no `Err`, no panic) the record that carries,
    for each attribute, the last value written for it, and the default where none was written. -/
theorem parse_valid (k : Kind) (l : AttrList) (h : Valid k l) :
    parse k l = .ok (meaning k l).toParsed := by
  have := parseLoop_meaning k l [] h
  rw [meaning_nil] at this
  simpa [parse] using this

/-- T1 for `#[cache(...)]` (`parse_sync_attributes`). -/
theorem parseSync_valid (l : AttrList) (h : Valid .sync l) :
    parseSync l = .ok (meaning .sync l).toParsed := parse_valid .sync l h

/-- T1 for `#[cache_async(...)]` (`parse_async_attributes`). -/
theorem parseAsync_valid (l : AttrList) (h : Valid .async l) :
    parseAsync l = .ok (meaning .async l).toParsed := parse_valid .async l h

/-- Every valid attribute list gets through attribute parsing (no failure mechanism fires). -/
theorem valid_compiles (k : Kind) (l : AttrList) (h : Valid k l) : compiles (parse k l) = true := by
  rw [parse_valid k l h]; rfl

/-- The core-cache configuration `Meaning.toCfg` makes of the meaning of a list (valid or not), read off the
    definitions: `limit`, `policy`, `ttl`, `max_memory` are the written values and the engine is chosen by the
    macro and the `scope`. -/
theorem valid_cfg (k : Kind) (l : AttrList) :
    ((meaning k l).toCfg k).limit = natOf (lastVal "limit" l) ∧
    ((meaning k l).toCfg k).ttl = natOf (lastVal "ttl" l) ∧
    ((meaning k l).toCfg k).maxMem = memOf (lastVal "max_memory" l) ∧
    ((meaning k l).toCfg k).policy = (match strOf (lastVal "policy" l) with
      | some s => policyOfName s
      | none => .fifo) ∧
    ((meaning k l).toCfg k).flavour = (match k with
      | .async => .async
      | .sync => if strOf (lastVal "scope" l) = some "thread" then .threadLocal else .global) := by
  refine ⟨rfl, rfl, rfl, rfl, ?_⟩
  cases k
  · simp only [Meaning.toCfg, meaning]
    cases hs : strOf (lastVal "scope" l) with
    | none => simp
    | some s => by_cases h : s = "thread" <;> simp [h]
  · rfl

/-! ### T2 — unknown names and invalid values are rejected, wherever they stand -/

/-- **An unknown name or an invalid value is rejected**, wherever it stands in the list, overridden later or not,
    and whatever else the list contains: exactly the predicate `mustRejectAttr` evaluated by monitor M1 of
    `attrs_diff`.  Unknown names (for `#[cache_async]` that includes `scope`), a `policy` / `scope` that is not a
    string literal naming a policy / `"global"` / `"thread"`, a `limit` / `ttl` that is not a non-negative integer
    literal below `2^64`, a `max_memory` that is not `[+]digits(unit)^j` within `usize` before and after the
    multiplication or such an integer literal, a `frequency_weight` that is a negative number, a float literal
    that is zero or rounds to zero or to infinity, an integer from `2^64` on, or no number: parser `Err`, or the
    `.expect` / `quote!` panic. -/
theorem invalid_rejected (k : Kind) (l : AttrList) {n : String} {v : AttrVal} (hmem : (n, v) ∈ l)
    (h : mustRejectAttr k n v = true) : compiles (parse k l) = false := by
  -- such an attribute makes its iteration fail in every state, hence the loop wherever it stands
  obtain ⟨e, he⟩ := parseLoop_error_of_mem k (stepAttr_error_of_mustReject h) l Parsed.default hmem
  simp [parse, he, compiles]

/-- **Sizes that overflow are rejected** (commit 1b1b026; the model has no overflow-check parameter any
    more because nothing depends on it): whenever the product `n · 1024^e` denoted by a `[+]n(unit)^j` string does
    not fit in `usize`, the list does not compile. -/
theorem max_memory_overflow_rejected (k : Kind) (l : AttrList) {s : String} {n e : Nat}
    (hmem : ("max_memory", .strLit s) ∈ l) (hs : mmLenient s = some (n, e)) (hov : usizeBound ≤ n * 1024 ^ e) :
    compiles (parse k l) = false :=
  invalid_rejected k l hmem (by cases k <;> simp [mustRejectAttr, knownNames, badMaxMemory, hs, hov])

/-- Nothing is left to spliced `compile_error!` tokens: a list compiles exactly when the parser returns `Ok`. -/
theorem compiles_iff_ok (k : Kind) (l : AttrList) : compiles (parse k l) = true ↔ ∃ p, parse k l = .ok p := by
  cases hp : parse k l with
  | error e => simp [compiles]
  | ok p =>
    obtain ⟨h1, h2, h3, h4⟩ := parse_ok_fields hp
    simp [compiles, h1, h2, h3, h4]

/-- Whatever is accepted carries the `limit` written last (no valid list needed). -/
theorem accepted_limit (k : Kind) (l : AttrList) {p : Parsed} (hp : parse k l = .ok p) :
    p.limit = .ok (meaning k l).limit := by
  have := parse_limit hp
  simp only [meaning]
  cases hl : lastVal "limit" l with
  | none => simp only [hl] at this; exact this
  | some v =>
    simp only [hl] at this
    rw [← this.1, parseLimit_of_valid (by rw [← parseLimit_isOk, this.1]; exact this.2)]

/-- Whatever is accepted carries the `ttl` written last. -/
theorem accepted_ttl (k : Kind) (l : AttrList) {p : Parsed} (hp : parse k l = .ok p) :
    p.ttl = .ok (meaning k l).ttl := by
  have := parse_ttl hp
  simp only [meaning]
  cases hl : lastVal "ttl" l with
  | none => simp only [hl] at this; exact this
  | some v =>
    simp only [hl] at this
    have h1 := this.1
    rw [parseTtl_of_valid (by rw [← parseTtl_isOk h1]; exact this.2)] at h1
    exact (Except.ok.inj h1).symm

/-- Whatever is accepted with a `max_memory` STRING carries `n · 1024^k` bytes, where the string reads
    `[+] n (unit)^j` and `k` is the exponent of the unit — nothing else is ever accepted. -/
theorem accepted_max_memory (k : Kind) (l : AttrList) {p : Parsed} (hp : parse k l = .ok p) {s : String}
    (hlast : lastVal "max_memory" l = some (.strLit s)) :
    ∃ n e, mmLenient s = some (n, e) ∧ n * 1024 ^ e < usizeBound ∧ p.maxMemory = .ok (some (n * 1024 ^ e)) := by
  have := parse_maxMemory hp
  rw [hlast] at this
  obtain ⟨h1, hok⟩ := this
  rw [← Except.ok.inj h1] at hok ⊢
  exact mmLenient_of_isOk hok

/-! ### T3 — the textual `None` test -/

/-- `has_max_memory` (the test `!tokens.to_string().contains("None")`) is false exactly when the field holds
    the default `None` tokens: never for `Some(<n>usize)`, whatever the digits of `n` (and never for a
    `compile_error!` message of the parser, which the repaired parser no longer stores anyway). -/
theorem hasMaxMemory_eq_false_iff (k : Kind) (p : Parsed) : hasMaxMemory k p = false ↔ p.maxMemory = .ok none := by
  unfold hasMaxMemory
  cases hm : p.maxMemory with
  | compileError e => rw [mmTokens_ce]; simp
  | ok o =>
    cases o with
    | none => rw [mmTokens_none]; simp
    | some n => rw [mmTokens_some]; simp

/-- On the result of a valid list the textual test selects the memory-aware insert exactly when a
    `max_memory` was written. -/
theorem hasMaxMemory_meaning (k : Kind) (l : AttrList) :
    hasMaxMemory k (meaning k l).toParsed = (meaning k l).maxMemory.isSome := by
  have := hasMaxMemory_eq_false_iff k (meaning k l).toParsed
  cases h : (meaning k l).maxMemory <;> simpa [Meaning.toParsed, h] using this

/-- no `max_memory` attribute ⇒ the plain insert is generated -/
theorem hasMaxMemory_default (k : Kind) : hasMaxMemory k Parsed.default = false :=
  (hasMaxMemory_eq_false_iff k _).mpr rfl

/-! ### T4 — KB / MB / GB are powers of 1024 -/

/-- **Units.**  For every number `n` and unit exponent `e ≤ 3` (`""`, `KB`, `MB`, `GB` in any letter case) with
    `n·1024^e` representable, a list whose last `max_memory` is the string `<n><unit>` means `n·1024^e` bytes. -/
theorem meaning_max_memory_units (k : Kind) (l : AttrList) (n : Nat) {e : Nat} (he : e ≤ 3) (unit : List Char)
    (hu : unit.map Char.toUpper = unitStr e) (h : n * 1024 ^ e < usizeBound)
    (hlast : lastVal "max_memory" l = some (.strLit (String.ofList (Nat.toDigits 10 n ++ unit)))) :
    (meaning k l).maxMemory = some (n * 1024 ^ e) := by
  simp only [meaning, hlast, memOf]
  exact mmStrict_digits_unit n he unit hu h

/-- … and that is what the parser stores (`Some(<n·1024^e>usize)`). -/
theorem parse_max_memory_units (k : Kind) (n : Nat) {e : Nat} (he : e ≤ 3) (unit : List Char)
    (hu : unit.map Char.toUpper = unitStr e) (h : n * 1024 ^ e < usizeBound) :
    parse k [("max_memory", .strLit (String.ofList (Nat.toDigits 10 n ++ unit)))] =
      .ok { Parsed.default with maxMemory := .ok (some (n * 1024 ^ e)) } := by
  have hs := mmStrict_digits_unit n he unit hu h
  have hp := parseMaxMemoryStr_of_strict hs
  simp only [String.toList_ofList] at hp
  simp [parse, parseLoop, stepAttr, liftValue, parseMaxMemory, hp]

/-! ### T5 — `Result` detection -/

/-- `is_result` holds exactly for return types whose token string, spaces removed, starts with `Result<` or
    `std::result::Result<`. -/
theorem isResultSpelling_iff (s : String) :
    isResultSpelling s = true ↔
      (∃ rest, s.toList.filter (· ≠ ' ') = "Result<".toList ++ rest) ∨
      (∃ rest, s.toList.filter (· ≠ ' ') = "std::result::Result<".toList ++ rest) := by
  unfold isResultSpelling
  simp only [Bool.or_eq_true, List.isPrefixOf_iff_prefix]
  -- `l₁ <+: l₂` is `∃ t, l₁ ++ t = l₂`
  exact or_congr (exists_congr fun _ => eq_comm) (exists_congr fun _ => eq_comm)

/-- `core::result::Result<…>` is NOT recognised (finding F7 of C09). -/
theorem isResultSpelling_core_false : isResultSpelling "core :: result :: Result < i32 , String >" = false := by
  rw [isResultSpelling_ofList]; decide

/-- `::std::result::Result<…>` (leading `::`) is NOT recognised (finding F7 of C09). -/
theorem isResultSpelling_leading_colon_false :
    isResultSpelling ":: std :: result :: Result < i32 , String >" = false := by
  rw [isResultSpelling_ofList]; decide

/-- a type alias (`type Res<T> = Result<T, E>`, `io::Result<T>`, `anyhow::Result<T>`) is NOT recognised. -/
theorem isResultSpelling_alias_false :
    isResultSpelling "Res < i32 >" = false ∧ isResultSpelling "io :: Result < i32 >" = false ∧
    isResultSpelling "anyhow :: Result < i32 >" = false := by
  refine ⟨?_, ?_, ?_⟩ <;> rw [isResultSpelling_ofList] <;> decide

/-- the two recognised spellings -/
theorem isResultSpelling_true :
    isResultSpelling "Result < i32 , String >" = true ∧
    isResultSpelling "std :: result :: Result < Vec < u8 > , std :: io :: Error >" = true := by
  constructor <;> rw [isResultSpelling_ofList] <;> decide

/-- a non-`Result` type whose name merely starts with `Result` is not taken for one -/
theorem isResultSpelling_prefix_false : isResultSpelling "ResultSet < i32 >" = false ∧ isResultSpelling "Results" = false := by
  constructor <;> rw [isResultSpelling_ofList] <;> decide

/-! ### Non-vacuity and observed behaviour (all by evaluation)

`rfl` where the expected result is an `Err` with its message: the kernel then compares the two message TERMS, whereas
`decide` has to build both strings and compare them character by character. -/

section Examples

/-- a long valid `#[cache(...)]` list: every attribute present, `limit` repeated -/
def longSync : AttrList :=
  [ ("limit", .intLit false 7 ""), ("policy", .strLit "tlru"), ("ttl", .intLit false 60 "u64"),
    ("scope", .strLit "thread"), ("name", .strLit "users"), ("max_memory", .strLit "12mB"),
    ("tags", .array [.str "a", .str "b"]), ("events", .array []), ("dependencies", .array [.str "db"]),
    ("invalidate_on", .path ⟨false, ["crate", "is_stale"]⟩), ("cache_if", .path ⟨false, ["ok"]⟩),
    ("frequency_weight", .floatLit false 15 (-1) ""), ("limit", .intLit false 100 "usize") ]

example : Valid .sync longSync := by decide +kernel

example : parseSync longSync = .ok
    { limit := .ok (some 100), policy := "tlru", ttl := .ok (some 60), scope := .thread, name := some "users",
      maxMemory := .ok (some (12 * 1024 * 1024)), tags := ["a", "b"], events := [], dependencies := ["db"],
      invalidateOn := some ⟨false, ["crate", "is_stale"]⟩, cacheIf := some ⟨false, ["ok"]⟩,
      frequencyWeight := .ok (some ⟨3, -1⟩) } := by decide +kernel

example : (meaning .sync longSync).toCfg .sync =
    { flavour := .threadLocal, policy := .tlru, limit := some 100, maxMem := some 12582912, ttl := some 60 } := by
  decide +kernel

/-- the same list is NOT valid for `#[cache_async]` (it has `scope`) and is rejected there -/
example : ¬ Valid .async longSync := by decide +kernel
example : parseAsync longSync = .error (.parserErr (msgUnknown .async "scope")) := rfl

/-- the empty list: all defaults, plain insert -/
example : parseSync [] = .ok Parsed.default ∧ parseAsync [] = .ok Parsed.default ∧
    hasMaxMemory .sync Parsed.default = false := by decide +kernel

/-! #### Rejection classes -/

-- the message is computed from the name: evaluating `stepAttr`'s own `if` chain leaves the same term on both sides
example : parseSync [("limits", .intLit false 3 "")] = .error (.parserErr (msgUnknown .sync "limits")) := by
  simp only [parseSync, parse, parseLoop, stepAttr, String.reduceEq, if_false, false_and]
example : parseSync [("policy", .strLit "LRU")] = .error (.parserErr msgPolicyInvalid) := rfl
example : parseSync [("scope", .strLit "process")] = .error (.parserErr msgScopeInvalid) := rfl
example : parseSync [("limit", .intLit true 1 "")] = .error (.parserErr CE.limitRange.msg) := rfl  -- `limit = -1`
example : parseSync [("limit", .strLit "3")] = .error (.parserErr CE.limitLit.msg) := rfl          -- `limit = "3"`
example : parseAsync [("ttl", .floatLit false 15 (-1) "")] = .error (.parserErr CE.ttlLit.msg) := rfl  -- `ttl = 1.5`
example : parseSync [("ttl", .intLit false (2 ^ 64) "")] =
    .error (.panics "ttl must be a positive integer (seconds)") := rfl
example : compiles (parseSync [("max_memory", .strLit "12XB")]) = false ∧
    compiles (parseSync [("max_memory", .strLit "MB")]) = false ∧
    compiles (parseSync [("max_memory", .strLit "1.5MB")]) = false ∧
    compiles (parseSync [("max_memory", .strLit " 5MB")]) = false ∧
    compiles (parseSync [("max_memory", .strLit "1KBGB")]) = false ∧
    compiles (parseSync [("max_memory", .boolLit true)]) = false := by decide +kernel
example : compiles (parseSync [("frequency_weight", .floatLit false 0 (-1) "")]) = false ∧   -- `0.0`
    compiles (parseSync [("frequency_weight", .floatLit true 10 (-1) "")]) = false ∧          -- `-1.0`
    compiles (parseSync [("frequency_weight", .floatLit false 1 (-400) "")]) = false ∧        -- `1e-400` rounds to 0.0
    compiles (parseSync [("frequency_weight", .floatLit false 1 400 "")]) = false := by decide +kernel -- `1e400` = inf: quote! panics
example : compiles (parseSync [("tags", .array [.str "a", .other])]) = false := by decide +kernel

/-! #### Observed parser behaviour outside the documented forms, reproduced (not alarmed) -/

example : parseSync [("max_memory", .strLit "1GBGB")] =
    .ok { Parsed.default with maxMemory := .ok (some (1024 ^ 3)) } := by decide +kernel
example : parseSync [("max_memory", .strLit "+5kb")] =
    .ok { Parsed.default with maxMemory := .ok (some 5120) } := by decide +kernel
example : parseSync [("name", .strLit "a"), ("name", .intLit false 5 "")] = .ok Parsed.default := by decide +kernel
example : parseSync [("ttl", .intLit false 1 ""), ("ttl", .intLit false 2 "")] =
    .ok { Parsed.default with ttl := .ok (some 2) } := by decide +kernel
example : parseSync [("frequency_weight", .intLit false 0 "")] =
    .ok { Parsed.default with frequencyWeight := .ok (some ⟨0, 0⟩) } := by decide +kernel

/-- REGRESSION WITNESS for finding F9 (fixed by 82aef8c).  `#[cache(limit = "x", limit = 2)]` and
    `#[cache(max_memory = true, ttl = f(), ttl = 5, max_memory = "1KB")]`: the parser before the repair let them
    compile (the invalid value was silently dropped; confirmed on the real macros at the time), the repaired
    parser returns `Err` at the first invalid value. -/
example :
    compiles (Legacy.parse .sync true [("limit", .strLit "x"), ("limit", .intLit false 2 "")]) = true ∧
    parseSync [("limit", .strLit "x"), ("limit", .intLit false 2 "")] = .error (.parserErr CE.limitLit.msg) ∧
    compiles (Legacy.parse .sync true [("max_memory", .boolLit true), ("ttl", .otherExpr), ("ttl", .intLit false 5 ""),
      ("max_memory", .strLit "1KB")]) = true ∧
    parseSync [("max_memory", .boolLit true), ("ttl", .otherExpr), ("ttl", .intLit false 5 ""),
      ("max_memory", .strLit "1KB")] = .error (.parserErr CE.mmLit.msg) := ⟨rfl, rfl, rfl, rfl⟩

/-- REGRESSION WITNESS for finding F10 (fixed by 1b1b026).  `max_memory = "17179869184GB"` (= 2^64 bytes): the
    old arithmetic wrapped to `Some(0)` without overflow checks (release profile) and panicked with them; the
    repaired parser refuses it with `compile_error!("max_memory is too large")` in every build. -/
example :
    Legacy.parse .sync false [("max_memory", .strLit "17179869184GB")] =
      .ok { Parsed.default with maxMemory := .ok (some 0) } ∧
    Legacy.parse .sync true [("max_memory", .strLit "17179869184GB")] =
      .error (.panics "attempt to multiply with overflow") ∧
    parseSync [("max_memory", .strLit "17179869184GB")] = .error (.parserErr "max_memory is too large") ∧
    parseAsync [("max_memory", .strLit "18014398509481984kb")] = .error (.parserErr "max_memory is too large") := by
  decide +kernel

/-- on lists the old parser already handled without storing error tokens nothing changed -/
example : Legacy.parse .sync true longSync = parseSync longSync := by decide +kernel

end Examples

end Cachelito.C19
