/-
  C15 (concurrent clause) — "hits + misses equals the number of lookups performed, and a lookup counts as
  a hit exactly when an unexpired entry was found; these counters are exact under any number of concurrent
  callers."

  Model: the data-carrying interleaving model `Cachelito.ConcData` (any number of threads, any programs,
  any schedule, both engines, every policy / limit / ttl / max_memory).  The two counters are fields of
  the shared state; the real code bumps them with one atomic `fetch_add` per lookup, so a counter bump is
  part of the micro-step it textually follows.

  WHERE the model bumps the counters (and where the real code does):
    * absent key       : `missStat + 1` in the READ micro-step              (real: right after the read section)
    * unexpired entry  : `hitStat + 1`  in the READ micro-step              (real sync: `record_hit` after the `M.r`
                          block, BEFORE the LRU `[O]` / LFU `[M.w]` update sections; real async: after dropping
                          the shard guard, before the `[O]` refresh section) — same place
    * expired entry    : nothing in the read micro-step, `missStat + 1` in the REMOVAL micro-step
                          (real sync: inside the `[O{M.w}]` section; real async: after `cache.remove` / `retain`,
                          the queue-mutex guard still alive) — same place
  So a lookup is COUNTED (`countedT`) iff it has finished, or it is a hit between its read micro-step and its
  last micro-step (local state `refresh` / `move` / `bump`).  An expired lookup that has read but not yet
  removed (`expire`) is not counted yet: between those two micro-steps `hits + misses` is one behind the
  number of lookups STARTED — in the real code as well.

    `counters_exact_at_every_point`   every reachable point: each counter = initial value + counted lookups
    `counters_exact_at_quiescence`    no operation in progress: hits = lookups that returned a value,
                                      misses = lookups that returned nothing, hits + misses = number of
                                      `get` operations executed = number of `.val _` records
                                      (`record_is_lookup_iff_value`)
    `read_step_outcome`, `expired_removal_counts_miss`, `hit_continuations_keep_counters`
                                      a lookup is a hit exactly when an unexpired entry was found
    `other_operations_keep_counters`  no other operation touches the counters
  Nothing is partial.  Helper lemmas: `Cachelito/Lemmas/ConcStats.lean`.
-/
import Cachelito.Lemmas.ConcStats

namespace Cachelito.C15c
open Cachelito Cachelito.ConcData

variable {K V S : Type} [DecidableEq K]

/-- **Exact at every point of every interleaving** (both engines; also for the unfixed code).  After any
    schedule, `hitStat` = initial value + over all threads (finished lookups that returned a value + 1 if
    the thread is a hit between its read and its last micro-step); `missStat` = initial value + finished
    lookups that returned nothing; and `hitStat + missStat` = initial sum + the number of lookups whose
    counting micro-step has executed. -/
theorem counters_exact_at_every_point (legacy : Bool) (cfg : Cfg) (tl : Tlru S) (size : V → Nat)
    (s0 : State K V) (progs : List (List (Op K V × List Nat))) (sch : List ThreadId) :
    (crunWith legacy cfg tl size sch (CState.start s0 progs)).shared.hitStat
      = s0.hitStat + ((crunWith legacy cfg tl size sch (CState.start s0 progs)).threads.map hitsT).sum ∧
    (crunWith legacy cfg tl size sch (CState.start s0 progs)).shared.missStat
      = s0.missStat + ((crunWith legacy cfg tl size sch (CState.start s0 progs)).threads.map missesT).sum ∧
    (crunWith legacy cfg tl size sch (CState.start s0 progs)).shared.hitStat
      + (crunWith legacy cfg tl size sch (CState.start s0 progs)).shared.missStat
      = s0.hitStat + s0.missStat
        + ((crunWith legacy cfg tl size sch (CState.start s0 progs)).threads.map countedT).sum := by
  have h := (crunWith_counts legacy cfg tl size s0 progs sch).1
  refine ⟨h.1, h.2, ?_⟩
  have hsum : ∀ l : List (Thread K V), (l.map countedT).sum = (l.map hitsT).sum + (l.map missesT).sum := by
    intro l
    induction l with
    | nil => rfl
    | cons a l ih => simp only [List.map_cons, List.sum_cons, ih, countedT_eq]; omega
  rw [h.1, h.2, hsum]; omega

/-- every finished operation of every thread reports a value (`.val _`) iff it is a lookup -/
theorem record_is_lookup_iff_value (legacy : Bool) (cfg : Cfg) (tl : Tlru S) (size : V → Nat)
    (s0 : State K V) (progs : List (List (Op K V × List Nat))) (sch : List ThreadId) :
    ∀ t, t ∈ (crunWith legacy cfg tl size sch (CState.start s0 progs)).threads →
      ∀ op o, (op, o) ∈ t.done → ((∃ k, op = .get k) ↔ (∃ v, o = .val v)) := by
  intro t ht op o hr
  have h := (crunWith_counts legacy cfg tl size s0 progs sch).2 t ht (op, o) hr
  cases op <;> cases o <;> simp [isGet, isValOut] at h ⊢

/-- **Exact at quiescence** (no operation in progress — in particular once all callers have returned):
    `hitStat` = initial + number of lookups that returned a value, `missStat` = initial + number of lookups
    that returned nothing (absent or expired), and `hitStat + missStat` = initial + number of `get`
    operations executed by all threads (= number of `.val _` records). -/
theorem counters_exact_at_quiescence (legacy : Bool) (cfg : Cfg) (tl : Tlru S) (size : V → Nat)
    (s0 : State K V) (progs : List (List (Op K V × List Nat))) (sch : List ThreadId)
    (hq : Quiescent (crunWith legacy cfg tl size sch (CState.start s0 progs))) :
    (crunWith legacy cfg tl size sch (CState.start s0 progs)).shared.hitStat
      = s0.hitStat + ((crunWith legacy cfg tl size sch (CState.start s0 progs)).threads.map
          (fun t => (t.done.filter (fun r => isHitOut r.2)).length)).sum ∧
    (crunWith legacy cfg tl size sch (CState.start s0 progs)).shared.missStat
      = s0.missStat + ((crunWith legacy cfg tl size sch (CState.start s0 progs)).threads.map
          (fun t => (t.done.filter (fun r => isMissOut r.2)).length)).sum ∧
    (crunWith legacy cfg tl size sch (CState.start s0 progs)).shared.hitStat
      + (crunWith legacy cfg tl size sch (CState.start s0 progs)).shared.missStat
      = s0.hitStat + s0.missStat + ((crunWith legacy cfg tl size sch (CState.start s0 progs)).threads.map
          (fun t => (t.done.filter (fun r => isGet r.1)).length)).sum ∧
    ((crunWith legacy cfg tl size sch (CState.start s0 progs)).threads.map
          (fun t => (t.done.filter (fun r => isGet r.1)).length)).sum
      = ((crunWith legacy cfg tl size sch (CState.start s0 progs)).threads.map
          (fun t => (t.done.filter (fun r => isValOut r.2)).length)).sum := by
  have h := counters_exact_at_every_point legacy cfg tl size s0 progs sch
  have hshape := (crunWith_counts legacy cfg tl size s0 progs sch).2
  generalize crunWith legacy cfg tl size sch (CState.start s0 progs) = c at h hq hshape
  have e1 : c.threads.map hitsT = c.threads.map (fun t => (t.done.filter (fun r => isHitOut r.2)).length) := by
    apply List.map_congr_left
    intro t ht
    unfold hitsT; rw [hq t ht]; rfl
  have e2 : c.threads.map countedT = c.threads.map (fun t => (t.done.filter (fun r => isValOut r.2)).length) := by
    apply List.map_congr_left
    intro t ht
    unfold countedT; rw [hq t ht]; rfl
  have e3 : c.threads.map (fun t => (t.done.filter (fun r => isGet r.1)).length)
      = c.threads.map (fun t => (t.done.filter (fun r => isValOut r.2)).length) := by
    apply List.map_congr_left
    intro t ht
    congr 1
    apply List.filter_congr
    intro r hr
    exact hshape t ht r hr
  rw [e1, e2] at h
  exact ⟨h.1, h.2.1, by rw [e3]; exact h.2.2, by rw [e3]⟩

/-! ### A lookup counts as a hit exactly when an unexpired entry was found -/

/-- **The read micro-step of a lookup** (fixed code, both engines).
    * absent key: the lookup finishes, reports nothing, `missStat + 1`;
    * expired entry found: nothing is counted and nothing changes yet, the removal micro-step is pending;
    * unexpired entry found: `hitStat + 1`, `missStat` unchanged, and the lookup reports that entry's value —
      now, or after its recency / frequency sections (`hitPend = 1`: already counted). -/
theorem read_step_outcome (cfg : Cfg) (tl : Tlru S) (size : V → Nat) (s : State K V) (k : K) (rs : List Nat) :
    (lookup k s.store = none →
      micro false cfg tl size s (.get k) rs none
        = ({ s with missStat := s.missStat + 1 }, .fin (.get k) (.val none))) ∧
    (∀ e, lookup k s.store = some e → expired cfg s.now e = true →
      micro false cfg tl size s (.get k) rs none = (s, .more (.expire k))) ∧
    (∀ e, lookup k s.store = some e → expired cfg s.now e = false →
      (micro false cfg tl size s (.get k) rs none).1.hitStat = s.hitStat + 1 ∧
      (micro false cfg tl size s (.get k) rs none).1.missStat = s.missStat ∧
      ((micro false cfg tl size s (.get k) rs none).2 = .fin (.get k) (.val (some e.val)) ∨
       (micro false cfg tl size s (.get k) rs none).2 = .more (.refresh k e.val) ∨
       (micro false cfg tl size s (.get k) rs none).2 = .more (.move k e.val) ∨
       (micro false cfg tl size s (.get k) rs none).2 = .more (.bump k e.val))) := by
  refine ⟨fun hl => by simp [micro, first, hl], fun e hl hx => by simp [micro, first, hl, hx], fun e hl hx => ?_⟩
  rcases first_get false cfg tl size s rs k with ⟨h, _⟩ | ⟨e', h, hx', _⟩ | ⟨e', h, _, hr⟩ <;>
    cases hl.symm.trans h
  · cases hx.symm.trans hx'
  · rw [show micro false cfg tl size s (.get k) rs none = _ from hr]
    refine ⟨rfl, rfl, ?_⟩
    rcases hitRes_cases cfg k e.val with h | ⟨_, h⟩ | ⟨_, h⟩ | ⟨_, h⟩ <;> simp [h]

/-- **An expired lookup counts as a miss**: its removal micro-step finishes the lookup, reports nothing,
    `missStat + 1`, `hitStat` unchanged (both engines). -/
theorem expired_removal_counts_miss (legacy : Bool) (cfg : Cfg) (tl : Tlru S) (size : V → Nat) (s : State K V)
    (op : Op K V) (k : K) (rs : List Nat) :
    (micro legacy cfg tl size s op rs (some (.expire k))).2 = .fin (.get k) (.val none) ∧
    (micro legacy cfg tl size s op rs (some (.expire k))).1.missStat = s.missStat + 1 ∧
    (micro legacy cfg tl size s op rs (some (.expire k))).1.hitStat = s.hitStat := by
  rw [micro_expire]
  exact ⟨rfl, rfl, rfl⟩

/-- **The later micro-steps of a hit do not count again and end by reporting the value**: the recency /
    frequency sections of a hit leave both counters unchanged, and what they lead to is again a hit in
    progress or the finished lookup reporting `some v`. -/
theorem hit_continuations_keep_counters (legacy : Bool) (cfg : Cfg) (tl : Tlru S) (size : V → Nat) (s : State K V)
    (op : Op K V) (rs : List Nat) (p : Pend K V) (hp : PendFits legacy cfg op (some p))
    (hh : hitPend (some p) = 1) :
    (micro legacy cfg tl size s op rs (some p)).1.hitStat = s.hitStat ∧
    (micro legacy cfg tl size s op rs (some p)).1.missStat = s.missStat ∧
    resHit (micro legacy cfg tl size s op rs (some p)).2 = 1 := by
  rw [micro_some_of_okFor tl size s op rs hp.1]
  cases p with
  | refresh k v => exact ⟨rfl, rfl, rfl⟩
  | move k v => rw [cont_move]; exact ⟨rfl, rfl, by split <;> rfl⟩
  | bump k v => exact ⟨rfl, rfl, rfl⟩
  | _ => cases hh

/-- **No other operation touches the counters**: every micro-step of `insert`, `insert_with_memory`,
    `clear`, a conditional invalidation or a clock tick leaves `hitStat` and `missStat` unchanged. -/
theorem other_operations_keep_counters (legacy : Bool) (cfg : Cfg) (tl : Tlru S) (size : V → Nat) (s : State K V)
    (op : Op K V) (rs : List Nat) (pend : Option (Pend K V)) (hop : ∀ k, op ≠ .get k)
    (hp : PendFits legacy cfg op pend) :
    (micro legacy cfg tl size s op rs pend).1.hitStat = s.hitStat ∧
    (micro legacy cfg tl size s op rs pend).1.missStat = s.missStat := by
  have hnp : ∀ p : Pend K V, p.opOf = op → hitPend (some p) = 0 := fun p hpo => hitPend_of_opOf (hpo ▸ hop)
  have hc := micro_counts legacy cfg tl size s op rs pend hp
  have hf := micro_fits legacy cfg tl size s op rs pend hp
  have h0 : hitPend pend = 0 := by
    cases pend with
    | none => rfl
    | some p => exact hnp p hp.2
  cases hr : (micro legacy cfg tl size s op rs pend).2 with
  | more p =>
    rw [hr] at hc hf
    have := hnp p hf.2
    simp only [resHit, resMiss] at hc
    omega
  | fin op' o =>
    have hshape := micro_shape legacy cfg tl size s op rs pend
    rw [hr] at hc hf hshape
    cases (hf : op' = op)
    have ho : isValOut o = false := (hshape : isGet op = isValOut o).symm.trans (isGet_of_ne hop)
    cases o with
    | val x => cases ho
    | unit =>
      simp only [resHit, resMiss, isHitOut, isMissOut, Bool.false_eq_true, if_false] at hc
      omega

/-! ### Non-vacuity -/

def exTl : Tlru Nat := ⟨fun a b => decide (a < b), fun _ h _ r => h * r⟩
def cfgSyncTtl : Cfg := ⟨.global, .arc, some 2, none, some 1⟩
def cfgAsyncTtl : Cfg := ⟨.async, .lru, some 2, none, some 1⟩

/-- key 1 stored at time 0 (expired at `now = 5 s`, ttl 1 s), key 2 stored at time 5 s (fresh) -/
def st0 : State Nat Nat := ⟨[(1, ⟨10, 0, 0⟩), (2, ⟨20, 5000, 0⟩)], [1, 2], 5000, 0, 0⟩
def progs3 : List (List (Op Nat Nat × List Nat)) :=
  [[(.get 1, []), (.get 2, [])], [(.get 2, []), (.get 3, [])], [(.insert 3 30, []), (.get 3, [])]]

/-- Sync (ARC: a hit has three micro-steps), three threads, 5 lookups interleaved with a store: after
    thread 0 has READ the expired key 1 and thread 1 is a hit in progress, 1 lookup is counted (the hit),
    the expired one is not yet; at quiescence hits = 3, misses = 2 (expired key 1; key 3 looked up by
    thread 1 before thread 2 stored it), 5 lookups. -/
example :
    (crun cfgSyncTtl exTl (fun _ => 0) [0, 1] (CState.start st0 progs3)).shared.hitStat = 1 ∧
    (crun cfgSyncTtl exTl (fun _ => 0) [0, 1] (CState.start st0 progs3)).shared.missStat = 0 ∧
    ((crun cfgSyncTtl exTl (fun _ => 0) [0, 1] (CState.start st0 progs3)).threads.map countedT) = [0, 1, 0] ∧
    allDoneB (crun cfgSyncTtl exTl (fun _ => 0) [0, 1, 0, 1, 1, 1, 2, 0, 0, 0, 2, 2, 2, 2]
      (CState.start st0 progs3)) = true ∧
    (crun cfgSyncTtl exTl (fun _ => 0) [0, 1, 0, 1, 1, 1, 2, 0, 0, 0, 2, 2, 2, 2]
      (CState.start st0 progs3)).shared.hitStat = 3 ∧
    (crun cfgSyncTtl exTl (fun _ => 0) [0, 1, 0, 1, 1, 1, 2, 0, 0, 0, 2, 2, 2, 2]
      (CState.start st0 progs3)).shared.missStat = 2 ∧
    ((crun cfgSyncTtl exTl (fun _ => 0) [0, 1, 0, 1, 1, 1, 2, 0, 0, 0, 2, 2, 2, 2]
      (CState.start st0 progs3)).threads.map (fun t => t.done.map (fun r => match r.2 with | .val o => o | .unit => none)))
      = [[none, some 20], [some 20, none], [none, some 30]] := by
  decide +kernel

/-- the same programs on the async engine (LRU: a hit is read + refresh) -/
example :
    allDoneB (crun cfgAsyncTtl exTl (fun _ => 0) [0, 1, 0, 1, 1, 2, 0, 0, 2, 2]
      (CState.start st0 progs3)) = true ∧
    (crun cfgAsyncTtl exTl (fun _ => 0) [0, 1, 0, 1, 1, 2, 0, 0, 2, 2] (CState.start st0 progs3)).shared.hitStat = 3 ∧
    (crun cfgAsyncTtl exTl (fun _ => 0) [0, 1, 0, 1, 1, 2, 0, 0, 2, 2] (CState.start st0 progs3)).shared.missStat = 2 := by
  decide +kernel

end Cachelito.C15c
