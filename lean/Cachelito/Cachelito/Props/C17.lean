/-
  C17 — Concurrent calls and invalidations never deadlock.

  "Any number of threads may concurrently call cached functions and any invalidation or statistics function
   on the same caches, and every such call returns.  No interleaving leaves two callers waiting on each other."

  Model (`Cachelito/Conc.lean`): data is abstracted away, an operation is its lock skeleton (`Skel`), a thread
  is a list of operations whose choices it resolves itself (so its behaviour is ANY event list `Runs` allows),
  a system is any number of such threads, a step lets one enabled thread perform one lock event
  (reader/writer semantics: `enabledB`; with parking_lot's writer preference: `enabledWPB`).

    T1  `wf_runs_wellRanked_balanced`   runs of rank-disciplined skeletons are rank-ordered and balanced
    T2  `deadlock_free`, `no_stuck_state`                                (no reachable state is stuck)
    T3  `every_call_returns`, `run_length`, `maximal_run_finished`       (every scheduler terminates)
    T4  `deadlock_free_wp`, `every_call_returns_wp`                      (writer preference)
    T5  `opTableOf_wf`, `opTable_wf`, `opTableFull_wf`, `cachelito_deadlock_free`, `cachelito_every_call_returns`
        and the regression witness of F5: `legacyCondCb_not_wf`, `legacy_invalidate_with_not_wf`, `legacy_deadlock`
    C20 (a)  `suspended_holds_nothing`, `progress_despite_suspended`
  and the matcher of the correspondence check: `accepts_exact`.  Every theorem that stands for the property is
  stated in this file, also where it is a lemma of `Lemmas/Conc.lean` under another name.

  Not modelled (see DESIGN.md §7 C17): user predicates/bodies that call back into the same cache while a
  callback holds its locks; fairness (a thread may be overtaken for ever — but the system as a whole always
  finishes, because every thread's event list is finite).
-/
import Cachelito.Lemmas.Conc

namespace Cachelito.C17
open Cachelito.Conc

/-! ## T1 -/

/-- **T1.**  Every event list of a skeleton that respects the rank discipline (`wf []`) is *well ranked*
    (each acquisition is of a lock ranked strictly above everything held at that moment, so in particular a
    held lock is never re-acquired) and *balanced* (only held locks are released, and nothing is held at the
    end). -/
theorem wf_runs_wellRanked_balanced {s : Skel} (hwf : s.wf [] = true) {t : List Ev} (hr : Runs s t) :
    WellRanked t ∧ Balanced t :=
  (wfFrom_iff [] t).1 (runs_wfFrom_nil hwf hr)

/-- T1 for the executable monitor: such an event list passes `checkTrace`. -/
theorem wf_runs_checkTrace {s : Skel} (hwf : s.wf [] = true) {t : List Ev} (hr : Runs s t) :
    checkTrace [] t = true :=
  (checkTrace_iff [] t).2 (runs_wfFrom_nil hwf hr)

/-- The trace matcher used by the correspondence check is exact. -/
theorem accepts_exact (s : Skel) (t : List Ev) : accepts s t = true ↔ Runs s t := accepts_iff s t

/-! ## T2 — deadlock freedom -/

/-- **T2.**  Any number of threads, thread `k` running the operations `progs[k]` one after the other, every
    operation a `wf []` skeleton, every thread resolving its own choices (`paths[k]` is any event list its
    program can produce), any interleaving: in every reachable state in which some thread is unfinished, some
    thread is enabled.  No state has all unfinished threads blocked. -/
theorem deadlock_free (progs : List (List Skel)) (hwf : ∀ ops ∈ progs, ∀ o ∈ ops, o.wf [] = true)
    (paths : List (List Ev)) (hrun : IsRunOf progs paths)
    (s : State) (hreach : Reach (State.init paths) s) (hun : allFinished s = false) :
    ∃ i, enabledB s i = true :=
  progress workConserving_enabledB ((allWf_of_isRunOf hwf hrun).reach hreach) hun

/-- T2 in terms of replayed schedules: whatever schedule `sched` has been replayed so far, the state reached
    is not stuck. -/
theorem no_stuck_state (progs : List (List Skel)) (hwf : ∀ ops ∈ progs, ∀ o ∈ ops, o.wf [] = true)
    (paths : List (List Ev)) (hrun : IsRunOf progs paths)
    (sched : List ThreadId) (s : State) (h : runSchedule sched (State.init paths) = some s) :
    stuck s = false :=
  not_stuck_of_allWf ((allWf_of_isRunOf hwf hrun).reach (runScheduleWith_reach (.refl _) h))

/-! ## T3 — termination: every call returns -/

/-- Every step performs exactly one lock event, so a run of `n` steps from `s` leaves `remaining s - n`
    events: no run is longer than `remaining s`. -/
theorem run_length {sched : List ThreadId} {s s' : State} (h : runSchedule sched s = some s') :
    remaining s' + sched.length = remaining s :=
  remaining_runScheduleWith workConserving_enabledB h

/-- A run that cannot be extended (no thread enabled) has finished every thread. -/
theorem maximal_run_finished (progs : List (List Skel)) (hwf : ∀ ops ∈ progs, ∀ o ∈ ops, o.wf [] = true)
    (paths : List (List Ev)) (hrun : IsRunOf progs paths)
    (s : State) (hreach : Reach (State.init paths) s) (hmax : ∀ i, enabledB s i = false) :
    allFinished s = true := by
  cases hf : allFinished s
  · obtain ⟨i, hi⟩ := deadlock_free progs hwf paths hrun s hreach hf
    rw [hmax i] at hi; cases hi
  · rfl

/-- **T3.**  Every scheduler — any function choosing the next thread, as long as it chooses an enabled thread
    whenever there is one; it need not be fair — drives the system to the state in which all threads have
    finished, within `remaining` steps (the number of lock events still to be performed; by `run_length` no run is
    longer): every call returns. -/
theorem every_call_returns (progs : List (List Skel)) (hwf : ∀ ops ∈ progs, ∀ o ∈ ops, o.wf [] = true)
    (paths : List (List Ev)) (hrun : IsRunOf progs paths)
    (pick : State → ThreadId) (hpick : ∀ s, (∃ i, enabledB s i = true) → enabledB s (pick s) = true) :
    ∃ s', runPick pick (remaining (State.init paths)) (State.init paths) = some s' ∧ allFinished s' = true :=
  runPickWith_finishes workConserving_enabledB pick hpick _ _ (allWf_of_isRunOf hwf hrun) (Nat.le_refl _)

/-! ## T4 — writer preference -/

/-- **T4.**  T2 under writer preference (a new reader is refused while another thread is waiting to
    write-lock the same lock): still no reachable state with all unfinished threads blocked. -/
theorem deadlock_free_wp (progs : List (List Skel)) (hwf : ∀ ops ∈ progs, ∀ o ∈ ops, o.wf [] = true)
    (paths : List (List Ev)) (hrun : IsRunOf progs paths)
    (s : State) (hreach : ReachWP (State.init paths) s) (hun : allFinished s = false) :
    ∃ i, enabledWPB s i = true :=
  progress workConserving_enabledWPB ((allWf_of_isRunOf hwf hrun).reach hreach) hun

/-- T3 under writer preference. -/
theorem every_call_returns_wp (progs : List (List Skel)) (hwf : ∀ ops ∈ progs, ∀ o ∈ ops, o.wf [] = true)
    (paths : List (List Ev)) (hrun : IsRunOf progs paths)
    (pick : State → ThreadId) (hpick : ∀ s, (∃ i, enabledWPB s i = true) → enabledWPB s (pick s) = true) :
    ∃ s', runPickWith enabledWPB pick (remaining (State.init paths)) (State.init paths) = some s' ∧
      allFinished s' = true :=
  runPickWith_finishes workConserving_enabledWPB pick hpick _ _ (allWf_of_isRunOf hwf hrun) (Nat.le_refl _)

/-- T2/T4 for ANY work-conserving lock-granting policy (hand-off to a designated waiter, FIFO queues, …):
    whatever the lock implementation does, as long as a free lock wanted by somebody is granted to somebody. -/
theorem deadlock_free_any_policy {E : State → ThreadId → Bool} (hE : WorkConserving E)
    (progs : List (List Skel)) (hwf : ∀ ops ∈ progs, ∀ o ∈ ops, o.wf [] = true)
    (paths : List (List Ev)) (hrun : IsRunOf progs paths)
    (s : State) (hreach : ReachWith E (State.init paths) s) (hun : allFinished s = false) :
    ∃ i, E s i = true :=
  progress hE ((allWf_of_isRunOf hwf hrun).reach hreach) hun

/-! ## T5 — the skeleton table of cachelito -/

open Table

/-- **T5.**  For ANY universe of caches (any lists of sync and async cache numbers) and either level of detail:
    ranks depend on the kind of lock only, and no operation holds locks of two caches at once. -/
theorem opTableOf_wf (full : Bool) (syncs asyncs : List Nat) :
    ∀ p ∈ opTableOf full syncs asyncs, p.2.wf [] = true :=
  Table.opTableOf_wf full syncs asyncs

/-- The instance `opTable`: two sync caches and one async cache at hook level (registry locks, queue mutex, store
    lock). -/
theorem opTable_wf : ∀ p ∈ opTable, p.2.wf [] = true := Table.opTableOf_wf false [0, 1] [2]

/-- The same with the `Once` cells of the first-call registrations and the DashMap shard guards shown. -/
theorem opTableFull_wf : ∀ p ∈ opTableFull, p.2.wf [] = true := Table.opTableOf_wf true [0, 1] [2]

/-- The conditional-invalidation callback as it was before the fix (store lock, then queue mutex inside)
    violates the rank discipline, for every cache … -/
theorem legacyCondCb_not_wf (c : Nat) : (legacyCondCb c).wf [] = false := by
  simp [legacyCondCb, wr, Skel.wf, M, O]

/-- … and so do the operations that run it. -/
theorem legacy_invalidate_with_not_wf (c : Nat) : (invalidateWith (legacyCondCb c)).wf [] = false := by
  simp [invalidateWith, Skel.opt, legacyCondCb, wr, Skel.wf, M, O, Rk]

/-- **C17 for cachelito.**  Any number of threads, each running any sequence of operations taken from the
    table (calls under every policy, both insert variants, expired lookups, first-call registrations, group and
    conditional invalidations, statistics queries — on any caches of the universe), any interleaving: no
    reachable state has all unfinished threads blocked … -/
theorem cachelito_deadlock_free (full : Bool) (syncs asyncs : List Nat) (progs : List (List Skel))
    (hops : ∀ ops ∈ progs, ∀ o ∈ ops, o ∈ (opTableOf full syncs asyncs).map (·.2))
    (paths : List (List Ev)) (hrun : IsRunOf progs paths)
    (s : State) (hreach : Reach (State.init paths) s) (hun : allFinished s = false) :
    ∃ i, enabledB s i = true :=
  deadlock_free progs (wf_of_progs_in_table hops) paths hrun s hreach hun

/-- … and every scheduler brings every call to its return (also under writer preference:
    `every_call_returns_wp` applies in the same way). -/
theorem cachelito_every_call_returns (full : Bool) (syncs asyncs : List Nat) (progs : List (List Skel))
    (hops : ∀ ops ∈ progs, ∀ o ∈ ops, o ∈ (opTableOf full syncs asyncs).map (·.2))
    (paths : List (List Ev)) (hrun : IsRunOf progs paths)
    (pick : State → ThreadId) (hpick : ∀ s, (∃ i, enabledB s i = true) → enabledB s (pick s) = true) :
    ∃ s', runPick pick (remaining (State.init paths)) (State.init paths) = some s' ∧ allFinished s' = true :=
  every_call_returns progs (wf_of_progs_in_table hops) paths hrun pick hpick

/-! ## C20 (a) — a suspended call holds nothing and blocks nobody -/

/-- After ANY complete operation (in particular after the `lookup` phase of an async call, i.e. at every await
    boundary) the thread holds no lock. -/
theorem suspended_holds_nothing {s : Skel} (hwf : s.wf [] = true) {t : List Ev} (hr : Runs s t) :
    heldAfterAll [] t = [] :=
  heldAfterAll_of_wfFrom (runs_wfFrom_nil hwf hr)

/-- Threads that hold nothing and are never scheduled (`susp` — calls parked at an await, or dropped there)
    cannot block the others: while some other thread is unfinished, some other thread is enabled. -/
theorem progress_despite_suspended (progs : List (List Skel)) (hwf : ∀ ops ∈ progs, ∀ o ∈ ops, o.wf [] = true)
    (paths : List (List Ev)) (hrun : IsRunOf progs paths)
    (s : State) (hreach : Reach (State.init paths) s) (susp : ThreadId → Prop)
    (hs : ∀ (i : ThreadId) (th : Thread), s[i]? = some th → susp i → th.held = [])
    (hun : ∃ (i : ThreadId) (th : Thread), s[i]? = some th ∧ ¬ susp i ∧ th.todo ≠ []) :
    ∃ i, ¬ susp i ∧ enabledB s i = true :=
  progress_suspended ((allWf_of_isRunOf hwf hrun).reach hreach) susp hs hun

/-! ## Non-vacuity and the regression witness for F5 -/

section Examples

open Cachelito.Conc.Sample

/-- the three programs are made of table entries -/
example : ∀ ops ∈ progs3, ∀ o ∈ ops, o ∈ opTable.map (·.2) := by decide +kernel

/-- the three event lists are runs of the three programs: the hypotheses of T2/T3 hold for `sys3` -/
example : IsRunOf progs3 [pathCall, pathInvalidateWith, pathStats] :=
  ⟨(accepts_iff _ _).1 (by decide +kernel), (accepts_iff _ _).1 (by decide +kernel),
   (accepts_iff _ _).1 (by decide +kernel), trivial⟩

/-- the traces pass the monitor -/
example : checkTrace [] pathCall = true ∧ checkTrace [] pathInvalidateWith = true := by decide

/-- A replayed interleaving with real contention: A does its lookup and store-write and takes the queue mutex;
    B takes the registry lock and is then BLOCKED on the queue mutex (A holds it); C runs; A finishes its
    eviction; B proceeds; everybody finishes after exactly `remaining sys3 = 16` steps. -/
example :
    (runSchedule [0, 0, 0, 0, 0, 1] sys3).map (fun s => (enabledB s 1, enabledB s 0, stuck s))
      = some (false, true, false) ∧
    (runSchedule [0, 0, 0, 0, 0, 1, 2, 0, 0, 2, 0, 1, 1, 1, 1, 1] sys3).map allFinished = some true ∧
    remaining sys3 = 16 := by decide +kernel

/-- the exhaustive search on a 3-thread system (a hit with its recency update, an `invalidate_with`, a
    statistics query) and on the evicting call against `invalidate_with` finds no stuck state — not by running
    it: the event lists pass the monitor, so `explore_of_allWf` applies -/
example : explore (remaining sys3') sys3' = true := explore_of_allWf _ (.init_of_checkTrace (by decide))
example : explore 14 (State.init [pathCall, pathInvalidateWith]) = true :=
  explore_of_allWf _ (.init_of_checkTrace (by decide))

/-- the same under writer preference for one schedule -/
example :
    (runScheduleWP [0, 0, 0, 0, 0, 1, 2, 0, 0, 2, 0, 1, 1, 1, 1, 1] sys3).map allFinished = some true := by
  decide +kernel

/-- writer preference really is more restrictive: while thread 0 reads STATS and thread 1 (a first call
    registering its statistics) waits to write it, a NEW reader (thread 2) may enter under plain semantics
    but is refused under writer preference — and the system still is not stuck (thread 0 can release) -/
example :
    let s : State := [⟨[(STATS, .shared)], [.rel STATS]⟩, ⟨[], [.acq STATS .excl, .rel STATS]⟩, ⟨[], pathStats⟩]
    runSchedule [0] (State.init [pathStats, [.acq STATS .excl, .rel STATS], pathStats]) = some s ∧
    (enabledB s 2, enabledWPB s 2, enabledWPB s 1, enabledWPB s 0) = (true, false, false, true) ∧
    (runScheduleWP [0, 1, 1, 2, 2] s).map allFinished = some true := by decide +kernel

/-- the matcher rejects a trace that is not a run: the legacy lock order is not a run of the fixed callback -/
example : accepts (invalidateWith (syncCondCb 0)) pathLegacyInvalidateWith = false ∧
    accepts (invalidateWith (legacyCondCb 0)) pathLegacyInvalidateWith = true := by decide

/-- every enumerated path of the most complicated skeleton is accepted (and there are several) -/
example : (Skel.paths 2 (syncInsertMem 0)).all (accepts (syncInsertMem 0)) = true ∧
    (Skel.paths 1 (syncInsertMem 0)).length = 11 := by decide +kernel

/-- **Regression witness for F5.**  With the legacy callback (which `legacyCondCb_not_wf` rejects) two threads
    deadlock: A writes the store and takes the queue mutex, B takes the registry lock and the store lock; now
    A waits for the store lock held by B, B waits for the queue mutex held by A — both unfinished, nobody
    enabled.  The exhaustive search finds exactly this schedule; the fixed system has no stuck state. -/
theorem legacy_deadlock :
    (runSchedule [0, 0, 0, 1, 1] sysLegacy).map (fun s => (allFinished s, enabledB s 0, enabledB s 1, stuck s))
      = some (false, false, false, true) ∧
    findStuck (remaining sysLegacy) sysLegacy = some [0, 0, 0, 1, 1] ∧
    explore (remaining sysLegacy) sysLegacy = false ∧
    explore 12 (State.init [pathCall.drop 2, pathInvalidateWith]) = true :=
  ⟨by decide, by decide +kernel, by decide +kernel, explore_of_allWf _ (.init_of_checkTrace (by decide))⟩

end Examples

end Cachelito.C17
