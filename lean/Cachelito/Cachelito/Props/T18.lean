/-
  T18 — TRANSLATOR TIE, cachelito-async-macros/src/lib.rs: the wrapper `#[cache_async]` generates (C01, C03, C09, C10, C11, C19, C20)

  `checklib/rust2lean.py` EVALUATES the `let` statements of the proc-macro function `cache_async` that build the wrapper
  (`invalidation_check`, `insert_call` via `generate_insert_call`, `cache_insert`, `cache_logic` via
  `generate_cache_logic_block`) for each of the 16 configurations (max_memory present x Result return type x invalidate_on
  present x cache_if present), checks that `AsyncGlobalCache::new` receives every attribute value in the parameter of the
  same name, replaces `(async #block).await` — the only await — by the body's value, and translates the resulting Rust block
  (`Generated/PureWrapAsync.lean`, 16 definitions, regenerated from /repo's CURRENT source on every check).

  Part (a): in EVERY configuration the generated async wrapper is the generic wrapper `T17.wrapGen` over the translated async
  engine, with the ASYNC store rule: `cache_if` alone decides when present (an `Err` it accepts IS stored); without it a
  Result function stores only an `Ok`; a plain function always stores.  Part (b): the model's `callFn` for `isAsync` IS that
  generic wrapper over the model's engine.  Part (c): the generic wrapper over the TRANSLATED async engine (T07 / T10 / T16)
  returns what `callFn` returns and leaves the cache in the state `callFn` leaves — with and without `max_memory`.
-/
import Cachelito.Generated.PureWrapAsync
import Cachelito.Props.T17
import Cachelito.Props.T16
import Cachelito.Props.T10
import Cachelito.Props.T07


namespace Cachelito.T18
open Cachelito Cachelito.RustLite Cachelito.Generated Cachelito.Generated.WrapAsync Cachelito.T17

variable {K V F E T C : Type} [DecidableEq K]

/-- the async wrapper's default for a `Result` function without `cache_if`: only an `Ok` reaches the store -/
def okOnly (store : C → K → Except E T → C) : C → K → Except E T → C :=
  fun c k v => if isOk v then store c k v else c

/-! ## (a) every configuration is `wrapGen` over the async engine -/

section
variable (A : F64 F) (clock : Clock) (size : V → Nat) (fuel : Nat) (rs : List Nat) (io ci : K → V → Bool)
  (c : AsyncCache K V F) (key : K) (body : V)

theorem wrapAsync_0000_eq :
    wrapAsync_0000 A clock size fuel rs io ci c key body =
      wrapGen ⟨Async.get clock, Async.insert A clock (headRand rs)⟩ false false io ci c key body := by
  dsimp only [wrapAsync_0000, wrapGen]
  cases (Async.get clock c key).1 <;> rfl

theorem wrapAsync_0001_eq :
    wrapAsync_0001 A clock size fuel rs io ci c key body =
      wrapGen ⟨Async.get clock, Async.insert A clock (headRand rs)⟩ false true io ci c key body := by
  dsimp only [wrapAsync_0001, wrapGen]
  cases (Async.get clock c key).1 <;> rfl

theorem wrapAsync_0010_eq :
    wrapAsync_0010 A clock size fuel rs io ci c key body =
      wrapGen ⟨Async.get clock, Async.insert A clock (headRand rs)⟩ true false io ci c key body := by
  dsimp only [wrapAsync_0010, wrapGen]
  cases (Async.get clock c key).1 <;> rfl

theorem wrapAsync_0011_eq :
    wrapAsync_0011 A clock size fuel rs io ci c key body =
      wrapGen ⟨Async.get clock, Async.insert A clock (headRand rs)⟩ true true io ci c key body := by
  dsimp only [wrapAsync_0011, wrapGen]
  cases (Async.get clock c key).1 <;> rfl

theorem wrapAsync_1000_eq :
    wrapAsync_1000 A clock size fuel rs io ci c key body =
      wrapGen ⟨Async.get clock, Async.insert_with_memory A clock size fuel rs⟩ false false io ci c key body := by
  dsimp only [wrapAsync_1000, wrapGen]
  cases (Async.get clock c key).1 <;> rfl

theorem wrapAsync_1001_eq :
    wrapAsync_1001 A clock size fuel rs io ci c key body =
      wrapGen ⟨Async.get clock, Async.insert_with_memory A clock size fuel rs⟩ false true io ci c key body := by
  dsimp only [wrapAsync_1001, wrapGen]
  cases (Async.get clock c key).1 <;> rfl

theorem wrapAsync_1010_eq :
    wrapAsync_1010 A clock size fuel rs io ci c key body =
      wrapGen ⟨Async.get clock, Async.insert_with_memory A clock size fuel rs⟩ true false io ci c key body := by
  dsimp only [wrapAsync_1010, wrapGen]
  cases (Async.get clock c key).1 <;> rfl

theorem wrapAsync_1011_eq :
    wrapAsync_1011 A clock size fuel rs io ci c key body =
      wrapGen ⟨Async.get clock, Async.insert_with_memory A clock size fuel rs⟩ true true io ci c key body := by
  dsimp only [wrapAsync_1011, wrapGen]
  cases (Async.get clock c key).1 <;> rfl

end

section
variable (A : F64 F) (clock : Clock) (size : Except E T → Nat) (fuel : Nat) (rs : List Nat) (io ci : K → Except E T → Bool)
  (c : AsyncCache K (Except E T) F) (key : K) (body : Except E T)

theorem wrapAsync_0100_eq :
    wrapAsync_0100 A clock size fuel rs io ci c key body =
      wrapGen ⟨Async.get clock, okOnly (Async.insert A clock (headRand rs))⟩ false false io ci c key body := by
  dsimp only [wrapAsync_0100, wrapGen, okOnly]
  cases (Async.get clock c key).1 <;> rfl

theorem wrapAsync_0101_eq :
    wrapAsync_0101 A clock size fuel rs io ci c key body =
      wrapGen ⟨Async.get clock, Async.insert A clock (headRand rs)⟩ false true io ci c key body := by
  dsimp only [wrapAsync_0101, wrapGen]
  cases (Async.get clock c key).1 <;> rfl

theorem wrapAsync_0110_eq :
    wrapAsync_0110 A clock size fuel rs io ci c key body =
      wrapGen ⟨Async.get clock, okOnly (Async.insert A clock (headRand rs))⟩ true false io ci c key body := by
  dsimp only [wrapAsync_0110, wrapGen, okOnly]
  cases (Async.get clock c key).1 <;> rfl

theorem wrapAsync_0111_eq :
    wrapAsync_0111 A clock size fuel rs io ci c key body =
      wrapGen ⟨Async.get clock, Async.insert A clock (headRand rs)⟩ true true io ci c key body := by
  dsimp only [wrapAsync_0111, wrapGen]
  cases (Async.get clock c key).1 <;> rfl

theorem wrapAsync_1100_eq :
    wrapAsync_1100 A clock size fuel rs io ci c key body =
      wrapGen ⟨Async.get clock, okOnly (Async.insert_with_memory A clock size fuel rs)⟩ false false io ci c key body := by
  dsimp only [wrapAsync_1100, wrapGen, okOnly]
  cases (Async.get clock c key).1 <;> rfl

theorem wrapAsync_1101_eq :
    wrapAsync_1101 A clock size fuel rs io ci c key body =
      wrapGen ⟨Async.get clock, Async.insert_with_memory A clock size fuel rs⟩ false true io ci c key body := by
  dsimp only [wrapAsync_1101, wrapGen]
  cases (Async.get clock c key).1 <;> rfl

theorem wrapAsync_1110_eq :
    wrapAsync_1110 A clock size fuel rs io ci c key body =
      wrapGen ⟨Async.get clock, okOnly (Async.insert_with_memory A clock size fuel rs)⟩ true false io ci c key body := by
  dsimp only [wrapAsync_1110, wrapGen, okOnly]
  cases (Async.get clock c key).1 <;> rfl

theorem wrapAsync_1111_eq :
    wrapAsync_1111 A clock size fuel rs io ci c key body =
      wrapGen ⟨Async.get clock, Async.insert_with_memory A clock size fuel rs⟩ true true io ci c key body := by
  dsimp only [wrapAsync_1111, wrapGen]
  cases (Async.get clock c key).1 <;> rfl

end

/-! ## (b) down to the model: `callFn` for `#[cache_async]` -/

/-- the model's engine operations for an ASYNC function specification -/
def modelOpsA (spec : FnSpec) (tl : Tlru F) (size : V → Nat) (isOk : V → Bool) (rs : List Nat) :
    EngineOps (State K V) K V where
  get s k := ((Cachelito.get spec.cfg s k).2, (Cachelito.get spec.cfg s k).1)
  store s k v :=
    if (if spec.hasCacheIf then true else (if spec.isResult then isOk v else true)) then
      (if spec.useMem then insertMem spec.cfg tl size rs s k v else insert spec.cfg tl (rs.headD 0) s k v)
    else s

theorem modelOpsA_store_bare (spec : FnSpec) (hk : spec.hasCacheIf = true ∨ spec.isResult = false) (tl : Tlru F)
    (size : V → Nat) (isOk : V → Bool) (rs : List Nat) (s : State K V) (k : K) (v : V) :
    (modelOpsA spec tl size isOk rs).store s k v =
      if spec.useMem then insertMem spec.cfg tl size rs s k v else insert spec.cfg tl (rs.headD 0) s k v := by
  rcases hk with h | h <;> simp only [modelOpsA, h, if_true, if_false, ite_self, Bool.false_eq_true]

/-- **the model's `callFn` (async functions) is the generic wrapper over the model's engine** -/
theorem callFn_eq_wrapGen_async (spec : FnSpec) (hs : spec.isAsync = true) (tl : Tlru F) (size : V → Nat) (isOk : V → Bool)
    (rs : List Nat) (s : State K V) (c : CallIn K V) :
    ((callFn spec tl size isOk rs s c).2.1, (callFn spec tl size isOk rs s c).1) =
      wrapGen (modelOpsA spec tl size isOk rs) spec.hasInvalidateOn spec.hasCacheIf c.invalidateOn c.cacheIf s c.key c.bodyVal :=
  callFn_eq_wrapGen_of spec tl size isOk rs _ (fun _ _ => rfl)
    (fun s k v accept => by
      simp only [modelOpsA, shouldStore, hs]
      cases spec.hasCacheIf <;> cases accept <;> cases (if spec.isResult then isOk v else true) <;> rfl) s c

/-! ## (c) the generated async wrapper IS `callFn` -/

/-- what relates an `AsyncGlobalCache` to a model state -/
def RelA (cfg : Cfg) (fw : Option F) (now : Nat) (c : AsyncCache K V F) (s : State K V) : Prop :=
  T06.cfgOf c = cfg ∧ c.frequency_weight = fw ∧ c.cache = s.store ∧ c.order = s.queue ∧ s.now = now ∧
  c.stats.hits = s.hitStat ∧ c.stats.misses = s.missStat

omit [DecidableEq K] in
theorem RelA.state {cfg : Cfg} {fw : Option F} {now : Nat} {c : AsyncCache K V F} {s : State K V}
    (h : RelA cfg fw now c s) :
    cfg = T06.cfgOf c ∧ fw = c.frequency_weight ∧ s = ⟨c.cache, c.order, now, c.stats.hits, c.stats.misses⟩ := by
  obtain ⟨store, queue, now', hits, misses⟩ := s
  obtain ⟨rfl, rfl, rfl, rfl, rfl, rfl, rfl⟩ := h
  exact ⟨rfl, rfl, rfl⟩

theorem async_get_sim (cfg : Cfg) (fw : Option F) (now : Nat) (k : K) (c : AsyncCache K V F) (s : State K V)
    (hr : RelA cfg fw now c s) (hh : ∀ p, p ∈ c.cache → p.2.hits + 1 < u64Max) :
    (Async.get ⟨fun _ => 0, now⟩ c k).1 = (Cachelito.get cfg s k).2 ∧
    RelA cfg fw now (Async.get ⟨fun _ => 0, now⟩ c k).2 (Cachelito.get cfg s k).1 ∧
    ∀ p, p ∈ (Async.get ⟨fun _ => 0, now⟩ c k).2.cache → p.2.hits < u64Max := by
  obtain ⟨rfl, rfl, rfl⟩ := hr.state
  rw [T10.get_eq c now k (fun p hp => Nat.lt_of_succ_lt (hh p hp))]
  exact ⟨rfl, ⟨rfl, rfl, rfl, rfl, Hist.get_now .., rfl, rfl⟩, SourceLemmas.get_hits_lt _ _ k hh⟩

/-- the assumptions on the float structure (DESIGN.md §9) for an async configuration -/
structure FloatOKA (A : F64 F) (cfg : Cfg) (fw : Option F) : Prop where
  arcBelowMax : ∀ a b, A.lt (A.mul (A.ofNat a) (A.ofNat b)) A.maxVal = true
  arcOrder : ∀ a b c d, A.lt (A.mul (A.ofNat a) (A.ofNat b)) (A.mul (A.ofNat c) (A.ofNat d)) = decide (a * b < c * d)
  tlruBelowMax : ∀ hits el rk, A.lt ((T06.srcTlruAsync A fw).score cfg hits el rk) A.maxVal = true

theorem async_insert_sim (A : F64 F) (cfg : Cfg) (fw : Option F) (now r : Nat) (k : K) (v : V)
    (c : AsyncCache K V F) (s : State K V) (hr : RelA cfg fw now c s) (hh : ∀ p, p ∈ c.cache → p.2.hits < u64Max)
    (fok : FloatOKA A cfg fw) :
    RelA cfg fw now (Async.insert A ⟨fun _ => 0, now⟩ r c k v) (Cachelito.insert cfg (T06.srcTlruAsync A fw) r s k v) := by
  obtain ⟨rfl, rfl, rfl⟩ := hr.state
  rw [T07.insert_eq A c now r c.stats.hits c.stats.misses k v ⟨hh, fok.arcBelowMax, fok.arcOrder, fok.tlruBelowMax⟩]
  obtain ⟨f1, f2, f3⟩ := Hist.insert_frame (T06.cfgOf c) (T06.srcTlruAsync A c.frequency_weight) r
    ⟨c.cache, c.order, now, c.stats.hits, c.stats.misses⟩ k v
  exact ⟨rfl, rfl, rfl, rfl, f1, f2.symm, f3.symm⟩

/-- the fuel the model's memory loop uses (one more than the queue length after the key's old slot was dropped) -/
def memFuel (c : AsyncCache K V F) (k : K) : Nat :=
  (if hasKey k c.cache then c.order.filter (fun x => x ≠ k) else c.order).length + 1

theorem async_insertMem_sim (A : F64 F) (cfg : Cfg) (fw : Option F) (now : Nat) (rs : List Nat) (size : V → Nat) (k : K) (v : V)
    (c : AsyncCache K V F) (s : State K V) (hr : RelA cfg fw now c s) (hh : ∀ p, p ∈ c.cache → p.2.hits < u64Max)
    (fok : FloatOKA A cfg fw) :
    RelA cfg fw now (Async.insert_with_memory A ⟨fun _ => 0, now⟩ size (memFuel c k) rs c k v)
      (Cachelito.insertMem cfg (T06.srcTlruAsync A fw) size rs s k v) := by
  obtain ⟨rfl, rfl, rfl⟩ := hr.state
  have ok : T07.ScoresOK A c := ⟨hh, fok.arcBelowMax, fok.arcOrder, fok.tlruBelowMax⟩
  obtain ⟨m1, m2⟩ := T16.insert_with_memory_model A c size now c.stats.hits c.stats.misses rs k v ok
  obtain ⟨g1, g2, g3⟩ := T16.insert_with_memory_frame A size (memFuel c k) rs c now k v ok
  obtain ⟨f1, f2, f3⟩ := Hist.insertMem_frame (T06.cfgOf c) (T06.srcTlruAsync A c.frequency_weight) size rs
    ⟨c.cache, c.order, now, c.stats.hits, c.stats.misses⟩ k v
  exact ⟨g1, g2, m1, m2, f1, by rw [g3, f2], by rw [g3, f3]⟩

/-! ### the four stores the macro selects (`max_memory` or not; bare or `Ok`-only), for any specification that selects them -/

/-- a plain return type, or `cache_if` present (then `cache_if` alone decides — an accepted `Err` IS stored, observation
    recorded in DESIGN.md): the store is the engine's bare `insert`.  The generic wrapper over the TRANSLATED async engine
    returns what the model's `callFn` returns and leaves the cache in the state `callFn` leaves -/
theorem async_plain_wrapper_is_callFn (A : F64 F) (spec : FnSpec) (hs : spec.isAsync = true) (hm : spec.useMem = false) (hk : spec.hasCacheIf = true ∨ spec.isResult = false)
    {fw : Option F} {now : Nat} {rs : List Nat} {io cif : K → V → Bool} {size : V → Nat} {isOk : V → Bool}
    {c0 : AsyncCache K (V) F} {s : State K (V)} {key : K} {body : V}
    (hr : RelA spec.cfg fw now c0 s) (hh : ∀ p, p ∈ c0.cache → p.2.hits + 1 < u64Max) (fok : FloatOKA A spec.cfg fw) :
    (wrapGen ⟨Async.get ⟨fun _ => 0, now⟩, Async.insert A ⟨fun _ => 0, now⟩ (headRand rs)⟩ spec.hasInvalidateOn spec.hasCacheIf io cif c0 key body).1 =
      (callFn spec (T06.srcTlruAsync A fw) size isOk rs s ⟨key, body, cif, io⟩).2.1 ∧
    RelA spec.cfg fw now
      (wrapGen ⟨Async.get ⟨fun _ => 0, now⟩, Async.insert A ⟨fun _ => 0, now⟩ (headRand rs)⟩ spec.hasInvalidateOn spec.hasCacheIf io cif c0 key body).2
      (callFn spec (T06.srcTlruAsync A fw) size isOk rs s ⟨key, body, cif, io⟩).1 := by
  obtain ⟨hv, hw, h0⟩ := async_get_sim spec.cfg fw now key c0 s hr hh
  refine wrapGen_is_callFn (RelA spec.cfg fw now) (callFn_eq_wrapGen_async spec hs ..) hv hw ?_
  simp only [modelOpsA_store_bare spec hk, hm, if_false, Bool.false_eq_true]
  exact async_insert_sim A spec.cfg fw now _ key _ _ _ hw h0 fok

/-- a `Result` function without `cache_if`: only an `Ok` reaches `insert`, an `Err` is never stored (C09) -/
theorem async_result_wrapper_is_callFn (A : F64 F) (spec : FnSpec) (hs : spec.isAsync = true) (hm : spec.useMem = false) (hci : spec.hasCacheIf = false) (hres : spec.isResult = true)
    {fw : Option F} {now : Nat} {rs : List Nat} {io cif : K → Except E T → Bool} {size : Except E T → Nat}
    {c0 : AsyncCache K (Except E T) F} {s : State K (Except E T)} {key : K} {body : Except E T}
    (hr : RelA spec.cfg fw now c0 s) (hh : ∀ p, p ∈ c0.cache → p.2.hits + 1 < u64Max) (fok : FloatOKA A spec.cfg fw) :
    (wrapGen ⟨Async.get ⟨fun _ => 0, now⟩, okOnly (Async.insert A ⟨fun _ => 0, now⟩ (headRand rs))⟩ spec.hasInvalidateOn spec.hasCacheIf io cif c0 key body).1 =
      (callFn spec (T06.srcTlruAsync A fw) size RustLite.isOk rs s ⟨key, body, cif, io⟩).2.1 ∧
    RelA spec.cfg fw now
      (wrapGen ⟨Async.get ⟨fun _ => 0, now⟩, okOnly (Async.insert A ⟨fun _ => 0, now⟩ (headRand rs))⟩ spec.hasInvalidateOn spec.hasCacheIf io cif c0 key body).2
      (callFn spec (T06.srcTlruAsync A fw) size RustLite.isOk rs s ⟨key, body, cif, io⟩).1 := by
  obtain ⟨hv, hw, h0⟩ := async_get_sim spec.cfg fw now key c0 s hr hh
  refine wrapGen_is_callFn (RelA spec.cfg fw now) (callFn_eq_wrapGen_async spec hs ..) hv hw ?_
  cases body with
  | error e =>
    simp only [modelOpsA, okOnly, RustLite.isOk, hci, hres, if_true, if_false, Bool.false_eq_true]
    exact hw
  | ok x =>
    simp only [modelOpsA, okOnly, RustLite.isOk, hm, hci, hres, if_true, if_false, Bool.false_eq_true]
    exact async_insert_sim A spec.cfg fw now _ key _ _ _ hw h0 fok

/-- the same with `max_memory` (memory loop with the model's fuel): bare `insert_with_memory` -/
theorem async_mem_plain_wrapper_is_callFn (A : F64 F) (spec : FnSpec) (hs : spec.isAsync = true) (hm : spec.useMem = true) (hk : spec.hasCacheIf = true ∨ spec.isResult = false)
    {fw : Option F} {now : Nat} {rs : List Nat} {io cif : K → V → Bool} {size : V → Nat} {isOk : V → Bool}
    {c0 : AsyncCache K (V) F} {s : State K (V)} {key : K} {body : V}
    (hr : RelA spec.cfg fw now c0 s) (hh : ∀ p, p ∈ c0.cache → p.2.hits + 1 < u64Max) (fok : FloatOKA A spec.cfg fw) :
    (wrapGen ⟨Async.get ⟨fun _ => 0, now⟩, Async.insert_with_memory A ⟨fun _ => 0, now⟩ size (memFuel (Async.get ⟨fun _ => 0, now⟩ c0 key).2 key) rs⟩ spec.hasInvalidateOn spec.hasCacheIf io cif c0 key body).1 =
      (callFn spec (T06.srcTlruAsync A fw) size isOk rs s ⟨key, body, cif, io⟩).2.1 ∧
    RelA spec.cfg fw now
      (wrapGen ⟨Async.get ⟨fun _ => 0, now⟩, Async.insert_with_memory A ⟨fun _ => 0, now⟩ size (memFuel (Async.get ⟨fun _ => 0, now⟩ c0 key).2 key) rs⟩ spec.hasInvalidateOn spec.hasCacheIf io cif c0 key body).2
      (callFn spec (T06.srcTlruAsync A fw) size isOk rs s ⟨key, body, cif, io⟩).1 := by
  obtain ⟨hv, hw, h0⟩ := async_get_sim spec.cfg fw now key c0 s hr hh
  refine wrapGen_is_callFn (RelA spec.cfg fw now) (callFn_eq_wrapGen_async spec hs ..) hv hw ?_
  simp only [modelOpsA_store_bare spec hk, hm, if_true]
  exact async_insertMem_sim A spec.cfg fw now rs size key _ _ _ hw h0 fok

/-- … and `Ok`-only `insert_with_memory` -/
theorem async_mem_result_wrapper_is_callFn (A : F64 F) (spec : FnSpec) (hs : spec.isAsync = true) (hm : spec.useMem = true) (hci : spec.hasCacheIf = false) (hres : spec.isResult = true)
    {fw : Option F} {now : Nat} {rs : List Nat} {io cif : K → Except E T → Bool} {size : Except E T → Nat}
    {c0 : AsyncCache K (Except E T) F} {s : State K (Except E T)} {key : K} {body : Except E T}
    (hr : RelA spec.cfg fw now c0 s) (hh : ∀ p, p ∈ c0.cache → p.2.hits + 1 < u64Max) (fok : FloatOKA A spec.cfg fw) :
    (wrapGen ⟨Async.get ⟨fun _ => 0, now⟩, okOnly (Async.insert_with_memory A ⟨fun _ => 0, now⟩ size (memFuel (Async.get ⟨fun _ => 0, now⟩ c0 key).2 key) rs)⟩ spec.hasInvalidateOn spec.hasCacheIf io cif c0 key body).1 =
      (callFn spec (T06.srcTlruAsync A fw) size RustLite.isOk rs s ⟨key, body, cif, io⟩).2.1 ∧
    RelA spec.cfg fw now
      (wrapGen ⟨Async.get ⟨fun _ => 0, now⟩, okOnly (Async.insert_with_memory A ⟨fun _ => 0, now⟩ size (memFuel (Async.get ⟨fun _ => 0, now⟩ c0 key).2 key) rs)⟩ spec.hasInvalidateOn spec.hasCacheIf io cif c0 key body).2
      (callFn spec (T06.srcTlruAsync A fw) size RustLite.isOk rs s ⟨key, body, cif, io⟩).1 := by
  obtain ⟨hv, hw, h0⟩ := async_get_sim spec.cfg fw now key c0 s hr hh
  refine wrapGen_is_callFn (RelA spec.cfg fw now) (callFn_eq_wrapGen_async spec hs ..) hv hw ?_
  cases body with
  | error e =>
    simp only [modelOpsA, okOnly, RustLite.isOk, hci, hres, if_true, if_false, Bool.false_eq_true]
    exact hw
  | ok x =>
    simp only [modelOpsA, okOnly, RustLite.isOk, hm, hci, hres, if_true, if_false, Bool.false_eq_true]
    exact async_insertMem_sim A spec.cfg fw now rs size key _ _ _ hw h0 fok

/-! ### headline: each of the 16 GENERATED async wrappers is the model's `callFn` for its configuration -/

theorem wrapAsync_0000_is_callFn (A : F64 F) (cfg : Cfg) (fw : Option F) (now : Nat) (rs : List Nat) (fuel : Nat)
    (io cif : K → V → Bool) (size : V → Nat) (isOk : V → Bool)
    (c0 : AsyncCache K (V) F) (s : State K (V)) (key : K) (body : V)
    (hr : RelA cfg fw now c0 s) (hh : ∀ p, p ∈ c0.cache → p.2.hits + 1 < u64Max) (fok : FloatOKA A cfg fw) :
    (wrapAsync_0000 A ⟨fun _ => 0, now⟩ size fuel rs io cif c0 key body).1 =
      (callFn ⟨"f", true, false, cfg, false, false, false, false, [], [], []⟩ (T06.srcTlruAsync A fw) size isOk rs s ⟨key, body, cif, io⟩).2.1 ∧
    RelA cfg fw now (wrapAsync_0000 A ⟨fun _ => 0, now⟩ size fuel rs io cif c0 key body).2
      (callFn ⟨"f", true, false, cfg, false, false, false, false, [], [], []⟩ (T06.srcTlruAsync A fw) size isOk rs s ⟨key, body, cif, io⟩).1 := by
  rw [wrapAsync_0000_eq]
  exact async_plain_wrapper_is_callFn A ⟨"f", true, false, cfg, false, false, false, false, [], [], []⟩ rfl rfl (Or.inr rfl) hr hh fok

theorem wrapAsync_0001_is_callFn (A : F64 F) (cfg : Cfg) (fw : Option F) (now : Nat) (rs : List Nat) (fuel : Nat)
    (io cif : K → V → Bool) (size : V → Nat) (isOk : V → Bool)
    (c0 : AsyncCache K (V) F) (s : State K (V)) (key : K) (body : V)
    (hr : RelA cfg fw now c0 s) (hh : ∀ p, p ∈ c0.cache → p.2.hits + 1 < u64Max) (fok : FloatOKA A cfg fw) :
    (wrapAsync_0001 A ⟨fun _ => 0, now⟩ size fuel rs io cif c0 key body).1 =
      (callFn ⟨"f", true, false, cfg, false, false, true, false, [], [], []⟩ (T06.srcTlruAsync A fw) size isOk rs s ⟨key, body, cif, io⟩).2.1 ∧
    RelA cfg fw now (wrapAsync_0001 A ⟨fun _ => 0, now⟩ size fuel rs io cif c0 key body).2
      (callFn ⟨"f", true, false, cfg, false, false, true, false, [], [], []⟩ (T06.srcTlruAsync A fw) size isOk rs s ⟨key, body, cif, io⟩).1 := by
  rw [wrapAsync_0001_eq]
  exact async_plain_wrapper_is_callFn A ⟨"f", true, false, cfg, false, false, true, false, [], [], []⟩ rfl rfl (Or.inl rfl) hr hh fok

theorem wrapAsync_0010_is_callFn (A : F64 F) (cfg : Cfg) (fw : Option F) (now : Nat) (rs : List Nat) (fuel : Nat)
    (io cif : K → V → Bool) (size : V → Nat) (isOk : V → Bool)
    (c0 : AsyncCache K (V) F) (s : State K (V)) (key : K) (body : V)
    (hr : RelA cfg fw now c0 s) (hh : ∀ p, p ∈ c0.cache → p.2.hits + 1 < u64Max) (fok : FloatOKA A cfg fw) :
    (wrapAsync_0010 A ⟨fun _ => 0, now⟩ size fuel rs io cif c0 key body).1 =
      (callFn ⟨"f", true, false, cfg, false, false, false, true, [], [], []⟩ (T06.srcTlruAsync A fw) size isOk rs s ⟨key, body, cif, io⟩).2.1 ∧
    RelA cfg fw now (wrapAsync_0010 A ⟨fun _ => 0, now⟩ size fuel rs io cif c0 key body).2
      (callFn ⟨"f", true, false, cfg, false, false, false, true, [], [], []⟩ (T06.srcTlruAsync A fw) size isOk rs s ⟨key, body, cif, io⟩).1 := by
  rw [wrapAsync_0010_eq]
  exact async_plain_wrapper_is_callFn A ⟨"f", true, false, cfg, false, false, false, true, [], [], []⟩ rfl rfl (Or.inr rfl) hr hh fok

theorem wrapAsync_0011_is_callFn (A : F64 F) (cfg : Cfg) (fw : Option F) (now : Nat) (rs : List Nat) (fuel : Nat)
    (io cif : K → V → Bool) (size : V → Nat) (isOk : V → Bool)
    (c0 : AsyncCache K (V) F) (s : State K (V)) (key : K) (body : V)
    (hr : RelA cfg fw now c0 s) (hh : ∀ p, p ∈ c0.cache → p.2.hits + 1 < u64Max) (fok : FloatOKA A cfg fw) :
    (wrapAsync_0011 A ⟨fun _ => 0, now⟩ size fuel rs io cif c0 key body).1 =
      (callFn ⟨"f", true, false, cfg, false, false, true, true, [], [], []⟩ (T06.srcTlruAsync A fw) size isOk rs s ⟨key, body, cif, io⟩).2.1 ∧
    RelA cfg fw now (wrapAsync_0011 A ⟨fun _ => 0, now⟩ size fuel rs io cif c0 key body).2
      (callFn ⟨"f", true, false, cfg, false, false, true, true, [], [], []⟩ (T06.srcTlruAsync A fw) size isOk rs s ⟨key, body, cif, io⟩).1 := by
  rw [wrapAsync_0011_eq]
  exact async_plain_wrapper_is_callFn A ⟨"f", true, false, cfg, false, false, true, true, [], [], []⟩ rfl rfl (Or.inl rfl) hr hh fok

theorem wrapAsync_0100_is_callFn (A : F64 F) (cfg : Cfg) (fw : Option F) (now : Nat) (rs : List Nat) (fuel : Nat)
    (io cif : K → Except E T → Bool) (size : Except E T → Nat)
    (c0 : AsyncCache K (Except E T) F) (s : State K (Except E T)) (key : K) (body : Except E T)
    (hr : RelA cfg fw now c0 s) (hh : ∀ p, p ∈ c0.cache → p.2.hits + 1 < u64Max) (fok : FloatOKA A cfg fw) :
    (wrapAsync_0100 A ⟨fun _ => 0, now⟩ size fuel rs io cif c0 key body).1 =
      (callFn ⟨"f", true, false, cfg, false, true, false, false, [], [], []⟩ (T06.srcTlruAsync A fw) size RustLite.isOk rs s ⟨key, body, cif, io⟩).2.1 ∧
    RelA cfg fw now (wrapAsync_0100 A ⟨fun _ => 0, now⟩ size fuel rs io cif c0 key body).2
      (callFn ⟨"f", true, false, cfg, false, true, false, false, [], [], []⟩ (T06.srcTlruAsync A fw) size RustLite.isOk rs s ⟨key, body, cif, io⟩).1 := by
  rw [wrapAsync_0100_eq]
  exact async_result_wrapper_is_callFn A ⟨"f", true, false, cfg, false, true, false, false, [], [], []⟩ rfl rfl rfl rfl hr hh fok

theorem wrapAsync_0101_is_callFn (A : F64 F) (cfg : Cfg) (fw : Option F) (now : Nat) (rs : List Nat) (fuel : Nat)
    (io cif : K → Except E T → Bool) (size : Except E T → Nat)
    (c0 : AsyncCache K (Except E T) F) (s : State K (Except E T)) (key : K) (body : Except E T)
    (hr : RelA cfg fw now c0 s) (hh : ∀ p, p ∈ c0.cache → p.2.hits + 1 < u64Max) (fok : FloatOKA A cfg fw) :
    (wrapAsync_0101 A ⟨fun _ => 0, now⟩ size fuel rs io cif c0 key body).1 =
      (callFn ⟨"f", true, false, cfg, false, true, true, false, [], [], []⟩ (T06.srcTlruAsync A fw) size RustLite.isOk rs s ⟨key, body, cif, io⟩).2.1 ∧
    RelA cfg fw now (wrapAsync_0101 A ⟨fun _ => 0, now⟩ size fuel rs io cif c0 key body).2
      (callFn ⟨"f", true, false, cfg, false, true, true, false, [], [], []⟩ (T06.srcTlruAsync A fw) size RustLite.isOk rs s ⟨key, body, cif, io⟩).1 := by
  rw [wrapAsync_0101_eq]
  exact async_plain_wrapper_is_callFn A ⟨"f", true, false, cfg, false, true, true, false, [], [], []⟩ rfl rfl (Or.inl rfl) hr hh fok

theorem wrapAsync_0110_is_callFn (A : F64 F) (cfg : Cfg) (fw : Option F) (now : Nat) (rs : List Nat) (fuel : Nat)
    (io cif : K → Except E T → Bool) (size : Except E T → Nat)
    (c0 : AsyncCache K (Except E T) F) (s : State K (Except E T)) (key : K) (body : Except E T)
    (hr : RelA cfg fw now c0 s) (hh : ∀ p, p ∈ c0.cache → p.2.hits + 1 < u64Max) (fok : FloatOKA A cfg fw) :
    (wrapAsync_0110 A ⟨fun _ => 0, now⟩ size fuel rs io cif c0 key body).1 =
      (callFn ⟨"f", true, false, cfg, false, true, false, true, [], [], []⟩ (T06.srcTlruAsync A fw) size RustLite.isOk rs s ⟨key, body, cif, io⟩).2.1 ∧
    RelA cfg fw now (wrapAsync_0110 A ⟨fun _ => 0, now⟩ size fuel rs io cif c0 key body).2
      (callFn ⟨"f", true, false, cfg, false, true, false, true, [], [], []⟩ (T06.srcTlruAsync A fw) size RustLite.isOk rs s ⟨key, body, cif, io⟩).1 := by
  rw [wrapAsync_0110_eq]
  exact async_result_wrapper_is_callFn A ⟨"f", true, false, cfg, false, true, false, true, [], [], []⟩ rfl rfl rfl rfl hr hh fok

theorem wrapAsync_0111_is_callFn (A : F64 F) (cfg : Cfg) (fw : Option F) (now : Nat) (rs : List Nat) (fuel : Nat)
    (io cif : K → Except E T → Bool) (size : Except E T → Nat)
    (c0 : AsyncCache K (Except E T) F) (s : State K (Except E T)) (key : K) (body : Except E T)
    (hr : RelA cfg fw now c0 s) (hh : ∀ p, p ∈ c0.cache → p.2.hits + 1 < u64Max) (fok : FloatOKA A cfg fw) :
    (wrapAsync_0111 A ⟨fun _ => 0, now⟩ size fuel rs io cif c0 key body).1 =
      (callFn ⟨"f", true, false, cfg, false, true, true, true, [], [], []⟩ (T06.srcTlruAsync A fw) size RustLite.isOk rs s ⟨key, body, cif, io⟩).2.1 ∧
    RelA cfg fw now (wrapAsync_0111 A ⟨fun _ => 0, now⟩ size fuel rs io cif c0 key body).2
      (callFn ⟨"f", true, false, cfg, false, true, true, true, [], [], []⟩ (T06.srcTlruAsync A fw) size RustLite.isOk rs s ⟨key, body, cif, io⟩).1 := by
  rw [wrapAsync_0111_eq]
  exact async_plain_wrapper_is_callFn A ⟨"f", true, false, cfg, false, true, true, true, [], [], []⟩ rfl rfl (Or.inl rfl) hr hh fok

theorem wrapAsync_1000_is_callFn (A : F64 F) (cfg : Cfg) (fw : Option F) (now : Nat) (rs : List Nat)
    (io cif : K → V → Bool) (size : V → Nat) (isOk : V → Bool)
    (c0 : AsyncCache K (V) F) (s : State K (V)) (key : K) (body : V)
    (hr : RelA cfg fw now c0 s) (hh : ∀ p, p ∈ c0.cache → p.2.hits + 1 < u64Max) (fok : FloatOKA A cfg fw) :
    (wrapAsync_1000 A ⟨fun _ => 0, now⟩ size (memFuel (Async.get ⟨fun _ => 0, now⟩ c0 key).2 key) rs io cif c0 key body).1 =
      (callFn ⟨"f", true, false, cfg, true, false, false, false, [], [], []⟩ (T06.srcTlruAsync A fw) size isOk rs s ⟨key, body, cif, io⟩).2.1 ∧
    RelA cfg fw now (wrapAsync_1000 A ⟨fun _ => 0, now⟩ size (memFuel (Async.get ⟨fun _ => 0, now⟩ c0 key).2 key) rs io cif c0 key body).2
      (callFn ⟨"f", true, false, cfg, true, false, false, false, [], [], []⟩ (T06.srcTlruAsync A fw) size isOk rs s ⟨key, body, cif, io⟩).1 := by
  rw [wrapAsync_1000_eq]
  exact async_mem_plain_wrapper_is_callFn A ⟨"f", true, false, cfg, true, false, false, false, [], [], []⟩ rfl rfl (Or.inr rfl) hr hh fok

theorem wrapAsync_1001_is_callFn (A : F64 F) (cfg : Cfg) (fw : Option F) (now : Nat) (rs : List Nat)
    (io cif : K → V → Bool) (size : V → Nat) (isOk : V → Bool)
    (c0 : AsyncCache K (V) F) (s : State K (V)) (key : K) (body : V)
    (hr : RelA cfg fw now c0 s) (hh : ∀ p, p ∈ c0.cache → p.2.hits + 1 < u64Max) (fok : FloatOKA A cfg fw) :
    (wrapAsync_1001 A ⟨fun _ => 0, now⟩ size (memFuel (Async.get ⟨fun _ => 0, now⟩ c0 key).2 key) rs io cif c0 key body).1 =
      (callFn ⟨"f", true, false, cfg, true, false, true, false, [], [], []⟩ (T06.srcTlruAsync A fw) size isOk rs s ⟨key, body, cif, io⟩).2.1 ∧
    RelA cfg fw now (wrapAsync_1001 A ⟨fun _ => 0, now⟩ size (memFuel (Async.get ⟨fun _ => 0, now⟩ c0 key).2 key) rs io cif c0 key body).2
      (callFn ⟨"f", true, false, cfg, true, false, true, false, [], [], []⟩ (T06.srcTlruAsync A fw) size isOk rs s ⟨key, body, cif, io⟩).1 := by
  rw [wrapAsync_1001_eq]
  exact async_mem_plain_wrapper_is_callFn A ⟨"f", true, false, cfg, true, false, true, false, [], [], []⟩ rfl rfl (Or.inl rfl) hr hh fok

theorem wrapAsync_1010_is_callFn (A : F64 F) (cfg : Cfg) (fw : Option F) (now : Nat) (rs : List Nat)
    (io cif : K → V → Bool) (size : V → Nat) (isOk : V → Bool)
    (c0 : AsyncCache K (V) F) (s : State K (V)) (key : K) (body : V)
    (hr : RelA cfg fw now c0 s) (hh : ∀ p, p ∈ c0.cache → p.2.hits + 1 < u64Max) (fok : FloatOKA A cfg fw) :
    (wrapAsync_1010 A ⟨fun _ => 0, now⟩ size (memFuel (Async.get ⟨fun _ => 0, now⟩ c0 key).2 key) rs io cif c0 key body).1 =
      (callFn ⟨"f", true, false, cfg, true, false, false, true, [], [], []⟩ (T06.srcTlruAsync A fw) size isOk rs s ⟨key, body, cif, io⟩).2.1 ∧
    RelA cfg fw now (wrapAsync_1010 A ⟨fun _ => 0, now⟩ size (memFuel (Async.get ⟨fun _ => 0, now⟩ c0 key).2 key) rs io cif c0 key body).2
      (callFn ⟨"f", true, false, cfg, true, false, false, true, [], [], []⟩ (T06.srcTlruAsync A fw) size isOk rs s ⟨key, body, cif, io⟩).1 := by
  rw [wrapAsync_1010_eq]
  exact async_mem_plain_wrapper_is_callFn A ⟨"f", true, false, cfg, true, false, false, true, [], [], []⟩ rfl rfl (Or.inr rfl) hr hh fok

theorem wrapAsync_1011_is_callFn (A : F64 F) (cfg : Cfg) (fw : Option F) (now : Nat) (rs : List Nat)
    (io cif : K → V → Bool) (size : V → Nat) (isOk : V → Bool)
    (c0 : AsyncCache K (V) F) (s : State K (V)) (key : K) (body : V)
    (hr : RelA cfg fw now c0 s) (hh : ∀ p, p ∈ c0.cache → p.2.hits + 1 < u64Max) (fok : FloatOKA A cfg fw) :
    (wrapAsync_1011 A ⟨fun _ => 0, now⟩ size (memFuel (Async.get ⟨fun _ => 0, now⟩ c0 key).2 key) rs io cif c0 key body).1 =
      (callFn ⟨"f", true, false, cfg, true, false, true, true, [], [], []⟩ (T06.srcTlruAsync A fw) size isOk rs s ⟨key, body, cif, io⟩).2.1 ∧
    RelA cfg fw now (wrapAsync_1011 A ⟨fun _ => 0, now⟩ size (memFuel (Async.get ⟨fun _ => 0, now⟩ c0 key).2 key) rs io cif c0 key body).2
      (callFn ⟨"f", true, false, cfg, true, false, true, true, [], [], []⟩ (T06.srcTlruAsync A fw) size isOk rs s ⟨key, body, cif, io⟩).1 := by
  rw [wrapAsync_1011_eq]
  exact async_mem_plain_wrapper_is_callFn A ⟨"f", true, false, cfg, true, false, true, true, [], [], []⟩ rfl rfl (Or.inl rfl) hr hh fok

theorem wrapAsync_1100_is_callFn (A : F64 F) (cfg : Cfg) (fw : Option F) (now : Nat) (rs : List Nat)
    (io cif : K → Except E T → Bool) (size : Except E T → Nat)
    (c0 : AsyncCache K (Except E T) F) (s : State K (Except E T)) (key : K) (body : Except E T)
    (hr : RelA cfg fw now c0 s) (hh : ∀ p, p ∈ c0.cache → p.2.hits + 1 < u64Max) (fok : FloatOKA A cfg fw) :
    (wrapAsync_1100 A ⟨fun _ => 0, now⟩ size (memFuel (Async.get ⟨fun _ => 0, now⟩ c0 key).2 key) rs io cif c0 key body).1 =
      (callFn ⟨"f", true, false, cfg, true, true, false, false, [], [], []⟩ (T06.srcTlruAsync A fw) size RustLite.isOk rs s ⟨key, body, cif, io⟩).2.1 ∧
    RelA cfg fw now (wrapAsync_1100 A ⟨fun _ => 0, now⟩ size (memFuel (Async.get ⟨fun _ => 0, now⟩ c0 key).2 key) rs io cif c0 key body).2
      (callFn ⟨"f", true, false, cfg, true, true, false, false, [], [], []⟩ (T06.srcTlruAsync A fw) size RustLite.isOk rs s ⟨key, body, cif, io⟩).1 := by
  rw [wrapAsync_1100_eq]
  exact async_mem_result_wrapper_is_callFn A ⟨"f", true, false, cfg, true, true, false, false, [], [], []⟩ rfl rfl rfl rfl hr hh fok

theorem wrapAsync_1101_is_callFn (A : F64 F) (cfg : Cfg) (fw : Option F) (now : Nat) (rs : List Nat)
    (io cif : K → Except E T → Bool) (size : Except E T → Nat)
    (c0 : AsyncCache K (Except E T) F) (s : State K (Except E T)) (key : K) (body : Except E T)
    (hr : RelA cfg fw now c0 s) (hh : ∀ p, p ∈ c0.cache → p.2.hits + 1 < u64Max) (fok : FloatOKA A cfg fw) :
    (wrapAsync_1101 A ⟨fun _ => 0, now⟩ size (memFuel (Async.get ⟨fun _ => 0, now⟩ c0 key).2 key) rs io cif c0 key body).1 =
      (callFn ⟨"f", true, false, cfg, true, true, true, false, [], [], []⟩ (T06.srcTlruAsync A fw) size RustLite.isOk rs s ⟨key, body, cif, io⟩).2.1 ∧
    RelA cfg fw now (wrapAsync_1101 A ⟨fun _ => 0, now⟩ size (memFuel (Async.get ⟨fun _ => 0, now⟩ c0 key).2 key) rs io cif c0 key body).2
      (callFn ⟨"f", true, false, cfg, true, true, true, false, [], [], []⟩ (T06.srcTlruAsync A fw) size RustLite.isOk rs s ⟨key, body, cif, io⟩).1 := by
  rw [wrapAsync_1101_eq]
  exact async_mem_plain_wrapper_is_callFn A ⟨"f", true, false, cfg, true, true, true, false, [], [], []⟩ rfl rfl (Or.inl rfl) hr hh fok

theorem wrapAsync_1110_is_callFn (A : F64 F) (cfg : Cfg) (fw : Option F) (now : Nat) (rs : List Nat)
    (io cif : K → Except E T → Bool) (size : Except E T → Nat)
    (c0 : AsyncCache K (Except E T) F) (s : State K (Except E T)) (key : K) (body : Except E T)
    (hr : RelA cfg fw now c0 s) (hh : ∀ p, p ∈ c0.cache → p.2.hits + 1 < u64Max) (fok : FloatOKA A cfg fw) :
    (wrapAsync_1110 A ⟨fun _ => 0, now⟩ size (memFuel (Async.get ⟨fun _ => 0, now⟩ c0 key).2 key) rs io cif c0 key body).1 =
      (callFn ⟨"f", true, false, cfg, true, true, false, true, [], [], []⟩ (T06.srcTlruAsync A fw) size RustLite.isOk rs s ⟨key, body, cif, io⟩).2.1 ∧
    RelA cfg fw now (wrapAsync_1110 A ⟨fun _ => 0, now⟩ size (memFuel (Async.get ⟨fun _ => 0, now⟩ c0 key).2 key) rs io cif c0 key body).2
      (callFn ⟨"f", true, false, cfg, true, true, false, true, [], [], []⟩ (T06.srcTlruAsync A fw) size RustLite.isOk rs s ⟨key, body, cif, io⟩).1 := by
  rw [wrapAsync_1110_eq]
  exact async_mem_result_wrapper_is_callFn A ⟨"f", true, false, cfg, true, true, false, true, [], [], []⟩ rfl rfl rfl rfl hr hh fok

theorem wrapAsync_1111_is_callFn (A : F64 F) (cfg : Cfg) (fw : Option F) (now : Nat) (rs : List Nat)
    (io cif : K → Except E T → Bool) (size : Except E T → Nat)
    (c0 : AsyncCache K (Except E T) F) (s : State K (Except E T)) (key : K) (body : Except E T)
    (hr : RelA cfg fw now c0 s) (hh : ∀ p, p ∈ c0.cache → p.2.hits + 1 < u64Max) (fok : FloatOKA A cfg fw) :
    (wrapAsync_1111 A ⟨fun _ => 0, now⟩ size (memFuel (Async.get ⟨fun _ => 0, now⟩ c0 key).2 key) rs io cif c0 key body).1 =
      (callFn ⟨"f", true, false, cfg, true, true, true, true, [], [], []⟩ (T06.srcTlruAsync A fw) size RustLite.isOk rs s ⟨key, body, cif, io⟩).2.1 ∧
    RelA cfg fw now (wrapAsync_1111 A ⟨fun _ => 0, now⟩ size (memFuel (Async.get ⟨fun _ => 0, now⟩ c0 key).2 key) rs io cif c0 key body).2
      (callFn ⟨"f", true, false, cfg, true, true, true, true, [], [], []⟩ (T06.srcTlruAsync A fw) size RustLite.isOk rs s ⟨key, body, cif, io⟩).1 := by
  rw [wrapAsync_1111_eq]
  exact async_mem_plain_wrapper_is_callFn A ⟨"f", true, false, cfg, true, true, true, true, [], [], []⟩ rfl rfl (Or.inl rfl) hr hh fok

/-! ### non-vacuity: the hypotheses are satisfiable, and the generated wrappers run -/

private def exC0 : AsyncCache String (Except String Nat) (Option Nat) := ⟨[], [], some 2, none, .lru, none, none, ⟨0, 0⟩⟩
private def exNever : String → Except String Nat → Bool := fun _ _ => false
private def exR1 := wrapAsync_0110 T02.natTop ⟨fun _ => 0, 5000⟩ (fun _ => 0) 0 [] exNever exNever exC0 "k" (.error "boom")
private def exR2 := wrapAsync_0110 T02.natTop ⟨fun _ => 0, 5000⟩ (fun _ => 0) 0 [] exNever exNever exR1.2 "k" (.ok 7)
private def exR3 := wrapAsync_0110 T02.natTop ⟨fun _ => 0, 5000⟩ (fun _ => 0) 0 [] exNever exNever exR2.2 "k" (.ok 8)

/-- a Result function without `cache_if` (configuration 0110): an `Err` is returned and NOT stored; the `Ok` of the next
    call is stored; the third call is served the stored value (its own body value 8 is not used) -/
example : exR1.2.cache.length = 0 ∧ exR1.2.order = [] ∧ exR2.2.order = ["k"] ∧ exR2.2.cache.map (·.1) = ["k"] ∧
    (match exR3.1 with | .ok n => n | .error _ => 0) = 7 ∧ exR3.2.stats.hits = 1 ∧ exR3.2.stats.misses = 2 := by
  decide

/-- with `cache_if` (configuration 0101) an accepted `Err` IS stored by the async wrapper (the sync wrapper never does, T17) -/
example : (wrapAsync_0101 T02.natTop ⟨fun _ => 0, 5000⟩ (fun _ => 0) 0 [] exNever (fun _ _ => true)
    (⟨[], [], none, none, .fifo, none, none, ⟨0, 0⟩⟩ : AsyncCache String (Except String Nat) (Option Nat)) "k" (.error "boom")).2.order = ["k"] := by
  decide

example : RelA ⟨.async, .lru, some 2, none, none⟩ (none : Option (Option Nat)) 5000
    (⟨[("a", ⟨1, 4000, 0⟩)], ["a"], some 2, none, .lru, none, none, ⟨3, 1⟩⟩ : AsyncCache String Nat (Option Nat))
    ⟨[("a", ⟨1, 4000, 0⟩)], ["a"], 5000, 3, 1⟩ := by
  simp [RelA, T06.cfgOf]

end Cachelito.T18
