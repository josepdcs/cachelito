/-
  C03 — A result is computed once per distinct arguments and then reused (sequential part).

  Setting: any list of cached functions `fns` (arbitrary configurations), function `id.fn` in the PLAIN
  configuration `Calls.Plain` (no entry limit, no TTL, no memory bound in effect, no `cache_if`, no
  `invalidate_on`, not a `Result` function; every flavour, policy and scope), and any history of calls
  (to any function, by any thread), clock ticks and statistics operations — no registry invalidation.

  `id : CacheId` is one cache instance: `⟨fn, none⟩` for a global-scope or async function (shared by all
  threads), `⟨fn, some t⟩` for thread `t` of a thread-scope function (`Calls.cacheIdOf_shared`,
  `Calls.cacheIdOf_thread`), so every statement below is "per thread for thread scope".

  Vocabulary (defined in `Lemmas/Calls.lean`): `callsOn fns id ops` the calls of the history that land on
  `id`, `keysOn` their keys, `firstVal hist k` the body value of the first call with key `k`,
  `runsOn fns id ops outs` the number of `bodyRun` events in the traces of the calls on `id`,
  `distinct l` the duplicate-free list of members of `l`.

  The interleaving part of C03 (several callers missing concurrently) is proved elsewhere.
-/
import Cachelito.Lemmas.Calls

namespace Cachelito.C03
open Cachelito Cachelito.Calls
variable {K V S : Type} [DecidableEq K]

section
variable (fns : List FnSpec) (tls : Nat → Tlru S) (size : V → Nat) (isOk : V → Bool)

/-- **(1) The store holds exactly the keys called so far.**  After any history without invalidations,
    the keys stored in instance `id` are pairwise distinct and are exactly the keys that were called on
    that instance. -/
theorem store_keys_eq_called {id : CacheId} {spec : FnSpec} (hspec : fns[id.fn]? = some spec) (hp : Plain spec)
    (ops : List (SysOp K V × List Nat)) (hno : ∀ p ∈ ops, isInvalidation p.1 = false) :
    (keys ((sysRun fns tls size isOk (Sys.init : Sys K V) ops).1.getCache id).store).Nodup ∧
    ∀ k, k ∈ keys ((sysRun fns tls size isOk (Sys.init : Sys K V) ops).1.getCache id).store ↔
      k ∈ keysOn fns id ops := by
  have h := (plain_run_init fns tls size isOk hspec hp ops hno).1
  exact ⟨h.1, fun k => h.mem_iff k⟩

/-- The value stored under a key is the value the body returned in the FIRST call with that key on this
    instance; later calls never overwrite it. -/
theorem stored_value_is_first_body_value {id : CacheId} {spec : FnSpec} (hspec : fns[id.fn]? = some spec)
    (hp : Plain spec) (ops : List (SysOp K V × List Nat)) (hno : ∀ p ∈ ops, isInvalidation p.1 = false) (k : K) :
    (lookup k ((sysRun fns tls size isOk (Sys.init : Sys K V) ops).1.getCache id).store).map (·.val) =
      firstVal (callsOn fns id ops) k :=
  (plain_run_init fns tls size isOk hspec hp ops hno).1.2 k

/-- **The store only grows**: a key stored after a history is still stored after any continuation of
    that history (without invalidations). -/
theorem store_only_grows {id : CacheId} {spec : FnSpec} (hspec : fns[id.fn]? = some spec) (hp : Plain spec)
    (ops more : List (SysOp K V × List Nat)) (hno : ∀ p ∈ ops ++ more, isInvalidation p.1 = false) (k : K)
    (hk : k ∈ keys ((sysRun fns tls size isOk (Sys.init : Sys K V) ops).1.getCache id).store) :
    k ∈ keys ((sysRun fns tls size isOk (Sys.init : Sys K V) (ops ++ more)).1.getCache id).store := by
  have h1 := (store_keys_eq_called fns tls size isOk hspec hp ops
    (fun p hp' => hno p (List.mem_append_left _ hp'))).2 k
  have h2 := (store_keys_eq_called fns tls size isOk hspec hp (ops ++ more) hno).2 k
  rw [h2, keysOn_append]
  exact List.mem_append_left _ (h1.mp hk)

/-- **(2) The body runs exactly once per distinct key** (general form): the number of body executions
    of the calls on instance `id` equals the length of ANY duplicate-free enumeration of the keys called
    on that instance. -/
theorem body_runs_eq_card {id : CacheId} {spec : FnSpec} (hspec : fns[id.fn]? = some spec) (hp : Plain spec)
    (ops : List (SysOp K V × List Nat)) (hno : ∀ p ∈ ops, isInvalidation p.1 = false)
    (d : List K) (hd : d.Nodup) (hmem : ∀ k, k ∈ d ↔ k ∈ keysOn fns id ops) :
    runsOn fns id ops (sysRun fns tls size isOk (Sys.init : Sys K V) ops).2 = d.length := by
  obtain ⟨hn, hk⟩ := store_keys_eq_called fns tls size isOk hspec hp ops hno
  rw [(plain_run_init fns tls size isOk hspec hp ops hno).2]
  exact length_eq_of_nodup_of_mem_iff hn hd (fun k => (hk k).trans (hmem k).symm)

/-- **(2) The body runs exactly once per distinct key**: `#bodyRun events = #distinct keys called`, per
    cache instance (hence once per thread for thread scope). -/
theorem body_runs_once_per_distinct_key {id : CacheId} {spec : FnSpec} (hspec : fns[id.fn]? = some spec)
    (hp : Plain spec) (ops : List (SysOp K V × List Nat)) (hno : ∀ p ∈ ops, isInvalidation p.1 = false) :
    runsOn fns id ops (sysRun fns tls size isOk (Sys.init : Sys K V) ops).2 =
      (distinct (keysOn fns id ops)).length :=
  body_runs_eq_card fns tls size isOk hspec hp ops hno _ (nodup_distinct _) (mem_distinct _)

/-- **(3) Every later call is served from the cache.**  After any history `pre`, a call of function `fn`
    by thread `th` whose key was already called on the same instance does not run the body: its trace is
    exactly `[returned v true]` and `v` is the value the body produced in the first call with that key. -/
theorem repeated_call_served_from_cache {fn : Nat} {spec : FnSpec} (hspec : fns[fn]? = some spec) (hp : Plain spec)
    (pre : List (SysOp K V × List Nat)) (hno : ∀ p ∈ pre, isInvalidation p.1 = false)
    (th : Nat) (c : CallIn K V) (rs : List Nat) (hrep : c.key ∈ keysOn fns (cacheIdOf spec fn th) pre) :
    ∃ v, firstVal (callsOn fns (cacheIdOf spec fn th) pre) c.key = some v ∧
      (sysStep fns tls size isOk rs (sysRun fns tls size isOk (Sys.init : Sys K V) pre).1 (.call fn th c)).2 =
        .ret v [TraceEv.returned v true] := by
  cases hf : firstVal (callsOn fns (cacheIdOf spec fn th) pre) c.key with
  | none => exact absurd hrep ((firstVal_none_iff _ _).mp hf)
  | some v => exact ⟨v, rfl, by rw [plain_call_out fns tls size isOk hspec hp pre hno, hf]⟩

/-- The first call with a key on an instance runs the body exactly once, hands the result to the
    engine and returns it. -/
theorem first_call_runs_body {fn : Nat} {spec : FnSpec} (hspec : fns[fn]? = some spec) (hp : Plain spec)
    (pre : List (SysOp K V × List Nat)) (hno : ∀ p ∈ pre, isInvalidation p.1 = false)
    (th : Nat) (c : CallIn K V) (rs : List Nat) (hnew : c.key ∉ keysOn fns (cacheIdOf spec fn th) pre) :
    (sysStep fns tls size isOk rs (sysRun fns tls size isOk (Sys.init : Sys K V) pre).1 (.call fn th c)).2 =
      .ret c.bodyVal [TraceEv.bodyRun, TraceEv.stored c.key c.bodyVal, TraceEv.returned c.bodyVal false] := by
  rw [plain_call_out fns tls size isOk hspec hp pre hno, (firstVal_none_iff _ _).mpr hnew]

/-- **(3), indexed form.**  In any history, if operation `j` is a call whose key occurred before on the
    same instance (among the first `j` operations), then output `j` is `ret v [returned v true]` with `v`
    the first body value for that key: no `bodyRun` event. -/
theorem repeated_call_at_index {fn : Nat} {spec : FnSpec} (hspec : fns[fn]? = some spec) (hp : Plain spec)
    (ops : List (SysOp K V × List Nat)) (hno : ∀ p ∈ ops, isInvalidation p.1 = false)
    (j th : Nat) (c : CallIn K V) (rs : List Nat) (hj : ops[j]? = some (.call fn th c, rs))
    (hrep : c.key ∈ keysOn fns (cacheIdOf spec fn th) (ops.take j)) :
    ∃ v, firstVal (callsOn fns (cacheIdOf spec fn th) (ops.take j)) c.key = some v ∧
      (sysRun fns tls size isOk (Sys.init : Sys K V) ops).2[j]? = some (.ret v [TraceEv.returned v true]) := by
  obtain ⟨v, h1, h2⟩ := repeated_call_served_from_cache fns tls size isOk hspec hp (ops.take j)
    (fun p hp' => hno p (List.mem_of_mem_take hp')) th c rs hrep
  exact ⟨v, h1, by rw [sysRun_out fns tls size isOk _ ops j _ rs hj, h2]⟩

end

/-! ### Non-vacuity

Three functions: `f0` global LRU (plain), `f1` thread-scope LFU (plain), `f2` async FIFO with a limit
of 1 and `cache_if` (NOT plain — other functions may be configured arbitrarily).  Two threads 0 and 1.
The history has 7 calls, two ticks and a statistics reset. -/

def exTl : Tlru Nat := ⟨fun a b => decide (a < b), fun _ h _ r => h * r⟩
def f0 : FnSpec := ⟨"f0", false, false, ⟨.global, .lru, none, none, none⟩, false, false, false, false, [], [], []⟩
def f1 : FnSpec := ⟨"f1", false, true, ⟨.threadLocal, .lfu, none, none, none⟩, true, false, false, false, [], [], []⟩
def f2 : FnSpec := ⟨"f2", true, false, ⟨.async, .fifo, some 1, none, some 5⟩, false, false, true, false, ["t"], [], []⟩
def exFns : List FnSpec := [f0, f1, f2]
def mk (k v : Nat) : CallIn Nat Nat := ⟨k, v, fun _ _ => true, fun _ _ => false⟩
/-- the body is deliberately impure (second call with key 1 would return 99): the cache must keep 10 -/
def exOps : List (SysOp Nat Nat × List Nat) :=
  [(.call 0 0 (mk 1 10), []), (.call 1 0 (mk 1 100), []), (.tick 5000, []), (.call 0 1 (mk 1 99), []),
   (.call 2 1 (mk 7 70), []), (.call 0 1 (mk 2 20), []), (.statsReset "f0", []), (.call 1 1 (mk 1 101), []),
   (.tick 1, []), (.call 0 0 (mk 2 21), [])]
def exRun := sysRun exFns (fun _ => exTl) (fun _ => 0) (fun _ => true) (Sys.init : Sys Nat Nat) exOps

example : Plain f0 := ⟨rfl, rfl, Or.inl rfl, rfl, rfl, rfl⟩
example : Plain f1 := ⟨rfl, rfl, Or.inr rfl, rfl, rfl, rfl⟩
example : ∀ p ∈ exOps, isInvalidation p.1 = false := by decide
/-- global `f0`: 4 calls by two threads on keys 1,1,2,2 — two body runs, keys [1,2], values 10 and 20 -/
example : runsOn exFns ⟨0, none⟩ exOps exRun.2 = 2 := by decide +kernel
example : keysOn exFns ⟨0, none⟩ exOps = [1, 1, 2, 2] := by decide
example : keys (exRun.1.getCache ⟨0, none⟩).store = [1, 2] := by decide +kernel
example : (exRun.1.getCache ⟨0, none⟩).store.map (fun p => (p.1, p.2.val)) = [(1, 10), (2, 20)] := by decide +kernel
/-- thread-scope `f1`: both threads call key 1 — one body run PER THREAD -/
example : runsOn exFns ⟨1, some 0⟩ exOps exRun.2 = 1 ∧ runsOn exFns ⟨1, some 1⟩ exOps exRun.2 = 1 := by decide +kernel
/-- the repeated call of `f0` with key 1 (operation 3, by the other thread) returns 10 without running the body -/
example : (match exRun.2[3]? with | some (SysOut.ret v tr) => (v, bodyRuns tr, tr.length) | _ => (0, 9, 9)) = (10, 0, 1) := by
  decide +kernel

end Cachelito.C03
