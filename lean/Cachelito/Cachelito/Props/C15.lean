/-
  C15 — Hit/miss statistics are exact (engine level, sequential part).

  For every flavour, policy, limit, ttl, max_memory, score algebra, size function, random draws and
  every finite history: `hitStat + missStat` is the number of lookups performed, every lookup bumps
  exactly one of the two counters, `hitStat` exactly when an unexpired entry was found (so an expired
  lookup counts as a miss), and no other operation touches the counters.

  The per-name registry, `reset` and the concurrent part are proved elsewhere (wrapper / `Conc` level).
-/
import Cachelito.Lemmas.Hist

namespace Cachelito.C15
open Cachelito Cachelito.Hist
variable {K V S : Type} [DecidableEq K]

/-- **A lookup counts as a hit exactly when an unexpired entry was found**, and then it serves that
    entry's value. -/
theorem hit_iff_unexpired_found (cfg : Cfg) (s : State K V) (k : K) :
    (get cfg s k).2.isSome = true ↔ ∃ e, lookup k s.store = some e ∧ expired cfg s.now e = false := by
  constructor
  · intro h
    obtain ⟨v, hv⟩ := Option.isSome_iff_exists.mp h
    obtain ⟨e, hl, hx, _⟩ := get_some_elim hv
    exact ⟨e, hl, hx⟩
  · rintro ⟨e, hl, hx⟩
    rw [get_hit hl hx]; rfl

/-- **Every lookup bumps exactly one counter**: either it served a value, `hitStat` went up by one and
    `missStat` is unchanged, or it served nothing, `missStat` went up by one and `hitStat` is unchanged. -/
theorem get_counts_once (cfg : Cfg) (s : State K V) (k : K) :
    ((∃ v, (get cfg s k).2 = some v) ∧ (get cfg s k).1.hitStat = s.hitStat + 1 ∧
        (get cfg s k).1.missStat = s.missStat) ∨
    ((get cfg s k).2 = none ∧ (get cfg s k).1.hitStat = s.hitStat ∧
        (get cfg s k).1.missStat = s.missStat + 1) := by
  have h := get_stats cfg s k
  cases ho : (get cfg s k).2 with
  | none => right; exact ⟨rfl, h.2 ho⟩
  | some v => left; exact ⟨⟨v, rfl⟩, h.1 (by rw [ho]; rfl)⟩

/-- `hitStat` goes up iff the lookup served a value. -/
theorem hit_counted_iff_served (cfg : Cfg) (s : State K V) (k : K) :
    (get cfg s k).1.hitStat = s.hitStat + 1 ↔ (get cfg s k).2.isSome = true := by
  rcases get_counts_once cfg s k with ⟨⟨v, hv⟩, h1, _⟩ | ⟨hn, h1, _⟩
  · rw [hv]; simp [h1]
  · rw [hn, h1]; simp

/-- **An expired lookup counts as a miss**: the entry is found but expired, nothing is served,
    `missStat` goes up by one, `hitStat` is unchanged. -/
theorem expired_counts_as_miss (cfg : Cfg) (s : State K V) (k : K) (e : Entry V)
    (hl : lookup k s.store = some e) (hx : expired cfg s.now e = true) :
    (get cfg s k).2 = none ∧ (get cfg s k).1.missStat = s.missStat + 1 ∧ (get cfg s k).1.hitStat = s.hitStat := by
  have hn : (get cfg s k).2 = none := (get_none_iff hl).mpr hx
  have := (get_stats cfg s k).2 hn
  exact ⟨hn, this.2, this.1⟩

/-- a lookup of an absent key counts as a miss -/
theorem absent_counts_as_miss (cfg : Cfg) (s : State K V) (k : K) (hl : lookup k s.store = none) :
    (get cfg s k).2 = none ∧ (get cfg s k).1.missStat = s.missStat + 1 ∧ (get cfg s k).1.hitStat = s.hitStat := by
  have hn : (get cfg s k).2 = none := by rw [get_miss hl]
  have := (get_stats cfg s k).2 hn
  exact ⟨hn, this.2, this.1⟩

/-- **No other operation changes the counters**: stores (plain or memory-aware, with all their
    evictions), clears, conditional invalidations and clock ticks leave `hitStat` and `missStat` alone. -/
theorem other_ops_keep_counters (cfg : Cfg) (tl : Tlru S) (size : V → Nat) (rs : List Nat) (s : State K V)
    (op : Op K V) (hop : ∀ k, op ≠ .get k) :
    (step cfg tl size rs s op).1.hitStat = s.hitStat ∧ (step cfg tl size rs s op).1.missStat = s.missStat := by
  have hg : isGet op = false := by
    cases op with
    | get k => exact absurd rfl (hop k)
    | _ => rfl
  have := step_stats_of_not_get cfg tl size rs s op hg
  exact ⟨this.1, this.2.1⟩

/-- one step: the counters grow by the hit / miss classification of the step's output, and the output
    is a lookup result exactly for lookups -/
theorem step_counts (cfg : Cfg) (tl : Tlru S) (size : V → Nat) (rs : List Nat) (s : State K V) (op : Op K V) :
    (step cfg tl size rs s op).1.hitStat = s.hitStat + (if isHit (step cfg tl size rs s op).2 then 1 else 0) ∧
    (step cfg tl size rs s op).1.missStat = s.missStat + (if isMiss (step cfg tl size rs s op).2 then 1 else 0) ∧
    ((if isHit (step cfg tl size rs s op).2 then 1 else 0) + (if isMiss (step cfg tl size rs s op).2 then 1 else 0)
      = if isGet op then 1 else 0) := by
  cases hg : isGet op with
  | false =>
    obtain ⟨h1, h2, h3⟩ := step_stats_of_not_get cfg tl size rs s op hg
    rw [h3]; exact ⟨h1, h2, rfl⟩
  | true =>
    cases op with
    | get k =>
      rw [step_get]
      rcases get_counts_once cfg s k with ⟨⟨v, hv⟩, h1, h2⟩ | ⟨hn, h1, h2⟩
      · rw [hv]; exact ⟨h1, h2, rfl⟩
      · rw [hn]; exact ⟨h1, h2, rfl⟩
    | _ => cases hg

/-- **C15 for a history continued from any state**: the counters grow by exactly the number of lookups
    that served a value resp. served nothing, and together by the number of lookups. -/
theorem stats_exact_from (cfg : Cfg) (tl : Tlru S) (size : V → Nat) (s : State K V) (ops : List (Op K V × List Nat)) :
    (run cfg tl size s ops).1.hitStat = s.hitStat + (run cfg tl size s ops).2.countP isHit ∧
    (run cfg tl size s ops).1.missStat = s.missStat + (run cfg tl size s ops).2.countP isMiss ∧
    (run cfg tl size s ops).2.countP isHit + (run cfg tl size s ops).2.countP isMiss
      = ops.countP (fun p => isGet p.1) := by
  induction ops generalizing s with
  | nil => exact ⟨rfl, rfl, rfl⟩
  | cons a ops ih =>
    obtain ⟨op, rs⟩ := a
    obtain ⟨h1, h2, h3⟩ := step_counts cfg tl size rs s op
    obtain ⟨i1, i2, i3⟩ := ih (step cfg tl size rs s op).1
    rw [run_cons, List.countP_cons, List.countP_cons, List.countP_cons]
    refine ⟨?_, ?_, ?_⟩
    · rw [i1, h1, Nat.add_assoc, Nat.add_comm (List.countP _ _)]
    · rw [i2, h2, Nat.add_assoc, Nat.add_comm (List.countP _ _)]
    · rw [← i3, ← h3]; exact Nat.add_add_add_comm _ _ _ _

/-- **C15, statistics exact for every history** from the empty cache: `hitStat` is the number of lookups
    that served a value, `missStat` the number of lookups that served nothing (absent or expired), and
    `hitStat + missStat` is the number of lookups performed. -/
theorem stats_exact (cfg : Cfg) (tl : Tlru S) (size : V → Nat) (ops : List (Op K V × List Nat)) :
    (run cfg tl size (State.init : State K V) ops).1.hitStat
        = (run cfg tl size (State.init : State K V) ops).2.countP isHit ∧
    (run cfg tl size (State.init : State K V) ops).1.missStat
        = (run cfg tl size (State.init : State K V) ops).2.countP isMiss ∧
    (run cfg tl size (State.init : State K V) ops).1.hitStat + (run cfg tl size (State.init : State K V) ops).1.missStat
        = ops.countP (fun p => isGet p.1) := by
  obtain ⟨h1, h2, h3⟩ := stats_exact_from cfg tl size (State.init : State K V) ops
  have z1 : (State.init : State K V).hitStat = 0 := rfl
  have z2 : (State.init : State K V).missStat = 0 := rfl
  rw [z1, Nat.zero_add] at h1
  rw [z2, Nat.zero_add] at h2
  exact ⟨h1, h2, by rw [h1, h2]; exact h3⟩

/-- the same after every prefix of a history (after every completed operation) -/
theorem stats_exact_prefix (cfg : Cfg) (tl : Tlru S) (size : V → Nat) (ops : List (Op K V × List Nat)) (i : Nat) :
    (run cfg tl size (State.init : State K V) (ops.take i)).1.hitStat
      + (run cfg tl size (State.init : State K V) (ops.take i)).1.missStat
        = (ops.take i).countP (fun p => isGet p.1) :=
  (stats_exact cfg tl size (ops.take i)).2.2

/-- **Per-lookup attribution in a history**: the `i`-th operation, if it is a lookup, raises `hitStat`
    by one iff its output is `some _`, and otherwise raises `missStat` by one; any other operation leaves
    both counters as they were. -/
theorem stats_step_in_history (cfg : Cfg) (tl : Tlru S) (size : V → Nat) (ops : List (Op K V × List Nat))
    (i : Nat) (op : Op K V) (rs : List Nat) (o : Out V) (hop : ops[i]? = some (op, rs))
    (hout : (run cfg tl size (State.init : State K V) ops).2[i]? = some o) :
    (run cfg tl size (State.init : State K V) (ops.take (i + 1))).1.hitStat
      = (run cfg tl size (State.init : State K V) (ops.take i)).1.hitStat + (if isHit o then 1 else 0) ∧
    (run cfg tl size (State.init : State K V) (ops.take (i + 1))).1.missStat
      = (run cfg tl size (State.init : State K V) (ops.take i)).1.missStat + (if isMiss o then 1 else 0) ∧
    ((if isHit o then 1 else 0) + (if isMiss o then 1 else 0) = if isGet op then 1 else 0) := by
  rw [run_out_at cfg tl size _ ops i op rs hop] at hout
  have ho := Option.some.inj hout
  rw [run_take_succ cfg tl size _ ops i op rs hop, ← ho]
  exact step_counts cfg tl size rs _ op

/-! ### Non-vacuity

  ttl = 1 s.  Lookups: key 1 absent (miss), key 1 fresh (hit), key 1 after 1 s (expired ⇒ miss, not a hit),
  key 2 fresh (hit), key 2 after `clear` (miss): 2 hits, 3 misses, 5 lookups among 10 operations. -/
def exTl : Tlru Nat := ⟨fun a b => decide (a < b), fun _ h _ r => h * r⟩
def exOps : List (Op Nat Nat × List Nat) :=
  [(.get 1, []), (.insert 1 10, []), (.get 1, []), (.tick 1000, []), (.get 1, []),
   (.insertMem 2 20, []), (.get 2, []), (.clear, []), (.invalidateWith (fun k => k == 2), []), (.get 2, [])]
def exGlobal : Cfg := ⟨.global, .lru, some 2, none, some 1⟩
def exAsync : Cfg := ⟨.async, .tlru, some 1, some 10, some 1⟩

example : (run exGlobal exTl (fun _ => 1) (State.init : State Nat Nat) exOps).1.hitStat = 2 ∧
    (run exGlobal exTl (fun _ => 1) (State.init : State Nat Nat) exOps).1.missStat = 3 ∧
    exOps.countP (fun p => isGet p.1) = 5 := by decide
example : (run exAsync exTl (fun _ => 1) (State.init : State Nat Nat) exOps).1.hitStat = 2 ∧
    (run exAsync exTl (fun _ => 1) (State.init : State Nat Nat) exOps).1.missStat = 3 := by decide
example : ((run exGlobal exTl (fun _ => 1) (State.init : State Nat Nat) exOps).2.map outVal) =
    [some none, none, some (some 10), none, some none, none, some (some 20), none, none, some none] := by
  decide +kernel  -- ten outputs: evaluated once, in the kernel, instead of by the elaborator and then the kernel
/-- the expired lookup (operation 4) finds an entry in the store and still counts as a miss -/
example : (lookup 1 (run exGlobal exTl (fun _ => 1) (State.init : State Nat Nat) (exOps.take 4)).1.store).isSome = true ∧
    (run exGlobal exTl (fun _ => 1) (State.init : State Nat Nat) (exOps.take 4)).1.missStat = 1 ∧
    (run exGlobal exTl (fun _ => 1) (State.init : State Nat Nat) (exOps.take 5)).1.missStat = 2 ∧
    (run exGlobal exTl (fun _ => 1) (State.init : State Nat Nat) (exOps.take 5)).1.hitStat = 1 := by decide

end Cachelito.C15
