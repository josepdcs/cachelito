/-
  C09 — Err results are never cached; a later Ok is.

  Wrapper level (`Cachelito.callFn` = the code `#[cache]` / `#[cache_async]` generate), for a function
  whose return type is recognised as `Result` (`spec.isResult = true`), without `cache_if` and without
  `invalidate_on`.  Every statement holds for every flavour, policy, limit, TTL, `max_memory`
  (`spec.cfg` arbitrary), for both engine stores (`spec.useMem` arbitrary = with and without
  `max_memory`), every TLRU scorer, size function, `isOk` classifier and stream of random draws.
  Histories are arbitrary lists of calls (each with its own body outcome — an impure body) and clock ticks.

  Only (3) and (5c) use the absence of `invalidate_on` (with it, a hit may still re-run the body: C11);
  (1), (2), (4), (5a), (5b) hold with or without it.

  `spec.isResult` is what the macro derives from the SPELLING of the return type (`Result<…` or
  `std::result::Result<…`); for a `Result` spelled through an alias, `core::result::Result` or a leading
  `::` the macro sets `isResult = false` and the last theorem shows that an `Err` is then cached (known
  finding F7, not covered by C09).
-/
import Cachelito.Lemmas.Wrapper

namespace Cachelito.C09
open Cachelito Cachelito.Wrap
variable {K V S : Type} [DecidableEq K]

/-- (1) **An Err is not stored.**  A call whose lookup misses and whose body returns `Err` leaves the cache
    exactly as its lookup left it, returns the body's value, and its trace is `bodyRun, returned`:
    the body ran and nothing was handed to the engine. -/
theorem err_not_stored (spec : FnSpec) (hR : spec.isResult = true) (hC : spec.hasCacheIf = false)
    (tl : Tlru S) (size : V → Nat) (isOk : V → Bool) (rs : List Nat)
    (s : State K V) (c : CallIn K V)
    (hmiss : (get spec.cfg s c.key).2 = none) (herr : isOk c.bodyVal = false) :
    callFn spec tl size isOk rs s c =
      ((get spec.cfg s c.key).1, c.bodyVal, [TraceEv.bodyRun, TraceEv.returned c.bodyVal false]) := by
  have hw : wouldStore spec isOk c = false := by rw [wouldStore_result_nopred spec isOk c hR hC, herr]
  rw [callFn_body spec tl size isOk rs s c (runsBody_of_none spec s c hmiss), hw,
    checkPart_of_none spec s c hmiss, predPart_nopred spec c hC, tailPart_not_stored spec isOk c hw]
  rfl

/-- (1, in the words of the property) after a failing call the state is the post-lookup state, the body
    ran, and no `stored` event occurred -/
theorem err_not_stored' (spec : FnSpec) (hR : spec.isResult = true) (hC : spec.hasCacheIf = false)
    (tl : Tlru S) (size : V → Nat) (isOk : V → Bool) (rs : List Nat)
    (s : State K V) (c : CallIn K V)
    (hmiss : (get spec.cfg s c.key).2 = none) (herr : isOk c.bodyVal = false) :
    (callFn spec tl size isOk rs s c).1 = (get spec.cfg s c.key).1 ∧
    TraceEv.bodyRun ∈ (callFn spec tl size isOk rs s c).2.2 ∧
    ∀ k v, TraceEv.stored k v ∉ (callFn spec tl size isOk rs s c).2.2 := by
  rw [err_not_stored spec hR hC tl size isOk rs s c hmiss herr]
  simp

/-- (2) **An Ok is stored.**  A call whose lookup misses and whose body returns `Ok` hands exactly
    `(key, value)` to the engine store the macro selected (`insert_result_with_memory` /
    `insert_result`, async: `insert_with_memory` / `insert`), applied to the post-lookup state; the trace
    is `bodyRun, stored key value, returned`. -/
theorem ok_stored (spec : FnSpec) (hR : spec.isResult = true) (hC : spec.hasCacheIf = false)
    (tl : Tlru S) (size : V → Nat) (isOk : V → Bool) (rs : List Nat)
    (s : State K V) (c : CallIn K V)
    (hmiss : (get spec.cfg s c.key).2 = none) (hok : isOk c.bodyVal = true) :
    callFn spec tl size isOk rs s c =
      (storeOp spec tl size rs (get spec.cfg s c.key).1 c.key c.bodyVal, c.bodyVal,
       [TraceEv.bodyRun, TraceEv.stored c.key c.bodyVal, TraceEv.returned c.bodyVal false]) := by
  have hw : wouldStore spec isOk c = true := by rw [wouldStore_result_nopred spec isOk c hR hC, hok]
  rw [callFn_body spec tl size isOk rs s c (runsBody_of_none spec s c hmiss), hw,
    checkPart_of_none spec s c hmiss, predPart_nopred spec c hC, tailPart_stored spec isOk c hw]
  rfl

/-- (3b) **The body runs iff the lookup missed.** -/
theorem body_runs_iff_miss (spec : FnSpec) (hI : spec.hasInvalidateOn = false) (tl : Tlru S) (size : V → Nat)
    (isOk : V → Bool) (rs : List Nat) (s : State K V) (c : CallIn K V) :
    TraceEv.bodyRun ∈ (callFn spec tl size isOk rs s c).2.2 ↔ (get spec.cfg s c.key).2 = none := by
  rw [bodyRun_mem_iff, runsBody_noinv spec s c hI]
  cases (get spec.cfg s c.key).2 <;> simp

/-- (4, one step) if every value held is `Ok`, the same holds after any call -/
theorem all_ok_step (spec : FnSpec) (hR : spec.isResult = true) (hC : spec.hasCacheIf = false)
    (tl : Tlru S) (size : V → Nat) (isOk : V → Bool) (rs : List Nat) (s : State K V) (c : CallIn K V)
    (h : ∀ k e, lookup k s.store = some e → isOk e.val = true) :
    ∀ k e, lookup k (callFn spec tl size isOk rs s c).1.store = some e → isOk e.val = true := by
  intro k
  apply callFn_heldSat spec tl size isOk rs s c k (fun v => isOk v = true)
  · intro _ hw; rwa [wouldStore_result_nopred spec isOk c hR hC] at hw
  · exact h k

/-- (4) **Err is never cached (recognised spellings).**  In every state reachable from the empty cache
    by calls (with arbitrary Ok/Err outcomes) and clock ticks, every stored value is `Ok`.
    `isResult = true` means the return type is spelled `Result<` or `std::result::Result<`; other
    spellings of a Result type are excluded (see `unrecognised_spelling_caches_err`). -/
theorem err_never_cached_recognised_spellings (spec : FnSpec) (hR : spec.isResult = true)
    (hC : spec.hasCacheIf = false) (tl : Tlru S) (size : V → Nat) (isOk : V → Bool)
    (h : List (WEv K V)) :
    ∀ k e, lookup k (runCalls spec tl size isOk (State.init : State K V) h).1.store = some e →
      isOk e.val = true := by
  intro k
  apply runCalls_heldSat spec tl size isOk k (fun v => isOk v = true) h
  · intro c _ _ hw; rwa [wouldStore_result_nopred spec isOk c hR hC] at hw
  · exact heldSat_init k _

/-- (4, consequence) **No call is ever served an Err from the cache**: after any history from the empty
    cache, a value a call returns from the cache is `Ok`. -/
theorem never_served_err (spec : FnSpec) (hR : spec.isResult = true) (hC : spec.hasCacheIf = false)
    (tl : Tlru S) (size : V → Nat) (isOk : V → Bool) (h : List (WEv K V))
    (c : CallIn K V) (rs : List Nat) (v : V)
    (hret : TraceEv.returned v true ∈
      (callFn spec tl size isOk rs (runCalls spec tl size isOk (State.init : State K V) h).1 c).2.2) :
    isOk v = true := by
  obtain ⟨_, hg⟩ := (served_mem_iff spec tl size isOk rs _ c v).mp hret
  obtain ⟨e, he, _, hev⟩ := Hist.get_some_elim hg
  rw [← hev]
  exact err_never_cached_recognised_spellings spec hR hC tl size isOk h _ e he

/-- (5a) **While every outcome for `k` was Err, `k` is not cached.**  After any history from the empty
    cache in which every call for `k` had an `Err` outcome, `k` is not in the store. -/
theorem err_only_key_absent (spec : FnSpec) (hR : spec.isResult = true) (hC : spec.hasCacheIf = false)
    (tl : Tlru S) (size : V → Nat) (isOk : V → Bool) (k : K) (h : List (WEv K V))
    (herr : ∀ c ∈ callsOf h, c.key = k → isOk c.bodyVal = false) :
    lookup k (runCalls spec tl size isOk (State.init : State K V) h).1.store = none := by
  rw [← heldSat_false_iff]
  apply runCalls_heldSat spec tl size isOk k (fun _ => False) h
  · intro c hc hk hw
    rw [wouldStore_result_nopred spec isOk c hR hC, herr c hc hk] at hw
    exact Bool.false_ne_true hw
  · exact heldSat_init k _

/-- (5a, consequence) **Every call that follows only failures runs the body again**: after such a
    history a call for `k` executes the body and returns the body's value. -/
theorem err_only_runs_body (spec : FnSpec) (hR : spec.isResult = true) (hC : spec.hasCacheIf = false)
    (tl : Tlru S) (size : V → Nat) (isOk : V → Bool) (h : List (WEv K V))
    (c : CallIn K V) (rs : List Nat)
    (herr : ∀ c0 ∈ callsOf h, c0.key = c.key → isOk c0.bodyVal = false) :
    TraceEv.bodyRun ∈
      (callFn spec tl size isOk rs (runCalls spec tl size isOk (State.init : State K V) h).1 c).2.2 ∧
    (callFn spec tl size isOk rs (runCalls spec tl size isOk (State.init : State K V) h).1 c).2.1
      = c.bodyVal := by
  have hb := runsBody_of_absent spec _ c (err_only_key_absent spec hR hC tl size isOk c.key h herr)
  exact ⟨(bodyRun_mem_iff spec tl size isOk rs _ c).mpr hb, by rw [callFn_body spec tl size isOk rs _ c hb]⟩

/-- (5b) **The first Ok is stored.**  After a history in which every call for the key failed, a call whose
    body returns `Ok` runs the body and hands the value to the engine (trace `bodyRun, stored, returned`). -/
theorem first_ok_is_stored (spec : FnSpec) (hR : spec.isResult = true) (hC : spec.hasCacheIf = false)
    (tl : Tlru S) (size : V → Nat) (isOk : V → Bool)
    (h : List (WEv K V)) (c : CallIn K V) (rs : List Nat)
    (herr : ∀ c0 ∈ callsOf h, c0.key = c.key → isOk c0.bodyVal = false) (hok : isOk c.bodyVal = true) :
    (callFn spec tl size isOk rs (runCalls spec tl size isOk (State.init : State K V) h).1 c).2 =
      (c.bodyVal, [TraceEv.bodyRun, TraceEv.stored c.key c.bodyVal, TraceEv.returned c.bodyVal false]) := by
  have habs := err_only_key_absent spec hR hC tl size isOk c.key h herr
  rw [ok_stored spec hR hC tl size isOk rs _ c (congrArg Prod.snd (get_miss habs)) hok]

/-- (5c) **…and then served.**  Without eviction pressure or expiry (`limit = none`, no effective memory
    bound, `ttl = none`): after failures `h1`, the first `Ok` call `c`, and ANY further history `h2`
    (calls for any keys with any outcomes, ticks), a call for the same key returns that `Ok` value from
    the cache and does not run the body. -/
theorem first_ok_then_served (spec : FnSpec) (hR : spec.isResult = true) (hC : spec.hasCacheIf = false)
    (hI : spec.hasInvalidateOn = false) (hnp : NoPressure spec) (tl : Tlru S) (size : V → Nat)
    (isOk : V → Bool) (h1 h2 : List (WEv K V)) (c : CallIn K V) (rs : List Nat)
    (herr : ∀ c0 ∈ callsOf h1, c0.key = c.key → isOk c0.bodyVal = false) (hok : isOk c.bodyVal = true)
    (c' : CallIn K V) (rs' : List Nat) (hk : c'.key = c.key) :
    (callFn spec tl size isOk rs'
        (runCalls spec tl size isOk (State.init : State K V) (h1 ++ WEv.call c rs :: h2)).1 c').2 =
      (c.bodyVal, [TraceEv.returned c.bodyVal true]) := by
  have hb := runsBody_of_absent spec _ c (err_only_key_absent spec hR hC tl size isOk c.key h1 herr)
  have hw : wouldStore spec isOk c = true := by rw [wouldStore_result_nopred spec isOk c hR hC, hok]
  rw [runCalls_append]
  show (callFn spec tl size isOk rs'
    (runCalls spec tl size isOk (callFn spec tl size isOk rs _ c).1 h2).1 c').2 = _
  rw [stored_then_served spec hnp tl size isOk _ c rs hb hw h2 (fun _ _ _ => Or.inl hI) c' rs' hk
    (fun _ => Or.inl hI), hI]
  rfl

set_option linter.unusedVariables false in
/-- **Async `cache_if` caveat (outside C09, whose hypothesis excludes `cache_if`).**  In the async macro
    a configured `cache_if` REPLACES the `is_ok()` test: when the body runs, returns an `Err` and the
    predicate accepts it, the `Err` is handed to the engine, and (async engine, value not oversize) it is
    held afterwards.  The proof never looks at `herr`: that the value is an `Err` makes no difference. -/
theorem caveat_async_cache_if_stores_err (spec : FnSpec) (hA : spec.isAsync = true)
    (hC : spec.hasCacheIf = true) (tl : Tlru S) (size : V → Nat) (isOk : V → Bool) (rs : List Nat)
    (s : State K V) (c : CallIn K V) (hrun : runsBody spec s c = true)
    (herr : isOk c.bodyVal = false) (hacc : c.cacheIf c.key c.bodyVal = true) :
    TraceEv.stored c.key c.bodyVal ∈ (callFn spec tl size isOk rs s c).2.2 ∧
    (spec.cfg.flavour = .async → (spec.useMem = true → oversize spec.cfg size c.bodyVal = false) →
      ∃ e, lookup c.key (callFn spec tl size isOk rs s c).1.store = some e ∧ e.val = c.bodyVal) := by
  have hw : wouldStore spec isOk c = true := by
    unfold wouldStore shouldStore; simp [hA, hC, hacc]
  refine ⟨(stored_mem_iff spec tl size isOk rs s c _ _).mpr ⟨hrun, hw, rfl, rfl⟩, fun hf hno => ?_⟩
  rw [callFn_state_stored spec tl size isOk rs s c hrun hw]
  exact ⟨_, storeOp_async_self spec hf tl size rs _ c.key c.bodyVal hno, rfl⟩

/-- **Known finding F7.**  If the return type is a `Result` that the macro does not recognise by its
    spelling (`isResult = false`) and no `cache_if` is given, every result — `Err` included — is handed
    to the engine. -/
theorem unrecognised_spelling_caches_err (spec : FnSpec) (hR : spec.isResult = false)
    (hC : spec.hasCacheIf = false) (tl : Tlru S) (size : V → Nat) (isOk : V → Bool) (rs : List Nat)
    (s : State K V) (c : CallIn K V) (hrun : runsBody spec s c = true) :
    TraceEv.stored c.key c.bodyVal ∈ (callFn spec tl size isOk rs s c).2.2 :=
  (stored_mem_iff spec tl size isOk rs s c _ _).mpr ⟨hrun, wouldStore_plain spec isOk c hR hC, rfl, rfl⟩

/-! ### Non-vacuity: concrete histories (`K = V = Nat`, even = Ok, odd = Err) -/

def exTl : Tlru Nat := ⟨fun a b => decide (a < b), fun _ h _ r => h * r⟩
def exOk (v : Nat) : Bool := v % 2 == 0
def mk (k v : Nat) : WEv Nat Nat := .call ⟨k, v, fun _ _ => true, fun _ _ => false⟩ []

/-- sync global, LFU, limit 2, plain store -/
def specG : FnSpec :=
  { name := "f", isAsync := false, threadScope := false, cfg := ⟨.global, .lfu, some 2, none, none⟩,
    useMem := false, isResult := true, hasCacheIf := false, hasInvalidateOn := false,
    tags := [], events := [], deps := [] }

/-- async, LRU, memory-aware store (max_memory 100), ttl 5 s -/
def specA : FnSpec :=
  { specG with isAsync := true, cfg := ⟨.async, .lru, none, some 100, some 5⟩, useMem := true }

/-- key 1: Err, Err, Ok, then a hit, with a call for the unrelated key 2 in between.  The body runs on calls
    1–4; of the calls for key 1 the fourth is the first to store, and the fifth is served that 4 from the cache -/
example : (runCalls specG exTl id exOk (State.init : State Nat Nat)
      [mk 1 3, mk 1 5, mk 2 8, mk 1 4, mk 1 7]).2 =
    [(3, [.bodyRun, .returned 3 false]),
     (5, [.bodyRun, .returned 5 false]),
     (8, [.bodyRun, .stored 2 8, .returned 8 false]),
     (4, [.bodyRun, .stored 1 4, .returned 4 false]),
     (4, [.returned 4 true])] := by decide +kernel

example : (runCalls specA exTl id exOk (State.init : State Nat Nat)
      [mk 1 3, .tick 1000, mk 1 5, mk 1 4, .tick 1000, mk 1 7]).2 =
    [(3, [.bodyRun, .returned 3 false]),
     (5, [.bodyRun, .returned 5 false]),
     (4, [.bodyRun, .stored 1 4, .returned 4 false]),
     (4, [.returned 4 true])] := by decide +kernel

/-- the store after two failures is still empty; after the Ok it holds exactly that value -/
example : (runCalls specA exTl id exOk (State.init : State Nat Nat) [mk 1 3, mk 1 5]).1.store = [] := by decide
example : ((runCalls specA exTl id exOk (State.init : State Nat Nat) [mk 1 3, mk 1 5, mk 1 4]).1.store.map
    (fun p => (p.1, p.2.val))) = [(1, 4)] := by decide

/-- after expiry (ttl 5 s) the Ok is gone and an Err outcome is again not cached -/
example : (runCalls specA exTl id exOk (State.init : State Nat Nat)
      [mk 1 4, .tick 6000, mk 1 3, mk 1 5]).2 =
    [(4, [.bodyRun, .stored 1 4, .returned 4 false]),
     (3, [.bodyRun, .returned 3 false]),
     (5, [.bodyRun, .returned 5 false])] := by decide +kernel

/-- hypotheses of (5c) are satisfiable: an unbounded configuration -/
def specU : FnSpec := { specG with cfg := ⟨.threadLocal, .fifo, none, none, none⟩, threadScope := true }
example : NoPressure specU := ⟨⟨rfl, Or.inl rfl⟩, rfl⟩

/-- the async `cache_if` caveat is observable: an accepted Err (3) is stored and served -/
def specAC : FnSpec := { specA with hasCacheIf := true }
example : (runCalls specAC exTl id exOk (State.init : State Nat Nat) [mk 1 3, mk 1 4]).2 =
    [(3, [.bodyRun, .predCalled 1 3 true, .stored 1 3, .returned 3 false]),
     (3, [.returned 3 true])] := by decide

end Cachelito.C09
