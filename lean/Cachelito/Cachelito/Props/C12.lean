/-
  C12 — Tag / event / dependency / name invalidation empties every matching cache.

  "After invalidate_by_tag, invalidate_by_event, invalidate_by_dependency or invalidate_cache returns,
   every global or async cache that has been used at least once, declares at least one tag, event or
   dependency, and matches the request (by that tag, event or dependency, or by its name) holds no entry
   from before the call: the next call for any arguments runs the body.  The returned count (or boolean)
   equals the number of such caches."

  The proofs rest on `Cachelito/Lemmas/System.lean`; where the property asks for exactly what a lemma of that
  file says, the statement is repeated here under the property's name.  Everything is stated for every
  list of cached functions `fns` (sync global, async and thread-scope mixed, any metadata layout, any
  policy / limit / TTL per function), every TLRU algebra, size function, `Result` classifier, random
  draws, every system state — in particular every state reached by a history from `Sys.init` — and every
  request, including strings nothing declares.  "Such a cache" is `Target fns sys op i`:
  function `i` exists, is not thread-scope, has been called (`i ∈ sys.called`), declares metadata
  (`HasMeta`) and matches the request (`Matches op spec`).
-/
import Cachelito.Lemmas.System

namespace Cachelito.C12
open Cachelito Cachelito.SysLemmas
variable {K V S : Type} [DecidableEq K]

/-! ### "used at least once" -/

/-- **Registration = first call.**  After any history from the initial system, function `i` is in the
    registration set exactly when the history contains a call of `i` and `i` is an existing function that
    is not thread-scope. -/
theorem called_iff (fns : List FnSpec) (tls : Nat → Tlru S) (size : V → Nat) (isOk : V → Bool)
    (ops : List (SysOp K V × List Nat)) (i : Nat) :
    i ∈ (sysRun fns tls size isOk (Sys.init : Sys K V) ops).1.called ↔
      ∃ th c rs spec, (SysOp.call i th c, rs) ∈ ops ∧ fns[i]? = some spec ∧ spec.threadScope = false := by
  rw [mem_called_sysRun]
  constructor
  · rintro (h | h)
    · simp [Sys.init] at h
    · exact h
  · exact Or.inr

/-- a clear callback exists exactly for the functions that are registered and declare metadata -/
theorem clear_callback_iff (fns : List FnSpec) (sys : Sys K V) (i : Nat) :
    hasClearCallback fns sys i = true ↔
      ∃ spec, fns[i]? = some spec ∧ spec.threadScope = false ∧ i ∈ sys.called ∧ HasMeta spec :=
  hasClearCallback_iff fns sys i

/-! ### (1) every matching cache is emptied — store AND order queue -/

/-- **C12, emptying (all four requests at once).**  In every system state, after a tag / event /
    dependency / name invalidation `op`, the cache of every function that exists, is global or async, has
    been called, declares metadata and matches `op` has an empty store and an empty order queue. -/
theorem invalidation_empties (fns : List FnSpec) (tls : Nat → Tlru S) (size : V → Nat) (isOk : V → Bool)
    (rs : List Nat) (sys : Sys K V) (op : SysOp K V) (i : Nat) (spec : FnSpec)
    (hs : fns[i]? = some spec) (hts : spec.threadScope = false) (hc : i ∈ sys.called)
    (hm : HasMeta spec) (hmatch : Matches op spec) :
    ((sysStep fns tls size isOk rs sys op).1.getCache ⟨i, none⟩).store = [] ∧
    ((sysStep fns tls size isOk rs sys op).1.getCache ⟨i, none⟩).queue = [] := by
  obtain ⟨sel, hsel⟩ := groupSel_of_matches hmatch
  have := (group_getCache fns tls size isOk rs sys hsel ⟨i, none⟩).1 ⟨rfl, spec, hs, hts, hc, hm, hmatch⟩
  rw [this]; exact ⟨rfl, rfl⟩

/-- `invalidate_by_tag t`: every registered global/async cache declaring tag `t` is emptied
    (declaring `t` already means the metadata is non-empty). -/
theorem invalidateByTag_empties (fns : List FnSpec) (tls : Nat → Tlru S) (size : V → Nat) (isOk : V → Bool)
    (rs : List Nat) (sys : Sys K V) (t : String) (i : Nat) (spec : FnSpec)
    (hs : fns[i]? = some spec) (hts : spec.threadScope = false) (hc : i ∈ sys.called) (ht : t ∈ spec.tags) :
    ((sysStep fns tls size isOk rs sys (.invalidateByTag t)).1.getCache ⟨i, none⟩).store = [] ∧
    ((sysStep fns tls size isOk rs sys (.invalidateByTag t)).1.getCache ⟨i, none⟩).queue = [] :=
  invalidation_empties fns tls size isOk rs sys _ i spec hs hts hc (hasMeta_of_tag ht) ht

/-- `invalidate_by_event e`: every registered global/async cache declaring event `e` is emptied. -/
theorem invalidateByEvent_empties (fns : List FnSpec) (tls : Nat → Tlru S) (size : V → Nat) (isOk : V → Bool)
    (rs : List Nat) (sys : Sys K V) (e : String) (i : Nat) (spec : FnSpec)
    (hs : fns[i]? = some spec) (hts : spec.threadScope = false) (hc : i ∈ sys.called) (he : e ∈ spec.events) :
    ((sysStep fns tls size isOk rs sys (.invalidateByEvent e)).1.getCache ⟨i, none⟩).store = [] ∧
    ((sysStep fns tls size isOk rs sys (.invalidateByEvent e)).1.getCache ⟨i, none⟩).queue = [] :=
  invalidation_empties fns tls size isOk rs sys _ i spec hs hts hc (hasMeta_of_event he) he

/-- `invalidate_by_dependency d`: every registered global/async cache declaring dependency `d` is emptied. -/
theorem invalidateByDependency_empties (fns : List FnSpec) (tls : Nat → Tlru S) (size : V → Nat)
    (isOk : V → Bool) (rs : List Nat) (sys : Sys K V) (d : String) (i : Nat) (spec : FnSpec)
    (hs : fns[i]? = some spec) (hts : spec.threadScope = false) (hc : i ∈ sys.called) (hd : d ∈ spec.deps) :
    ((sysStep fns tls size isOk rs sys (.invalidateByDependency d)).1.getCache ⟨i, none⟩).store = [] ∧
    ((sysStep fns tls size isOk rs sys (.invalidateByDependency d)).1.getCache ⟨i, none⟩).queue = [] :=
  invalidation_empties fns tls size isOk rs sys _ i spec hs hts hc (hasMeta_of_dep hd) hd

/-- `invalidate_cache name`: the registered global/async cache of that name is emptied, provided it
    declares at least one tag, event or dependency (otherwise it owns no clear callback). -/
theorem invalidateCache_empties (fns : List FnSpec) (tls : Nat → Tlru S) (size : V → Nat) (isOk : V → Bool)
    (rs : List Nat) (sys : Sys K V) (name : String) (i : Nat) (spec : FnSpec)
    (hs : fns[i]? = some spec) (hts : spec.threadScope = false) (hc : i ∈ sys.called)
    (hm : HasMeta spec) (hn : spec.name = name) :
    ((sysStep fns tls size isOk rs sys (.invalidateCache name)).1.getCache ⟨i, none⟩).store = [] ∧
    ((sysStep fns tls size isOk rs sys (.invalidateCache name)).1.getCache ⟨i, none⟩).queue = [] :=
  invalidation_empties fns tls size isOk rs sys _ i spec hs hts hc hm hn

/-- **C12 over histories.**  For every history `ops` from the initial system that contains a call of
    `i`, an invalidation matching `i` executed next leaves `i`'s cache with empty store and queue. -/
theorem invalidation_empties_history (fns : List FnSpec) (tls : Nat → Tlru S) (size : V → Nat) (isOk : V → Bool)
    (ops : List (SysOp K V × List Nat)) (rs : List Nat) (op : SysOp K V) (i : Nat) (spec : FnSpec)
    (hs : fns[i]? = some spec) (hts : spec.threadScope = false)
    (th0 : Nat) (c0 : CallIn K V) (rs0 : List Nat) (hcalled : (SysOp.call i th0 c0, rs0) ∈ ops)
    (hm : HasMeta spec) (hmatch : Matches op spec) :
    let sys := (sysRun fns tls size isOk (Sys.init : Sys K V) ops).1
    ((sysStep fns tls size isOk rs sys op).1.getCache ⟨i, none⟩).store = [] ∧
    ((sysStep fns tls size isOk rs sys op).1.getCache ⟨i, none⟩).queue = [] := by
  intro sys
  exact invalidation_empties fns tls size isOk rs sys op i spec hs hts
    ((called_iff fns tls size isOk ops i).mpr ⟨th0, c0, rs0, spec, hcalled, hs, hts⟩) hm hmatch

/-! ### (2) the returned count / boolean -/

/-- **C12, count.**  `invalidate_by_tag` returns the number of "such caches": there is a duplicate-free
    list containing exactly the functions that exist, are global/async, have been called, and declare
    the tag, and the returned count is its length. -/
theorem invalidateByTag_count (fns : List FnSpec) (tls : Nat → Tlru S) (size : V → Nat) (isOk : V → Bool)
    (rs : List Nat) (sys : Sys K V) (t : String) :
    ∃ l : List Nat, l.Nodup ∧
      (∀ i, i ∈ l ↔ ∃ spec, fns[i]? = some spec ∧ spec.threadScope = false ∧ i ∈ sys.called ∧ t ∈ spec.tags) ∧
      (sysStep fns tls size isOk rs sys (.invalidateByTag t)).2 = .count l.length :=
  ⟨_, clearTargets_nodup _ _ _,
    mem_clearTargets_of_meta fns sys _ (fun spec => t ∈ spec.tags) (fun _ => List.contains_iff_mem) (fun _ => hasMeta_of_tag),
    rfl⟩

/-- `invalidate_by_event` returns the number of registered global/async caches declaring the event. -/
theorem invalidateByEvent_count (fns : List FnSpec) (tls : Nat → Tlru S) (size : V → Nat) (isOk : V → Bool)
    (rs : List Nat) (sys : Sys K V) (e : String) :
    ∃ l : List Nat, l.Nodup ∧
      (∀ i, i ∈ l ↔ ∃ spec, fns[i]? = some spec ∧ spec.threadScope = false ∧ i ∈ sys.called ∧ e ∈ spec.events) ∧
      (sysStep fns tls size isOk rs sys (.invalidateByEvent e)).2 = .count l.length :=
  ⟨_, clearTargets_nodup _ _ _,
    mem_clearTargets_of_meta fns sys _ (fun spec => e ∈ spec.events) (fun _ => List.contains_iff_mem) (fun _ => hasMeta_of_event),
    rfl⟩

/-- `invalidate_by_dependency` returns the number of registered global/async caches declaring the
    dependency. -/
theorem invalidateByDependency_count (fns : List FnSpec) (tls : Nat → Tlru S) (size : V → Nat)
    (isOk : V → Bool) (rs : List Nat) (sys : Sys K V) (d : String) :
    ∃ l : List Nat, l.Nodup ∧
      (∀ i, i ∈ l ↔ ∃ spec, fns[i]? = some spec ∧ spec.threadScope = false ∧ i ∈ sys.called ∧ d ∈ spec.deps) ∧
      (sysStep fns tls size isOk rs sys (.invalidateByDependency d)).2 = .count l.length :=
  ⟨_, clearTargets_nodup _ _ _,
    mem_clearTargets_of_meta fns sys _ (fun spec => d ∈ spec.deps) (fun _ => List.contains_iff_mem) (fun _ => hasMeta_of_dep),
    rfl⟩

/-- `invalidate_cache name` returns `true` exactly when a registered global/async function of that
    name with metadata exists; with pairwise distinct names there is at most one, so the boolean is
    the number of such caches (0 or 1). -/
theorem invalidateCache_flag (fns : List FnSpec) (hnames : (fns.map (·.name)).Nodup)
    (tls : Nat → Tlru S) (size : V → Nat) (isOk : V → Bool) (rs : List Nat) (sys : Sys K V) (name : String) :
    ∃ l : List Nat, l.Nodup ∧ l.length ≤ 1 ∧
      (∀ i, i ∈ l ↔ ∃ spec, fns[i]? = some spec ∧ spec.threadScope = false ∧ i ∈ sys.called ∧
                      HasMeta spec ∧ spec.name = name) ∧
      (sysStep fns tls size isOk rs sys (.invalidateCache name)).2 = .flag (decide (l.length = 1)) := by
  have hmem := fun i => (mem_clearTargets fns sys (fun spec => spec.name = name) i).trans
    (isTarget_iff_target (op := (.invalidateCache name : SysOp K V)) rfl i)
  have hle := length_le_one_of_all_eq (clearTargets_nodup fns sys (fun spec => spec.name = name)) fun a ha b hb => by
    obtain ⟨sa, ha1, _, _, _, ha5⟩ := (hmem a).mp ha
    obtain ⟨sb, hb1, _, _, _, hb5⟩ := (hmem b).mp hb
    exact index_unique_of_name hnames ha1 hb1 (ha5.trans hb5.symm)
  exact ⟨_, clearTargets_nodup fns sys _, hle, hmem, congrArg SysOut.flag (not_isEmpty_eq_decide hle)⟩

/-- the boolean of `invalidate_cache`, without the distinct-names assumption: `true` iff some such
    cache exists -/
theorem invalidateCache_flag_iff (fns : List FnSpec) (tls : Nat → Tlru S) (size : V → Nat) (isOk : V → Bool)
    (rs : List Nat) (sys : Sys K V) (name : String) :
    ∃ b, (sysStep fns tls size isOk rs sys (.invalidateCache name)).2 = .flag b ∧
      (b = true ↔ ∃ i, Target fns sys (.invalidateCache name : SysOp K V) i) := by
  refine ⟨_, rfl, ?_⟩
  rw [not_isEmpty_iff_exists_mem]
  constructor
  · rintro ⟨i, hi⟩
    exact ⟨i, (isTarget_iff_target (op := (.invalidateCache name : SysOp K V)) rfl i).mp
      ((mem_clearTargets _ _ _ _).mp hi)⟩
  · rintro ⟨i, hi⟩
    exact ⟨i, (mem_clearTargets _ _ _ _).mpr
      ((isTarget_iff_target (op := (.invalidateCache name : SysOp K V)) rfl i).mpr hi)⟩

/-- **Unknown requests do nothing.**  If no cache is a target of the request (for instance a tag,
    event, dependency or name nothing declares, or declared only by functions never called or by
    thread-scope functions), the call returns 0 / `false` and the whole system state is unchanged. -/
theorem invalidation_no_target (fns : List FnSpec) (tls : Nat → Tlru S) (size : V → Nat) (isOk : V → Bool)
    (rs : List Nat) (sys : Sys K V) (op : SysOp K V) (sel : FnSpec → Bool) (hsel : groupSel op = some sel)
    (hno : ∀ i, ¬ Target fns sys op i) :
    sysStep fns tls size isOk rs sys op =
      (sys, match op with | .invalidateCache _ => .flag false | _ => .count 0) := by
  have hnil : clearTargets fns sys sel = [] :=
    List.eq_nil_iff_forall_not_mem.mpr fun i hi =>
      hno i ((isTarget_iff_target hsel i).mp ((mem_clearTargets fns sys sel i).mp hi))
  have h1 := sysStep_group fns tls size isOk rs sys hsel
  have h2 := group_out fns tls size isOk rs sys hsel
  rw [hnil] at h1 h2
  rw [clearAll_nil] at h1
  apply Prod.ext
  · exact h1
  · rw [h2]; cases op <;> rfl

/-- a tag that no function declares: count 0, nothing changes -/
theorem invalidateByTag_unknown (fns : List FnSpec) (tls : Nat → Tlru S) (size : V → Nat) (isOk : V → Bool)
    (rs : List Nat) (sys : Sys K V) (t : String) (hno : ∀ spec ∈ fns, t ∉ spec.tags) :
    sysStep fns tls size isOk rs sys (.invalidateByTag t) = (sys, .count 0) := by
  apply invalidation_no_target fns tls size isOk rs sys (.invalidateByTag t) _ rfl
  rintro i ⟨spec, h1, _, _, _, h5⟩
  exact hno spec (List.mem_of_getElem? h1) h5

/-- an event that no function declares: count 0, nothing changes -/
theorem invalidateByEvent_unknown (fns : List FnSpec) (tls : Nat → Tlru S) (size : V → Nat) (isOk : V → Bool)
    (rs : List Nat) (sys : Sys K V) (e : String) (hno : ∀ spec ∈ fns, e ∉ spec.events) :
    sysStep fns tls size isOk rs sys (.invalidateByEvent e) = (sys, .count 0) := by
  apply invalidation_no_target fns tls size isOk rs sys (.invalidateByEvent e) _ rfl
  rintro i ⟨spec, h1, _, _, _, h5⟩
  exact hno spec (List.mem_of_getElem? h1) h5

/-- a dependency that no function declares: count 0, nothing changes -/
theorem invalidateByDependency_unknown (fns : List FnSpec) (tls : Nat → Tlru S) (size : V → Nat)
    (isOk : V → Bool) (rs : List Nat) (sys : Sys K V) (d : String) (hno : ∀ spec ∈ fns, d ∉ spec.deps) :
    sysStep fns tls size isOk rs sys (.invalidateByDependency d) = (sys, .count 0) := by
  apply invalidation_no_target fns tls size isOk rs sys (.invalidateByDependency d) _ rfl
  rintro i ⟨spec, h1, _, _, _, h5⟩
  exact hno spec (List.mem_of_getElem? h1) h5

/-- a name that no function carries: `false`, nothing changes -/
theorem invalidateCache_unknown (fns : List FnSpec) (tls : Nat → Tlru S) (size : V → Nat) (isOk : V → Bool)
    (rs : List Nat) (sys : Sys K V) (name : String) (hno : ∀ spec ∈ fns, spec.name ≠ name) :
    sysStep fns tls size isOk rs sys (.invalidateCache name) = (sys, .flag false) := by
  apply invalidation_no_target fns tls size isOk rs sys (.invalidateCache name) _ rfl
  rintro i ⟨spec, h1, _, _, _, h5⟩
  exact hno spec (List.mem_of_getElem? h1) h5

/-! ### (3) the next call for any arguments runs the body -/

/-- **A call on an emptied cache runs the body.**  If the shared cache of a global/async function holds
    no entry, a call with any arguments by any thread executes the body (the trace contains `bodyRun`)
    and returns the body's value. -/
theorem call_on_empty_runs_body (fns : List FnSpec) (tls : Nat → Tlru S) (size : V → Nat) (isOk : V → Bool)
    (rs : List Nat) (sys : Sys K V) (i : Nat) (spec : FnSpec) (hs : fns[i]? = some spec)
    (hts : spec.threadScope = false) (he : (sys.getCache ⟨i, none⟩).store = []) (th : Nat) (c : CallIn K V) :
    ∃ tr, (sysStep fns tls size isOk rs sys (.call i th c)).2 = .ret c.bodyVal tr ∧ TraceEv.bodyRun ∈ tr := by
  have h1 := out_call fns tls size isOk rs sys th c hs
  rw [cacheIdOf_shared hts] at h1
  have hb := Wrap.runsBody_of_absent spec (sys.getCache ⟨i, none⟩) c (by rw [he]; rfl)
  refine ⟨_, ?_, (Wrap.bodyRun_mem_iff spec (tls i) size isOk rs _ c).mpr hb⟩
  rw [h1, Wrap.callFn_body spec (tls i) size isOk rs _ c hb]

/-- **C12, complete statement.**  Take any system state `sys` (e.g. one reached by a history), any
    matching invalidation `op` for a registered global/async function `i` with metadata, then any
    history `mid` that contains no call of `i` (calls of other functions, ticks, further invalidations,
    statistics operations), then a call of `i` with arbitrary arguments: the body runs and its value is
    returned — nothing stored before the invalidation is served. -/
theorem invalidation_then_call_runs_body (fns : List FnSpec) (tls : Nat → Tlru S) (size : V → Nat)
    (isOk : V → Bool) (sys : Sys K V) (rs : List Nat) (op : SysOp K V) (i : Nat) (spec : FnSpec)
    (hs : fns[i]? = some spec) (hts : spec.threadScope = false) (hc : i ∈ sys.called)
    (hm : HasMeta spec) (hmatch : Matches op spec)
    (mid : List (SysOp K V × List Nat)) (hmid : ∀ th c rs', (SysOp.call i th c, rs') ∉ mid)
    (rs' : List Nat) (th : Nat) (c : CallIn K V) :
    let s1 := (sysStep fns tls size isOk rs sys op).1
    let s2 := (sysRun fns tls size isOk s1 mid).1
    ∃ tr, (sysStep fns tls size isOk rs' s2 (.call i th c)).2 = .ret c.bodyVal tr ∧ TraceEv.bodyRun ∈ tr := by
  intro s1 s2
  have h1 := invalidation_empties fns tls size isOk rs sys op i spec hs hts hc hm hmatch
  have h2 := sysRun_store_nil fns tls size isOk s1 mid ⟨i, none⟩ (by
    intro fn th' c' rs'' spec' hmem hs' hid
    have hfn : i = fn := (congrArg CacheId.fn hid).trans (cacheIdOf_fn spec' fn th')
    subst hfn
    exact hmid th' c' rs'' hmem) h1
  exact call_on_empty_runs_body fns tls size isOk rs' s2 i spec hs hts h2.1 th c

/-- the same from the initial system: a history that calls `i`, a matching invalidation, a history
    without calls of `i`, then a call of `i` — the body runs. -/
theorem history_invalidation_then_call_runs_body (fns : List FnSpec) (tls : Nat → Tlru S) (size : V → Nat)
    (isOk : V → Bool) (ops : List (SysOp K V × List Nat)) (rs : List Nat) (op : SysOp K V) (i : Nat)
    (spec : FnSpec) (hs : fns[i]? = some spec) (hts : spec.threadScope = false)
    (th0 : Nat) (c0 : CallIn K V) (rs0 : List Nat) (hcalled : (SysOp.call i th0 c0, rs0) ∈ ops)
    (hm : HasMeta spec) (hmatch : Matches op spec)
    (mid : List (SysOp K V × List Nat)) (hmid : ∀ th c rs', (SysOp.call i th c, rs') ∉ mid)
    (rs' : List Nat) (th : Nat) (c : CallIn K V) :
    let s0 := (sysRun fns tls size isOk (Sys.init : Sys K V) ops).1
    let s1 := (sysStep fns tls size isOk rs s0 op).1
    let s2 := (sysRun fns tls size isOk s1 mid).1
    ∃ tr, (sysStep fns tls size isOk rs' s2 (.call i th c)).2 = .ret c.bodyVal tr ∧ TraceEv.bodyRun ∈ tr := by
  intro s0
  exact invalidation_then_call_runs_body fns tls size isOk s0 rs op i spec hs hts
    ((called_iff fns tls size isOk ops i).mpr ⟨th0, c0, rs0, spec, hcalled, hs, hts⟩) hm hmatch mid hmid rs' th c

/-- **Frame for the intervening operations**: a history none of whose operations is addressed to cache
    instance `id` (calls of other functions or, for thread scope, other threads; invalidations whose
    targets do not include it; statistics operations on other names) leaves `id` exactly as it was,
    except that ticks advance its clock. -/
theorem other_operations_frame (fns : List FnSpec) (tls : Nat → Tlru S) (size : V → Nat) (isOk : V → Bool)
    (sys : Sys K V) (ops : List (SysOp K V × List Nat)) (id : CacheId)
    (h : NotAddressed fns tls size isOk sys ops id) :
    (sysRun fns tls size isOk sys ops).1.getCache id =
      { sys.getCache id with now := (sys.getCache id).now + ticksOf ops } :=
  sysRun_frame fns tls size isOk sys ops id h

/-! ### Non-vacuity (K = V = Nat)

  Four functions: `users` (sync global, tag "user", event "login"), `orders` (async, tags "user" and
  "order", dependency "users"), `local` (thread scope, also tagged "user" — registers nothing) and
  `plain` (global, no metadata — owns no clear callback).  All are called, then `invalidate_by_tag
  "user"` returns 2, empties exactly the first two caches (store and queue), and the next call of
  `users` with the argument that was cached runs the body again. -/

def exTl : Nat → Tlru Nat := fun _ => ⟨fun a b => decide (a < b), fun _ h _ r => h * r⟩
def exSpec (name : String) (isAsync threadScope : Bool) (fl : Flavour) (tags events deps : List String) : FnSpec :=
  { name := name, isAsync := isAsync, threadScope := threadScope, cfg := ⟨fl, .fifo, some 2, none, none⟩,
    useMem := false, isResult := false, hasCacheIf := false, hasInvalidateOn := false,
    tags := tags, events := events, deps := deps }
def exFns : List FnSpec :=
  [exSpec "users" false false .global ["user"] ["login"] [],
   exSpec "orders" true false .async ["user", "order"] [] ["users"],
   exSpec "local" false true .threadLocal ["user"] [] [],
   exSpec "plain" false false .global [] [] []]
def exCall (k v : Nat) : CallIn Nat Nat := ⟨k, v, fun _ _ => true, fun _ _ => false⟩
def exHist : List (SysOp Nat Nat × List Nat) :=
  [(.call 0 0 (exCall 1 10), []), (.call 0 1 (exCall 2 20), []), (.call 1 0 (exCall 1 11), []),
   (.call 2 0 (exCall 1 12), []), (.call 3 0 (exCall 1 13), []), (.tick 5, [])]
def exSys : Sys Nat Nat := (sysRun exFns exTl (fun _ => 0) (fun _ => true) Sys.init exHist).1
def exStep (sys : Sys Nat Nat) (op : SysOp Nat Nat) : Sys Nat Nat × SysOut Nat Nat :=
  sysStep exFns exTl (fun _ => 0) (fun _ => true) [] sys op
def isCount : SysOut Nat Nat → Option Nat
  | .count n => some n
  | _ => none
def isFlag : SysOut Nat Nat → Option Bool
  | .flag b => some b
  | _ => none
/-- did the call run the body, and what did it return -/
def ranBody : SysOut Nat Nat → Option (Bool × Nat)
  | .ret v tr => some (tr.any (fun e => match e with | .bodyRun => true | _ => false), v)
  | _ => none

-- the names are pairwise distinct (standing assumption)
example : (exFns.map (·.name)).Nodup := by decide
-- registered: the three non-thread-scope functions
example : exSys.called = [3, 1, 0] := by decide
-- before: every cache holds its entries
example : keys (exSys.getCache ⟨0, none⟩).store = [1, 2] ∧ (exSys.getCache ⟨0, none⟩).queue = [1, 2] := by decide +kernel
example : keys (exSys.getCache ⟨1, none⟩).store = [1] := by decide
-- a cached argument is served from the cache before the invalidation
example : ranBody (exStep exSys (.call 0 0 (exCall 1 99))).2 = some (false, 10) := by decide +kernel
-- invalidate_by_tag "user": count 2 (thread-scope `local` is not counted)
example : isCount (exStep exSys (.invalidateByTag "user")).2 = some 2 := by decide +kernel
-- store AND queue of both matching caches are empty
example : let s := (exStep exSys (.invalidateByTag "user")).1
    (s.getCache ⟨0, none⟩).store.length = 0 ∧ (s.getCache ⟨0, none⟩).queue = [] ∧
    (s.getCache ⟨1, none⟩).store.length = 0 ∧ (s.getCache ⟨1, none⟩).queue = [] := by decide +kernel
-- the thread-scope cache and the cache without metadata keep their entry
example : let s := (exStep exSys (.invalidateByTag "user")).1
    keys (s.getCache ⟨2, some 0⟩).store = [1] ∧ keys (s.getCache ⟨3, none⟩).store = [1] := by decide +kernel
-- the next call with the formerly cached argument runs the body and returns the fresh value
example : ranBody (exStep (exStep exSys (.invalidateByTag "user")).1 (.call 0 0 (exCall 1 99))).2
    = some (true, 99) := by decide +kernel
-- the other request kinds
example : isCount (exStep exSys (.invalidateByTag "order")).2 = some 1 := by decide +kernel
example : isCount (exStep exSys (.invalidateByEvent "login")).2 = some 1 := by decide +kernel
example : isCount (exStep exSys (.invalidateByDependency "users")).2 = some 1 := by decide +kernel
example : isFlag (exStep exSys (.invalidateCache "orders")).2 = some true := by decide +kernel
-- the tag table is not consulted for events: "user" is a tag, not an event
example : isCount (exStep exSys (.invalidateByEvent "user")).2 = some 0 := by decide +kernel
-- a cache without metadata owns no clear callback; unknown names; thread-scope names
example : isFlag (exStep exSys (.invalidateCache "plain")).2 = some false := by decide +kernel
example : isFlag (exStep exSys (.invalidateCache "nobody")).2 = some false := by decide +kernel
example : isFlag (exStep exSys (.invalidateCache "local")).2 = some false := by decide +kernel
example : isCount (exStep exSys (.invalidateByTag "nothing")).2 = some 0 := by decide +kernel
-- a function that declares the tag but was never called is not counted
example : isCount (exStep (Sys.init : Sys Nat Nat) (.invalidateByTag "user")).2 = some 0 := by decide

end Cachelito.C12
