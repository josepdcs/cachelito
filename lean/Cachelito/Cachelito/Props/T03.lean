/-
  T03 — TRANSLATOR TIE, cache_entry.rs: `is_expired`, `increment_frequency` (C06, C08)

  The functions named here are regenerated from /repo's CURRENT source on every check by `checklib/rust2lean.py`
  (`Generated/Pure*.lean`); the theorems are re-proved against whatever was generated (see `Props/T01.lean`).
  The one hypothesis that appears is a modelling assumption of DESIGN.md §9: hit counters below `u64::MAX`.
-/
import Cachelito.Generated.PureEntry
import Cachelito.Lemmas.Source


namespace Cachelito.T03
open Cachelito Cachelito.RustLite Cachelito.Generated Cachelito.SourceLemmas
open Cachelito.Generated.Entry

variable {K V F : Type} [DecidableEq K]

/-- `is_expired` is the model's `expired` (sync engines: whole seconds of `Instant::elapsed` against the ttl) -/
theorem is_expired_eq (cfg : Cfg) (hf : cfg.flavour ≠ .async) (now : Nat) (e : Entry V) :
    is_expired ⟨fun b => now - b, now⟩ e cfg.ttl = expired cfg now e := by
  have hel : elapsedMs cfg now e.birth = now - e.birth := by
    cases hfl : cfg.flavour <;> simp_all [elapsedMs]
  unfold is_expired expired
  cases cfg.ttl <;> simp [asSecs, hel]

/-- `increment_frequency` adds one to the hit counter (what `bumpHits` does to the entry of a key) — below `u64::MAX` -/
theorem increment_frequency_eq (e : Entry V) (h : e.hits < u64Max) :
    increment_frequency e = { e with hits := e.hits + 1 } := by
  unfold increment_frequency
  simp [saturatingAddU64, Nat.succ_le_of_lt h]

/-- on a store: incrementing the frequency of the entry of `k` is the model's `bumpHits` -/
theorem modify_increment_frequency_eq (k : K) (m : Store K V) (h : ∀ p, p ∈ m → p.2.hits < u64Max) :
    modify k increment_frequency m = bumpHits k m := by
  unfold bumpHits
  induction m with
  | nil => rfl
  | cons p m ih =>
    obtain ⟨k', e⟩ := p
    have he := h (k', e) (by simp)
    have ih' := ih (fun p hp => h p (by simp [hp]))
    by_cases hk : k' = k
    · simp [modify, hk, increment_frequency_eq e he]
    · simp [modify, hk, ih']

end Cachelito.T03
