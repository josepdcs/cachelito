/-
  T04 — TRANSLATOR TIE, stats.rs: the `CacheStats` methods (C15)

  The functions named here are regenerated from /repo's CURRENT source on every check by `checklib/rust2lean.py`
  (`Generated/Pure*.lean`); the theorems are re-proved against whatever was generated (see `Props/T01.lean`).
  One method call is one atomic step on the two counters.  The `f64` code (the two rates) is translated over an ARBITRARY
  structure of float operations (`RustLite.F64`).
-/
import Cachelito.Generated.PureStats
import Cachelito.Lemmas.Source
import Cachelito.StatsReg


namespace Cachelito.T04
open Cachelito Cachelito.RustLite Cachelito.Generated Cachelito.SourceLemmas
open Cachelito.Generated.Stats Cachelito.StatsReg

variable {K V F : Type} [DecidableEq K]

/-- the counters of the model as the two atomics of the source -/
def cellOf (k : StatsReg.Counters) : StatsCell := ⟨k.hits, k.misses⟩

/-- every `CacheStats` method is the corresponding counter operation of `StatsReg` (`recordHit`, `recordMiss`,
    `cellReset`, `hits`, `misses`, `total`), and the two rates are `0.0` for an unused cache and otherwise the quotient
    of the model's (numerator, denominator) pair, for every float structure -/
theorem cache_stats_eq (A : F64 F) (k : StatsReg.Counters) :
    record_hit (cellOf k) = cellOf { k with hits := k.hits + 1 } ∧
    record_miss (cellOf k) = cellOf { k with misses := k.misses + 1 } ∧
    Stats.reset (cellOf k) = cellOf Counters.zero ∧
    Stats.hits (cellOf k) = k.hits ∧ Stats.misses (cellOf k) = k.misses ∧
    total_accesses (cellOf k) = k.total ∧
    hit_rate A (cellOf k) = (if k.hitRate.2 = 0 then A.zero else A.div (A.ofNat k.hitRate.1) (A.ofNat k.hitRate.2)) ∧
    miss_rate A (cellOf k) = (if k.missRate.2 = 0 then A.zero else A.div (A.ofNat k.missRate.1) (A.ofNat k.missRate.2)) := by
  simp [record_hit, record_miss, Stats.reset, Stats.hits, Stats.misses, total_accesses, hit_rate, miss_rate, cellOf,
    fetchAdd, atomicStore, atomicLoad, Counters.zero, Counters.total, Counters.hitRate, Counters.missRate]

end Cachelito.T04
