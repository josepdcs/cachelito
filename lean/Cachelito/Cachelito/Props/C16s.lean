/-
  C16s — the thread-local `RefCell` discipline checked against the CURRENT SOURCE (translator tie).

  `Cachelito/Generated/BorrowNesting.lean` is regenerated from `thread_local_cache.rs` by
  `checklib/static_scopes.py` on every check of C16: `borrows` lists every statically possible nesting of
  `RefCell` borrows (lexical guard scopes incl. temporaries, plus borrows taken by a called method while the
  caller's borrow is alive).  `RefCell` panics exactly when a cell is borrowed mutably while any borrow of THE SAME
  cell is alive, or borrowed at all while a mutable borrow of it is alive.

  The pre-fix code (F4: LFU/ARC/TLRU eviction re-borrowed the order queue) had the nesting
  `(order, mutable, order, mutable)`; the first example below shows the checker rejects it.

  The branch-by-branch traces of `Cachelito/Borrow.lean` (`Props/C16.lean` (c)) are written by hand and are not
  compared with `borrows`; the two cells are called `store` / `queue` there and `cache` / `order` here.
-/
import Cachelito.Generated.BorrowNesting

namespace Cachelito.C16s
open Cachelito.Generated

/-- two borrows can be alive together iff they are of different cells or both shared -/
def compatible (e : Cell × Bool × Cell × Bool) : Bool :=
  e.1 != e.2.2.1 || (!e.2.1 && !e.2.2.2)

/-- The translator classified every borrow it met. -/
theorem translator_classified_everything : borrowProblems = [] := by decide

/-- The translator saw the borrow sites (non-vacuity). -/
theorem translator_saw_sites : 0 < borrowSites ∧ 0 < borrows.length := by decide

/-- **No borrow in the current source is taken while a conflicting borrow of the same cell is alive**: no
    `BorrowError` / `BorrowMutError` panic is possible on any path of the thread-local engine. -/
theorem no_conflicting_borrow : ∀ e ∈ borrows, compatible e = true := by decide

/-- the nesting of the pre-fix code (F4) is rejected -/
example : compatible (Cell.order, true, Cell.order, true) = false := by decide
/-- a shared re-borrow of the cache cell while a shared borrow is alive would be fine -/
example : compatible (Cell.cache, false, Cell.cache, false) = true := by decide

end Cachelito.C16s
