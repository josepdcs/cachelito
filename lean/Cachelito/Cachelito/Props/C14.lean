/-
  C14 — Thread scope isolates threads; global scope shares across them (sequential part).

  A cache instance is `⟨fn, some t⟩` for thread `t` of a thread-scope function and `⟨fn, none⟩` for a
  global-scope or async function (`cacheIdOf`).  All statements hold for every list of cached functions,
  every configuration (flavour, policy, limit, TTL, memory bound, predicates), every score algebra,
  size function and stream of random draws, and every history — including registry invalidations and
  statistics operations, which never reach a thread-scope instance.

  Vocabulary (`Lemmas/Calls.lean`): `isLocalOp fn t op` — `op` is a call of `fn` by thread `t`, or a clock
  tick; `proj fn t ops` — the sub-history of those operations; `projOuts fn t ops outs` — their outputs.

  Not proved here (Rust's guarantee, modelled by the index `thread`): `thread_local!` gives one instance
  per OS thread.
-/
import Cachelito.Lemmas.Calls

namespace Cachelito.C14
open Cachelito Cachelito.Calls
variable {K V S : Type} [DecidableEq K]

section
variable (fns : List FnSpec) (tls : Nat → Tlru S) (size : V → Nat) (isOk : V → Bool)

/-! ### (1) Thread scope: frame, projection, interleaving independence -/

/-- **Frame of a call.**  A call of function `fn` by thread `th` changes the one instance it lands on and
    leaves EVERY other instance — other threads of the same function, all other functions — exactly as
    it was (store, order queue, clock, counters). -/
theorem call_frame {fn : Nat} {spec : FnSpec} (hspec : fns[fn]? = some spec) (rs : List Nat) (sys : Sys K V)
    (th : Nat) (c : CallIn K V) (id : CacheId) (hid : id ≠ cacheIdOf spec fn th) :
    (sysStep fns tls size isOk rs sys (.call fn th c)).1.getCache id = sys.getCache id := by
  rw [getCache_call fns tls size isOk rs sys th c hspec, if_neg hid]

/-- **Frame of a thread-scope call.**  With `scope = "thread"`, a call by thread `th` changes only
    instance `⟨fn, some th⟩`: the caches of all other threads are untouched, so the value it stores is
    not visible to them, does not count against their limit and evicts nothing of theirs.  It also
    registers nothing. -/
theorem thread_call_frame {fn : Nat} {spec : FnSpec} (hspec : fns[fn]? = some spec) (hts : spec.threadScope = true)
    (rs : List Nat) (sys : Sys K V) (th : Nat) (c : CallIn K V) :
    (∀ id : CacheId, id ≠ ⟨fn, some th⟩ →
      (sysStep fns tls size isOk rs sys (.call fn th c)).1.getCache id = sys.getCache id) ∧
    (sysStep fns tls size isOk rs sys (.call fn th c)).1.called = sys.called := by
  refine ⟨fun id hid => ?_, ?_⟩
  · exact call_frame fns tls size isOk hspec rs sys th c id (by rw [cacheIdOf_thread hts]; exact hid)
  · rw [called_call fns tls size isOk rs sys th c hspec, hts]; rfl

/-- **Nothing but the owner's calls and the clock touches a thread's instance**: any other operation —
    a call by another thread, a call of another function, any registry invalidation, any statistics
    operation — leaves instance `⟨fn, some t⟩` exactly as it was. -/
theorem foreign_ops_frame {fn t : Nat} {spec : FnSpec} (hspec : fns[fn]? = some spec) (hts : spec.threadScope = true)
    (rs : List Nat) (sys : Sys K V) (op : SysOp K V) (hl : isLocalOp fn t op = false) :
    (sysStep fns tls size isOk rs sys op).1.getCache ⟨fn, some t⟩ = sys.getCache ⟨fn, some t⟩ :=
  nonlocal_frame fns tls size isOk hspec hts rs sys op hl

/-- **The sub-history of thread `t` determines its instance.**  After any history, instance
    `⟨fn, some t⟩` is in the state reached by running only thread `t`'s calls to `fn` (and the ticks), and
    those calls produce the same outputs (values and traces) in both runs. -/
theorem thread_instance_determined {fn t : Nat} {spec : FnSpec} (hspec : fns[fn]? = some spec)
    (hts : spec.threadScope = true) (ops : List (SysOp K V × List Nat)) :
    (sysRun fns tls size isOk (Sys.init : Sys K V) ops).1.getCache ⟨fn, some t⟩ =
      (sysRun fns tls size isOk (Sys.init : Sys K V) (proj fn t ops)).1.getCache ⟨fn, some t⟩ ∧
    projOuts fn t ops (sysRun fns tls size isOk (Sys.init : Sys K V) ops).2 =
      (sysRun fns tls size isOk (Sys.init : Sys K V) (proj fn t ops)).2 :=
  thread_proj fns tls size isOk hspec hts ops Sys.init Sys.init rfl

/-- **Interleaving independence.**  Two histories that contain the same calls of thread `t` to `fn` in
    the same order (with the clock ticks at the same places) — however the calls of the other threads,
    the calls of other functions and the invalidations are merged in — leave thread `t`'s instance in the
    same state and give every one of thread `t`'s calls the same output. -/
theorem interleaving_independence {fn t : Nat} {spec : FnSpec} (hspec : fns[fn]? = some spec)
    (hts : spec.threadScope = true) (ops₁ ops₂ : List (SysOp K V × List Nat))
    (hproj : proj fn t ops₁ = proj fn t ops₂) :
    (sysRun fns tls size isOk (Sys.init : Sys K V) ops₁).1.getCache ⟨fn, some t⟩ =
      (sysRun fns tls size isOk (Sys.init : Sys K V) ops₂).1.getCache ⟨fn, some t⟩ ∧
    projOuts fn t ops₁ (sysRun fns tls size isOk (Sys.init : Sys K V) ops₁).2 =
      projOuts fn t ops₂ (sysRun fns tls size isOk (Sys.init : Sys K V) ops₂).2 := by
  obtain ⟨a1, b1⟩ := thread_instance_determined fns tls size isOk hspec hts (t := t) ops₁
  obtain ⟨a2, b2⟩ := thread_instance_determined fns tls size isOk hspec hts (t := t) ops₂
  rw [a1, a2, b1, b2, hproj]
  exact ⟨rfl, rfl⟩

/-- **A value stored by one thread is never served to another.**  If thread `t` itself has not yet called
    the thread-scope function `fn` with key `c.key` — no matter what the other threads stored under that
    key — its call runs the body: the value returned is the body's, the lookup did not return a value. -/
theorem never_served_across_threads {fn t : Nat} {spec : FnSpec} (hspec : fns[fn]? = some spec)
    (hts : spec.threadScope = true) (pre : List (SysOp K V × List Nat)) (c : CallIn K V) (rs : List Nat)
    (hnew : ∀ p ∈ pre, ∀ c', p.1 = SysOp.call fn t c' → c'.key ≠ c.key) :
    ∃ tr, (sysStep fns tls size isOk rs (sysRun fns tls size isOk (Sys.init : Sys K V) pre).1 (.call fn t c)).2 =
        .ret c.bodyVal tr ∧ lookupHit tr = false ∧ bodyRuns tr = 1 := by
  -- an entry under `c.key` would stem from a call on this instance, i.e. a call of `fn` by thread `t`, with that key
  have hf : found spec.cfg ((sysRun fns tls size isOk (Sys.init : Sys K V) pre).1.getCache ⟨fn, some t⟩) c.key = false := by
    unfold found
    cases hl : lookup c.key ((sysRun fns tls size isOk (Sys.init : Sys K V) pre).1.getCache ⟨fn, some t⟩).store with
    | none => rfl
    | some e =>
      obtain ⟨c', hc', hkey, _⟩ := run_prov_init fns tls size isOk ⟨fn, some t⟩ pre (c.key, e) (lookup_mem hl)
      obtain ⟨p, hp, hpc⟩ := List.mem_filterMap.mp hc'
      obtain ⟨f, th, _, e1, _, _⟩ := callOn_some hpc
      rw [e1, callOn_thread hspec hts] at hpc
      split at hpc
      · rename_i hft
        exact absurd hkey (hnew p hp c' (by rw [e1, hft.1, hft.2]))
      · cases hpc
  rw [out_call fns tls size isOk rs _ t c hspec, cacheIdOf_thread hts, callFn_miss spec (tls fn) size isOk rs _ c hf]
  exact ⟨_, by rw [missOut_val], by rw [missOut_lookupHit]; rfl, by rw [missOut_bodyRuns]; rfl⟩

/-! ### (2) Global scope and async: one instance, shared by all threads -/

/-- With the default global scope, and always for async functions, every thread's call lands on the same
    instance `⟨fn, none⟩`. -/
theorem shared_instance {spec : FnSpec} (hts : spec.threadScope = false) (fn a b : Nat) :
    cacheIdOf spec fn a = ⟨fn, none⟩ ∧ cacheIdOf spec fn a = cacheIdOf spec fn b := by
  rw [cacheIdOf_shared hts, cacheIdOf_shared hts]; exact ⟨rfl, rfl⟩

/-- **A stored value is served to every thread (general form: "if the key is still stored").**  In any
    state, if the shared instance of `fn` holds an unexpired entry for the key — whichever thread or task
    stored it — then a call with that key by ANY thread `b` returns the stored value from the cache
    without running the body (provided `invalidate_on`, if configured, does not reject it). -/
theorem stored_value_served_to_any_thread {fn : Nat} {spec : FnSpec} (hspec : fns[fn]? = some spec)
    (hts : spec.threadScope = false) (rs : List Nat) (sys : Sys K V) (b : Nat) (c : CallIn K V) {e : Entry V}
    (hl : lookup c.key (sys.getCache ⟨fn, none⟩).store = some e)
    (hx : expired spec.cfg (sys.getCache ⟨fn, none⟩).now e = false)
    (hs : spec.hasInvalidateOn = true → c.invalidateOn c.key e.val = false) :
    (sysStep fns tls size isOk rs sys (.call fn b c)).2 =
      .ret e.val ((if spec.hasInvalidateOn then [TraceEv.checkCalled c.key e.val false] else []) ++
        [TraceEv.returned e.val true]) := by
  rw [out_call fns tls size isOk rs sys b c hspec, cacheIdOf_shared hts,
    callFn_of_lookup_some spec (tls fn) size isOk rs _ c hl hx hs]

/-- **A store by thread `a` is a hit for thread `b`** (plain configuration: no limit, TTL, memory bound,
    predicate; no invalidation in the history).  After any history, let thread `a` call `fn` with input `c₀`,
    let anything but an invalidation happen (`mid`), and let thread `b` call `fn` with the same key: `b` is
    served from the cache — trace exactly `[returned v true]` — and if `a`'s call was the first with that
    key, `v` is the value `a`'s call computed. -/
theorem store_by_one_thread_hit_by_another {fn : Nat} {spec : FnSpec} (hspec : fns[fn]? = some spec)
    (hts : spec.threadScope = false) (hp : Plain spec)
    (pre mid : List (SysOp K V × List Nat)) (a b : Nat) (c₀ c : CallIn K V) (rs₀ rs : List Nat)
    (hno : ∀ p ∈ pre ++ (SysOp.call fn a c₀, rs₀) :: mid, isInvalidation p.1 = false) (hkey : c.key = c₀.key) :
    ∃ v, (sysStep fns tls size isOk rs
        (sysRun fns tls size isOk (Sys.init : Sys K V) (pre ++ (SysOp.call fn a c₀, rs₀) :: mid)).1 (.call fn b c)).2 =
          .ret v [TraceEv.returned v true] ∧
      (c₀.key ∉ keysOn fns ⟨fn, none⟩ pre → v = c₀.bodyVal) := by
  have hon : callOn fns ⟨fn, none⟩ (SysOp.call fn a c₀ : SysOp K V) = some c₀ := by
    rw [callOn_shared hspec hts, if_pos rfl]
  have hcs : callsOn fns ⟨fn, none⟩ (pre ++ (SysOp.call fn a c₀, rs₀) :: mid) =
      callsOn fns ⟨fn, none⟩ pre ++ c₀ :: callsOn fns ⟨fn, none⟩ mid := by
    simp only [callsOn, List.filterMap_append, List.filterMap_cons, hon]
  have hf : firstVal (callsOn fns ⟨fn, none⟩ (pre ++ (SysOp.call fn a c₀, rs₀) :: mid)) c.key =
      (firstVal (callsOn fns ⟨fn, none⟩ pre) c₀.key).orElse fun _ => some c₀.bodyVal := by
    rw [hcs, hkey, firstVal_append, if_pos rfl]
  rw [plain_call_out fns tls size isOk hspec hp _ hno, cacheIdOf_shared hts, hf]
  cases hpre : firstVal (callsOn fns ⟨fn, none⟩ pre) c₀.key with
  | some x =>
    refine ⟨x, rfl, fun hfirst => ?_⟩
    rw [(firstVal_none_iff _ _).mpr hfirst] at hpre; cases hpre
  | none => exact ⟨c₀.bodyVal, rfl, fun _ => rfl⟩

end

/-! ### Non-vacuity

`g0` global LRU without limit, `t1` thread-scope LFU with `limit = 1`, `a2` async FIFO with `limit = 2`
and tags.  Threads 0 and 1.  Thread 1 overflows ITS instance of `t1` twice; thread 0's entry survives. -/

def exTl : Tlru Nat := ⟨fun a b => decide (a < b), fun _ h _ r => h * r⟩
def g0 : FnSpec := ⟨"g0", false, false, ⟨.global, .lru, none, none, none⟩, false, false, false, false, [], [], []⟩
def t1 : FnSpec := ⟨"t1", false, true, ⟨.threadLocal, .lfu, some 1, none, none⟩, false, false, false, false, [], [], []⟩
def a2 : FnSpec := ⟨"a2", true, false, ⟨.async, .fifo, some 2, none, none⟩, false, false, false, false, ["t"], [], []⟩
def exFns : List FnSpec := [g0, t1, a2]
def mk (k v : Nat) : CallIn Nat Nat := ⟨k, v, fun _ _ => true, fun _ _ => false⟩
def exOps : List (SysOp Nat Nat × List Nat) :=
  [(.call 1 0 (mk 1 10), []),          -- thread 0 stores key 1 in its t1 instance
   (.call 1 1 (mk 2 20), []),          -- thread 1 stores key 2 in ITS instance
   (.call 1 1 (mk 3 30), []),          -- thread 1 overflows its own limit: evicts its key 2
   (.call 0 0 (mk 5 50), []),          -- thread 0 stores key 5 in the global cache g0
   (.invalidateByTag "t", []), (.tick 7, []),
   (.call 1 1 (mk 1 11), []),          -- thread 1 calls key 1: NOT served thread 0's value 10
   (.call 1 0 (mk 1 12), []),          -- thread 0 calls key 1 again: served its own 10
   (.call 0 1 (mk 5 51), [])]          -- thread 1 calls g0 with key 5: served thread 0's 50
def exRun := sysRun exFns (fun _ => exTl) (fun _ => 0) (fun _ => true) (Sys.init : Sys Nat Nat) exOps
def summary (o : SysOut Nat Nat) : Nat × Nat × Bool :=
  match o with | .ret v tr => (v, bodyRuns tr, lookupHit tr) | _ => (0, 0, false)

example : t1.threadScope = true ∧ g0.threadScope = false ∧ a2.threadScope = false := by decide
/-- thread 0's instance holds its key 1 although thread 1 stored three keys under `limit = 1` -/
example : keys (exRun.1.getCache ⟨1, some 0⟩).store = [1] ∧ keys (exRun.1.getCache ⟨1, some 1⟩).store = [1] := by
  decide +kernel
example : (exRun.1.getCache ⟨1, some 0⟩).store.map (fun p => p.2.val) = [10] ∧
    (exRun.1.getCache ⟨1, some 1⟩).store.map (fun p => p.2.val) = [11] := by decide +kernel
/-- outputs: value, body runs, lookup hit -/
example : exRun.2.map summary =
    [(10, 1, false), (20, 1, false), (30, 1, false), (50, 1, false), (0, 0, false), (0, 0, false),
     (11, 1, false), (10, 0, true), (50, 0, true)] := by decide +kernel
/-- the projection on thread 0 of `t1` keeps two calls and the tick, and replays to the same outputs -/
example : (proj 1 0 exOps).length = 3 := by decide
example : (projOuts 1 0 exOps exRun.2).map summary = [(10, 1, false), (0, 0, false), (10, 0, true)] := by decide +kernel
example : (sysRun exFns (fun _ => exTl) (fun _ => 0) (fun _ => true) (Sys.init : Sys Nat Nat) (proj 1 0 exOps)).2.map summary =
    [(10, 1, false), (0, 0, false), (10, 0, true)] := by decide

end Cachelito.C14
