/-
  C05 (a) — what the memory estimator measures.

  Property C05 speaks of "the total size of the cached values (each value's inline size plus the heap
  capacity it owns, or what its MemoryEstimator reports for user types)".  This file proves that the
  built-in estimators of `cachelito-core/src/memory_estimator.rs` and `cache_entry.rs:124-136`
  (model: `Cachelito/MemEst.lean`) compute exactly that number for every value that owns what it
  reaches, states the exact equation they satisfy otherwise (`&str` and `&[T]` are over-counted by the
  size of the BORROWED data), and shows that none of the unchecked `est - size_of_val` subtractions in
  the `Option` / `Result` / tuple impls can underflow for built-in types (feeds C16) — while a user
  estimator that reports less than `size_of::<T>()` does make them underflow.

  All statements hold for EVERY layout `L` and EVERY value of the `inl` parameters (nothing about Rust
  layouts is assumed); `WF v` only says that user estimators inside `v` report at least their type's
  inline size, and is `True` for values without user estimators (`wf_of_builtin`).
-/
import Cachelito.Lemmas.MemEst

namespace Cachelito.C05a
open Cachelito.MemEst

/-! ### The estimate is inline size + owned heap -/

/-- The exact equation the code satisfies, for every well-formed value: the estimate is the inline size
    plus the owned heap plus the bytes of borrowed data reachable through `&str` / `&[T]`. -/
theorem estimate_exact (L : Layout) (v : Shape) (h : WF v) :
    estimate L v = inline L v + ownedHeap L v + borrowed L v :=
  estimate_eq L v h

/-- For every well-formed value that contains no `&str` / `&[T]` — primitives, `String`, `Vec`,
    `Option`, `Result`, tuples, `Box`, `Arc`, `Rc`, `CacheEntry`, user types, nested arbitrarily — the
    estimate is exactly the inline size plus the heap capacity the value owns. -/
theorem estimate_eq_inline_add_ownedHeap (L : Layout) (v : Shape) (h : WF v)
    (ho : allOwned v = true) : estimate L v = inline L v + ownedHeap L v :=
  (estimate_eq L v h).trans (congrArg (_ + ·) (borrowed_eq_zero L v ho))

/-- The same for the crate's own impls: no hypothesis besides "built from built-in types, owning". -/
theorem estimate_eq_inline_add_ownedHeap_builtin (L : Layout) (v : Shape)
    (hb : builtin v = true) (ho : allOwned v = true) :
    estimate L v = inline L v + ownedHeap L v :=
  estimate_eq_inline_add_ownedHeap L v (wf_of_builtin v hb) ho

/-- `estimate = inline + ownedHeap` holds for a well-formed value exactly when the estimator counts no borrowed bytes. -/
theorem estimate_eq_iff_borrowed_zero (L : Layout) (v : Shape) (h : WF v) :
    estimate L v = inline L v + ownedHeap L v ↔ borrowed L v = 0 := by
  rw [estimate_eq L v h]; exact Nat.add_eq_left

/-- DISCREPANCY with the property's definition of size: a non-empty `&str` owns no heap, yet its
    estimate exceeds inline + owned by its length (the source comment says "just the reference size
    since we don't own the data", the code adds `self.len()`). -/
theorem strRef_overcounted (L : Layout) (n : Nat) :
    estimate L (.strRef n) = inline L (.strRef n) + ownedHeap L (.strRef n) + n := rfl

/-- `CacheEntry<R>` (public impl in `cache_entry.rs`; the engines themselves sum
    `e.value.estimate_memory()`, i.e. `estimate` of the VALUE — `global_cache.rs:736,759`,
    `thread_local_cache.rs:558,577`, `async_global_cache.rs:827,844`): the entry's own inline size plus
    what the value owns (plus borrowed bytes, if any). -/
theorem estimate_entry (L : Layout) (i : Nat) (v : Shape) (h : WF v) :
    estimate L (.entry i v) = i + ownedHeap L v + borrowed L v :=
  estimate_eq L (.entry i v) h

/-! ### No subtraction underflows (C16) -/

/-- A well-formed value's estimate is at least its inline size, so every
    `val.estimate_memory() - size_of_val(val)` in the built-in impls is a subtraction of a smaller
    from a larger number. -/
theorem inline_le_estimate (L : Layout) (v : Shape) (h : WF v) : inline L v ≤ estimate L v :=
  MemEst.inline_le_estimate L v h

/-- On well-formed values the estimator with overflow checks on returns normally, with the value
    of the truncating transcription. -/
theorem estimateChecked_eq_some (L : Layout) (v : Shape) (h : WF v) :
    estimateChecked L v = some (estimate L v) :=
  estimateChecked_eq L v h

/-- For the crate's own impls: for values built from built-in types only (any nesting, any
    capacities, any layout parameters) `estimate_memory` cannot panic on a subtraction. -/
theorem builtin_never_underflows (L : Layout) (v : Shape) (hb : builtin v = true) :
    estimateChecked L v ≠ none := by
  rw [estimateChecked_eq L v (wf_of_builtin v hb)]; exact Option.some_ne_none _

/-- Whenever the real (checked) estimator returns, `estimate` is the number it returns — also for
    ill-formed values.  So `estimate` may be used as THE size function wherever no panic occurred. -/
theorem estimateChecked_sound (L : Layout) (v : Shape) (n : Nat)
    (h : estimateChecked L v = some n) : n = estimate L v :=
  estimateChecked_some L v n h

/-- The well-formedness hypothesis is necessary: a user type whose estimator reports LESS than its
    `size_of` makes `Option<T>::estimate_memory` underflow (panic with overflow checks; without them
    the `usize` wraps to about 2^64, which the model does not follow). -/
theorem opt_underflows_on_underreporting_user (L : Layout) (j i e : Nat) (h : e < i) :
    estimateChecked L (.opt j (some (.user i e))) = none :=
  bind_csub_none _ rfl h

/-- … likewise `Result<T, E>` … -/
theorem res_underflows_on_underreporting_user (L : Layout) (j i e : Nat) (ok : Bool) (h : e < i) :
    estimateChecked L (.res j ok (.user i e)) = none :=
  bind_csub_none _ rfl h

/-- … and tuples. -/
theorem tup2_underflows_on_underreporting_user (L : Layout) (j i e : Nat) (b : Shape) (h : e < i) :
    estimateChecked L (.tup2 j (.user i e) b) = none :=
  bind_csub_none _ rfl h

/-- … whereas `Vec<T>` and `CacheEntry<T>` use `saturating_sub` and never panic on such a type. -/
theorem vec_entry_tolerate_underreporting_user (L : Layout) (ei cap j i e : Nat) :
    estimateChecked L (.vec ei cap [.user i e]) = some (L.vec + cap * ei + (e - i)) ∧
    estimateChecked L (.entry j (.user i e)) = some (j + (e - i)) :=
  ⟨rfl, rfl⟩

/-! ### Monotonicity -/

/-- The estimate of a `String` grows with its capacity … -/
theorem estimate_str_mono (L : Layout) {c c' : Nat} (h : c ≤ c') :
    estimate L (.str c) ≤ estimate L (.str c') :=
  Nat.add_le_add_left h _

/-- … strictly. -/
theorem estimate_str_strictMono (L : Layout) {c c' : Nat} (h : c < c') :
    estimate L (.str c) < estimate L (.str c') :=
  Nat.add_lt_add_left h _

/-- The estimate of a cached `String` (`CacheEntry<String>`) is the entry's inline size plus the
    capacity: it grows strictly with the capacity, for every layout. -/
theorem estimate_entry_str (L : Layout) (i c : Nat) : estimate L (.entry i (.str c)) = i + c :=
  congrArg (i + ·) (Nat.add_sub_cancel_left ..)

/-- The estimate of a `Vec` grows with its capacity (same elements). -/
theorem estimate_vec_cap_mono (L : Layout) (ei : Nat) (xs : List Shape) {c c' : Nat} (h : c ≤ c') :
    estimate L (.vec ei c xs) ≤ estimate L (.vec ei c' xs) :=
  Nat.add_le_add_right (Nat.add_le_add_left (Nat.mul_le_mul_right ei h) _) _

/-- `Some(v)` is never estimated smaller than `None` of the same type. -/
theorem estimate_opt_none_le (L : Layout) (i : Nat) (v : Shape) :
    estimate L (.opt i none) ≤ estimate L (.opt i (some v)) :=
  Nat.add_le_add_left (Nat.zero_le _) _

/-! ### Non-vacuity: concrete values with the real x86-64 sizes -/

/-- `String::with_capacity(10)`: 24 + 10. -/
example : estimate .x64 (.str 10) = 34 ∧ inline .x64 (.str 10) = 24 ∧ ownedHeap .x64 (.str 10) = 10 := by
  decide

/-- `Some(String::with_capacity(10))`, `size_of::<Option<String>>() = 24`: 24 + (34 − 24). -/
example : estimate .x64 (.opt 24 (some (.str 10))) = 34
    ∧ estimateChecked .x64 (.opt 24 (some (.str 10))) = some 34
    ∧ WF (.opt 24 (some (.str 10))) := by decide

/-- `Err::<String, String>(String::with_capacity(7))`, `size_of::<Result<String,String>>() = 32`. -/
example : estimate .x64 (.res 32 false (.str 7)) = 39 := by decide

/-- `vec![Some(s5), None, Some(s9)]` with capacity 4 in a `Vec<Option<String>>`: 24 + 4·24 + 5 + 9, and
    that is inline + owned heap. -/
example :
    let v : Shape := .vec 24 4 [.opt 24 (some (.str 5)), .opt 24 none, .opt 24 (some (.str 9))]
    estimate .x64 v = 134 ∧ inline .x64 v + ownedHeap .x64 v = 134 ∧ allOwned v = true
      ∧ builtin v = true := by decide

/-- `(String(3), 7u64, Vec::<u8>::with_capacity(11))` of size 56, boxed, in an `Arc`, in a `CacheEntry`
    of size 24: every level is counted once. -/
example :
    let t : Shape := .tup3 56 (.str 3) (.prim 8) (.vec 1 11 [.prim 1, .prim 1])
    estimate .x64 t = 70 ∧
    estimate .x64 (.box t) = 78 ∧
    estimate .x64 (.arc (.box t)) = 86 ∧
    estimate .x64 (.entry 24 (.arc (.box t))) = 24 + 78 ∧
    ownedHeap .x64 (.arc (.box t)) = 8 + 56 + 14 := by decide

/-- The discrepancy, concretely: `"hello"` (`&'static str`) owns nothing, inline 16, estimated 21; a
    `Vec<&str>` of two such strings with capacity 2 owns 32 bytes, is estimated at 24 + 32 + 10. -/
example :
    estimate .x64 (.strRef 5) = 21 ∧ inline .x64 (.strRef 5) + ownedHeap .x64 (.strRef 5) = 16 ∧
    estimate .x64 (.vec 16 2 [.strRef 5, .strRef 5]) = 66 ∧
    inline .x64 (.vec 16 2 [.strRef 5, .strRef 5]) + ownedHeap .x64 (.vec 16 2 [.strRef 5, .strRef 5]) = 56 := by
  decide

/-- A user type of size 8 whose estimator returns 1 (e.g. only `self.data.len()`): not well-formed;
    wrapped in `Option` the real estimator panics (`none`), inside a `Vec` or a `CacheEntry` it does
    not. -/
example :
    ¬ WF (.opt 16 (some (.user 8 1))) ∧
    estimateChecked .x64 (.opt 16 (some (.user 8 1))) = none ∧
    estimateChecked .x64 (.vec 8 2 [.user 8 1]) = some 40 ∧
    estimateChecked .x64 (.entry 24 (.user 8 1)) = some 24 := by decide

/-- A user type that follows the documented recipe (`size_of::<Self>() + capacities`) is well-formed
    and the theorems above (exact equation, no underflow) apply to it. -/
example : WF (.opt 56 (some (.user 48 (48 + 20)))) ∧
    estimateChecked .x64 (.opt 56 (some (.user 48 68))) = some 76 := by decide

end Cachelito.C05a
