/-
  C12r — the invalidation registry as a data structure (`cachelito-core/src/invalidation.rs`,
  `InvalidationRegistry`), and the proof that the abstraction used by `Cachelito/System.lean`
  ("a cache owns a clear callback iff its function was called, is not thread-scope and declares metadata")
  is what the registry's tables compute for the registration sequences the macros produce.

  Model: `Cachelito/Registry.lean` (`Reg`, `Registry.step`, `runState`).  Every theorem of the first part is
  for EVERY operation history `ops` from the empty registry — registrations in any order, re-registration
  of a name with other metadata or another callback, `clear` anywhere, requests interleaved anywhere.
  The history is summarised by three lists (`Cachelito/Lemmas/Registry.lean`):
    `regsSince ops`  — the `(name, metadata)` registrations since the last `clear`, oldest first,
    `cbsSince ops`   — the `(name, identifier)` clear-callback registrations since the last `clear`,
    `condsSince ops` — the same for conditional-invalidation callbacks,
  and `latest l n` is the identifier of the LAST pair for `n` in `l`.  A callback is represented by the
  identifier it was registered with; "the callback runs" = its identifier is in the reported list.  The
  order of that list is the model's (tables and sets as lists in insertion order); the Rust loops iterate a
  `HashSet` / `HashMap`, so towards the code only membership, multiplicity and length mean anything, and the
  refinement theorems of the group requests state just that.

  Property theorems and non-vacuity examples only; helper lemmas are in `Cachelito/Lemmas/Registry.lean`.
-/
import Cachelito.Lemmas.Registry

namespace Cachelito.C12r
open Cachelito Cachelito.Registry Cachelito.SysLemmas Cachelito.RegLemmas
variable {K V S : Type} [DecidableEq K]

/-- `runState` is the state component of `run` (which also collects the outputs). -/
theorem run_state (r : Reg) (ops : List Registry.Op) : (Registry.run r ops).1 = runState r ops := by
  induction ops generalizing r with
  | nil => rfl
  | cons op ops ih => exact ih _

/-! ### (1) the three association tables -/

/-- **Tag table.**  After any history, cache `n` is in the set stored under tag `t` exactly when SOME
    registration of `n` since the last `clear` declared `t` (a later re-registration with other metadata
    does not remove the older association — this is what the code does). -/
theorem tags_get_iff (ops : List Registry.Op) (t n : String) :
    n ∈ (runState {} ops).tags.get t ↔ ∃ m, (n, m) ∈ regsSince ops ∧ t ∈ m.tags :=
  (rel_run ops).tags.mem t n

/-- **Event table**: same as `tags_get_iff` for events. -/
theorem events_get_iff (ops : List Registry.Op) (e n : String) :
    n ∈ (runState {} ops).events.get e ↔ ∃ m, (n, m) ∈ regsSince ops ∧ e ∈ m.events :=
  (rel_run ops).events.mem e n

/-- **Dependency table**: same as `tags_get_iff` for dependencies. -/
theorem deps_get_iff (ops : List Registry.Op) (d n : String) :
    n ∈ (runState {} ops).deps.get d ↔ ∃ m, (n, m) ∈ regsSince ops ∧ d ∈ m.deps :=
  (rel_run ops).deps.mem d n

/-- Each cache name is stored at most once under a tag (the sets are sets). -/
theorem tags_get_nodup (ops : List Registry.Op) (t : String) : ((runState {} ops).tags.get t).Nodup :=
  (rel_run ops).tags.nodup t

theorem events_get_nodup (ops : List Registry.Op) (e : String) : ((runState {} ops).events.get e).Nodup :=
  (rel_run ops).events.nodup e

theorem deps_get_nodup (ops : List Registry.Op) (d : String) : ((runState {} ops).deps.get d).Nodup :=
  (rel_run ops).deps.nodup d

/-- The three read-only queries (`get_caches_by_tag` …) return exactly those sets and change nothing. -/
theorem getBy_exact (ops : List Registry.Op) (x : String) :
    Registry.step (runState {} ops) (.getByTag x) = (runState {} ops, .names ((runState {} ops).tags.get x)) ∧
    Registry.step (runState {} ops) (.getByEvent x) = (runState {} ops, .names ((runState {} ops).events.get x)) ∧
    Registry.step (runState {} ops) (.getDependents x) = (runState {} ops, .names ((runState {} ops).deps.get x)) :=
  ⟨rfl, rfl, rfl⟩

/-- The metadata table holds, for every name, the metadata of its LAST registration since the last
    `clear`, and no name twice.  The Rust code only writes `cache_metadata` (`invalidation.rs:166` insert, `:453`
    clear; nothing reads it), so no operation of the model returns it and this is the one statement about it. -/
theorem metas_eq_latest (ops : List Registry.Op) (n : String) :
    getKey (runState {} ops).metas n = latest (regsSince ops) n ∧
    ((runState {} ops).metas.map (·.1)).Nodup :=
  ⟨(rel_run ops).metas.get_eq n, (rel_run ops).metas.keys⟩

/-! ### (2) the callback tables -/

/-- **Clear-callback table.**  The callback stored for `n` is the LAST one registered for `n` since the
    last `clear` (none if there is none). -/
theorem clearCb_eq_latest (ops : List Registry.Op) (n : String) :
    getKey (runState {} ops).clearCb n = latest (cbsSince ops) n :=
  (rel_run ops).clearCb.get_eq n

/-- **Conditional-callback table**: same for the conditional-invalidation callbacks. -/
theorem condCb_eq_latest (ops : List Registry.Op) (n : String) :
    getKey (runState {} ops).condCb n = latest (condsSince ops) n :=
  (rel_run ops).condCb.get_eq n

/-- Both callback tables hold every name at most once. -/
theorem callback_keys_nodup (ops : List Registry.Op) :
    ((runState {} ops).clearCb.map (·.1)).Nodup ∧ ((runState {} ops).condCb.map (·.1)).Nodup :=
  ⟨(rel_run ops).clearCb.keys, (rel_run ops).condCb.keys⟩

/-! ### (3) `invalidate_by_tag` / `_event` / `_dependency` -/

/-- **`invalidate_by_tag t` is exact.**  After any history the request leaves the registry unchanged,
    reports a list `l` of callbacks that ran and returns `l.length`, where
    * a callback `id` ran exactly when some cache `n` has a registration since the last `clear` that
      declares `t` and `id` is the latest clear callback of `n`;
    * `l` is obtained from the duplicate-free set stored under `t` by taking the latest callback of every
      name that owns one — so every matching cache's callback runs exactly once per matching name and nothing
      else runs;
    * the returned count is the number of names stored under `t` that own a callback. -/
theorem byTag_exact (ops : List Registry.Op) (t : String) :
    ∃ l, Registry.step (runState {} ops) (.byTag t) = (runState {} ops, .count l.length l) ∧
      (∀ id, id ∈ l ↔ ∃ n m, (n, m) ∈ regsSince ops ∧ t ∈ m.tags ∧ latest (cbsSince ops) n = some id) ∧
      l = ((runState {} ops).tags.get t).filterMap (latest (cbsSince ops)) ∧
      l.length = (((runState {} ops).tags.get t).filter (fun n => (latest (cbsSince ops) n).isSome)).length :=
  ⟨_, rfl, mem_invokeAll_iff ops (rel_run ops).tags t, invokeAll_eq ops _, length_invokeAll ops _⟩

/-- **`invalidate_by_event e` is exact** (as `byTag_exact`, on the event table). -/
theorem byEvent_exact (ops : List Registry.Op) (e : String) :
    ∃ l, Registry.step (runState {} ops) (.byEvent e) = (runState {} ops, .count l.length l) ∧
      (∀ id, id ∈ l ↔ ∃ n m, (n, m) ∈ regsSince ops ∧ e ∈ m.events ∧ latest (cbsSince ops) n = some id) ∧
      l = ((runState {} ops).events.get e).filterMap (latest (cbsSince ops)) ∧
      l.length = (((runState {} ops).events.get e).filter (fun n => (latest (cbsSince ops) n).isSome)).length :=
  ⟨_, rfl, mem_invokeAll_iff ops (rel_run ops).events e, invokeAll_eq ops _, length_invokeAll ops _⟩

/-- **`invalidate_by_dependency d` is exact** (as `byTag_exact`, on the dependency table). -/
theorem byDep_exact (ops : List Registry.Op) (d : String) :
    ∃ l, Registry.step (runState {} ops) (.byDep d) = (runState {} ops, .count l.length l) ∧
      (∀ id, id ∈ l ↔ ∃ n m, (n, m) ∈ regsSince ops ∧ d ∈ m.deps ∧ latest (cbsSince ops) n = some id) ∧
      l = ((runState {} ops).deps.get d).filterMap (latest (cbsSince ops)) ∧
      l.length = (((runState {} ops).deps.get d).filter (fun n => (latest (cbsSince ops) n).isSome)).length :=
  ⟨_, rfl, mem_invokeAll_iff ops (rel_run ops).deps d, invokeAll_eq ops _, length_invokeAll ops _⟩

/-! ### (4) `invalidate_cache` / `invalidate_with` -/

/-- **`invalidate_cache n` is exact.**  If a clear callback was registered for `n` since the last `clear`
    the request returns `true` and runs exactly the latest one; otherwise it returns `false` and runs
    nothing.  The registry is unchanged either way. -/
theorem byName_exact (ops : List Registry.Op) (n : String) :
    Registry.step (runState {} ops) (.byName n) =
      match latest (cbsSince ops) n with
      | some id => (runState {} ops, .flag true [id])
      | none => (runState {} ops, .flag false []) := by
  simp only [Registry.step, clearCb_eq_latest]
  cases latest (cbsSince ops) n <;> rfl

/-- **`invalidate_with n` is exact**: `true` + exactly the latest conditional callback of `n`, else
    `false` + nothing; the registry is unchanged. -/
theorem withPred_exact (ops : List Registry.Op) (n : String) :
    Registry.step (runState {} ops) (.withPred n) =
      match latest (condsSince ops) n with
      | some id => (runState {} ops, .flag true [id])
      | none => (runState {} ops, .flag false []) := by
  simp only [Registry.step, condCb_eq_latest]
  cases latest (condsSince ops) n <;> rfl

/-! ### (5) `invalidate_all_with` -/

/-- **`invalidate_all_with` is exact.**  There is a duplicate-free list `names` — exactly the names with a
    conditional callback registered since the last `clear` — such that the callbacks that run are, name by
    name, the latest conditional callback of each; the returned count is the number of such names and the
    registry is unchanged.  Consequently a callback runs iff it is the latest one of some name. -/
theorem allWith_exact (ops : List Registry.Op) :
    ∃ (names : List String) (l : List Nat), Registry.step (runState {} ops) .allWith = (runState {} ops, .count l.length l) ∧
      names.Nodup ∧ (∀ n, n ∈ names ↔ ∃ id, (n, id) ∈ condsSince ops) ∧
      names.map (latest (condsSince ops)) = l.map some ∧
      l.length = names.length ∧
      (∀ id, id ∈ l ↔ ∃ n, latest (condsSince ops) n = some id) := by
  have H := (rel_run ops).condCb
  exact ⟨_, _, rfl, H.keys, H.mem_keys, H.map_latest, by rw [List.length_map, List.length_map], H.mem_values⟩

/-! ### (6) requests do not change the registry -/

/-- **Requests are read-only** — in ANY registry state, every operation other than `register`,
    `register_callback`, `register_invalidation_callback` and `clear` leaves the state unchanged. -/
theorem queries_do_not_change (r : Reg) (op : Registry.Op)
    (h1 : ∀ n m, op ≠ .register n m) (h2 : ∀ n id, op ≠ .registerCallback n id)
    (h3 : ∀ n id, op ≠ .registerCond n id) (h4 : op ≠ .clear) :
    (Registry.step r op).1 = r := by
  cases op with
  | register n m => exact absurd rfl (h1 n m)
  | registerCallback n id => exact absurd rfl (h2 n id)
  | registerCond n id => exact absurd rfl (h3 n id)
  | clear => exact absurd rfl h4
  | _ => exact step_query r rfl

/-- **Interleaved requests are invisible (1)**: inserting any block of requests anywhere into a history
    does not change the resulting registry (from any start state). -/
theorem requests_insensitive (r : Reg) (a qs b : List Registry.Op) (hq : ∀ q, q ∈ qs → isQuery q = true) :
    runState r (a ++ qs ++ b) = runState r (a ++ b) := by
  rw [runState_append, runState_append, runState_append, runState_queries _ qs hq]

/-- **Interleaved requests are invisible (2)**: the registry depends only on the sub-sequence of
    registrations and `clear`s — two histories that agree after deleting all requests end in the same
    registry. -/
theorem requests_insensitive' (r : Reg) (ops ops' : List Registry.Op)
    (h : ops.filter (fun op => !isQuery op) = ops'.filter (fun op => !isQuery op)) :
    runState r ops = runState r ops' := by
  rw [runState_filter r ops, runState_filter r ops', h]

/-! ### (7) `clear` -/

/-- **`clear` forgets everything.**  After `clear` (from any state, after any history) the registry is the
    empty registry, in which every request runs nothing and returns 0 / `false` / the empty set. -/
theorem clear_forgets (r : Reg) (ops : List Registry.Op) (x : String) :
    runState r (ops ++ [.clear]) = {} ∧
    Registry.step {} (.byTag x) = ({}, .count 0 []) ∧
    Registry.step {} (.byEvent x) = ({}, .count 0 []) ∧
    Registry.step {} (.byDep x) = ({}, .count 0 []) ∧
    Registry.step {} (.byName x) = ({}, .flag false []) ∧
    Registry.step {} (.withPred x) = ({}, .flag false []) ∧
    Registry.step {} .allWith = ({}, .count 0 []) ∧
    Registry.step {} (.getByTag x) = ({}, .names []) ∧
    Registry.step {} (.getByEvent x) = ({}, .names []) ∧
    Registry.step {} (.getDependents x) = ({}, .names []) := by
  refine ⟨?_, rfl, rfl, rfl, rfl, rfl, rfl, rfl, rfl, rfl⟩
  rw [runState_append]; rfl

/-! ### (8) refinement: the abstraction of `System` is what the tables compute

  `macroOps fns called` is the registration history the macros produce when the global / async functions
  whose indices are in `called` (newest first, as in `Sys.called`) had their first call: in first-call
  order, a function that declares metadata registers its metadata and its clear callback, every function
  registers its conditional callback (callback identifier = function index); thread-scope functions and
  indices that name no function register nothing.  `DistinctNames fns`: cache names are pairwise distinct.
  No assumption on `called` is needed (duplicates and out-of-range indices are handled). -/

/-- **`invalidate_by_tag` refines `System`.**  On the registry built by the macro registrations of
    `sys.called`, the request runs — as a set, and each at most once — exactly the callbacks of
    `clearTargets fns sys (·.tags.contains t)`, and the returned count is the number of those targets, i.e.
    what `sysStep … (.invalidateByTag t)` returns. -/
theorem byTag_refines (fns : List FnSpec) (hd : DistinctNames fns) (sys : Sys K V) (t : String) :
    ∃ l, Registry.step (runState {} (macroOps fns sys.called)) (.byTag t) =
        (runState {} (macroOps fns sys.called), .count l.length l) ∧
      (∀ i, i ∈ l ↔ i ∈ clearTargets fns sys (fun spec => spec.tags.contains t)) ∧ l.Nodup ∧
      l.length = (clearTargets fns sys (fun spec => spec.tags.contains t)).length :=
  ⟨_, rfl, invoke_refines hd sys (rel_run _).tags t _ (fun _ => List.contains_iff_mem)⟩

/-- **`invalidate_by_event` refines `System`** (as `byTag_refines`). -/
theorem byEvent_refines (fns : List FnSpec) (hd : DistinctNames fns) (sys : Sys K V) (e : String) :
    ∃ l, Registry.step (runState {} (macroOps fns sys.called)) (.byEvent e) =
        (runState {} (macroOps fns sys.called), .count l.length l) ∧
      (∀ i, i ∈ l ↔ i ∈ clearTargets fns sys (fun spec => spec.events.contains e)) ∧ l.Nodup ∧
      l.length = (clearTargets fns sys (fun spec => spec.events.contains e)).length :=
  ⟨_, rfl, invoke_refines hd sys (rel_run _).events e _ (fun _ => List.contains_iff_mem)⟩

/-- **`invalidate_by_dependency` refines `System`** (as `byTag_refines`). -/
theorem byDep_refines (fns : List FnSpec) (hd : DistinctNames fns) (sys : Sys K V) (d : String) :
    ∃ l, Registry.step (runState {} (macroOps fns sys.called)) (.byDep d) =
        (runState {} (macroOps fns sys.called), .count l.length l) ∧
      (∀ i, i ∈ l ↔ i ∈ clearTargets fns sys (fun spec => spec.deps.contains d)) ∧ l.Nodup ∧
      l.length = (clearTargets fns sys (fun spec => spec.deps.contains d)).length :=
  ⟨_, rfl, invoke_refines hd sys (rel_run _).deps d _ (fun _ => List.contains_iff_mem)⟩

/-- **`invalidate_cache` refines `System`.**  The request returns `!ts.isEmpty` and runs exactly the list
    `ts = clearTargets fns sys (·.name = name)` — the very list and flag of `sysStep … (.invalidateCache name)`. -/
theorem byName_refines (fns : List FnSpec) (hd : DistinctNames fns) (sys : Sys K V) (name : String) :
    Registry.step (runState {} (macroOps fns sys.called)) (.byName name) =
      (runState {} (macroOps fns sys.called),
        .flag (!(clearTargets fns sys (fun spec => spec.name = name)).isEmpty)
          (clearTargets fns sys (fun spec => spec.name = name))) := by
  rw [byName_exact, eq_toList_of_mem_iff (clearTargets_nodup fns sys _) (byName_targets hd sys name)]
  cases latest (cbsSince (macroOps fns sys.called)) name <;> rfl

/-- **`invalidate_with` refines `System`.**  The request returns `!ts.isEmpty` and runs exactly
    `ts = regTargets fns sys (·.name = name)`, the registered functions named `name` — the list and flag of
    `sysStep … (.invalidateWith name p)` (`SysLemmas.sysStep_invalidateWith`). -/
theorem withPred_refines (fns : List FnSpec) (hd : DistinctNames fns) (sys : Sys K V) (name : String) :
    Registry.step (runState {} (macroOps fns sys.called)) (.withPred name) =
      (runState {} (macroOps fns sys.called),
        .flag (!(regTargets fns sys (fun spec => spec.name = name)).isEmpty)
          (regTargets fns sys (fun spec => spec.name = name))) := by
  rw [withPred_exact, eq_toList_of_mem_iff (regTargets_nodup fns sys _) (withPred_targets hd sys name)]
  cases latest (condsSince (macroOps fns sys.called)) name <;> rfl

/-- **`invalidate_all_with` refines `System`.**  The request runs — as a set, each once — exactly the
    conditional callbacks of `regAll fns sys`, the target list of `sysStep … (.invalidateAllWith p)` (all
    registered functions, `SysLemmas.sysStep_invalidateAllWith`), and returns its length; and the name under
    which callback `i` is stored (the name the real code passes to the user predicate) is the name of function
    `i`, as in `sysStep`. -/
theorem allWith_refines (fns : List FnSpec) (hd : DistinctNames fns) (sys : Sys K V) :
    ∃ l, Registry.step (runState {} (macroOps fns sys.called)) .allWith =
        (runState {} (macroOps fns sys.called), .count l.length l) ∧
      (∀ i, i ∈ l ↔ i ∈ regAll fns sys) ∧ l.Nodup ∧ l.length = (regAll fns sys).length ∧
      (∀ n i, (n, i) ∈ (runState {} (macroOps fns sys.called)).condCb → ∃ s, fns[i]? = some s ∧ s.name = n) := by
  obtain ⟨hm, hn⟩ := allWith_macro hd sys
  refine ⟨_, rfl, hm, hn, length_eq_of_nodup_of_mem_iff hn (regAll_nodup fns sys) hm, fun n i hmem => ?_⟩
  exact conds_named fns sys.called n i (mem_of_latest (((rel_run _).condCb.mem_iff n i).mp hmem))

/-- **The counts / flags of `System` are the registry's.**  For the registry built by the macro
    registrations of `sys.called`, the value returned by each registry request is the value `sysStep`
    returns for the corresponding system request. -/
theorem sysStep_outputs_agree (fns : List FnSpec) (hd : DistinctNames fns) (tls : Nat → Tlru S) (size : V → Nat)
    (isOk : V → Bool) (rs : List Nat) (sys : Sys K V) (x : String) (p : K → Bool) (q : String → K → Bool) :
    let r := runState {} (macroOps fns sys.called)
    (∀ n l, (Registry.step r (.byTag x)).2 = .count n l →
      (sysStep fns tls size isOk rs sys (.invalidateByTag x)).2 = .count n) ∧
    (∀ n l, (Registry.step r (.byEvent x)).2 = .count n l →
      (sysStep fns tls size isOk rs sys (.invalidateByEvent x)).2 = .count n) ∧
    (∀ n l, (Registry.step r (.byDep x)).2 = .count n l →
      (sysStep fns tls size isOk rs sys (.invalidateByDependency x)).2 = .count n) ∧
    (∀ b l, (Registry.step r (.byName x)).2 = .flag b l →
      (sysStep fns tls size isOk rs sys (.invalidateCache x)).2 = .flag b) ∧
    (∀ b l, (Registry.step r (.withPred x)).2 = .flag b l →
      (sysStep fns tls size isOk rs sys (.invalidateWith x p)).2 = .flag b) ∧
    (∀ n l, (Registry.step r .allWith).2 = .count n l →
      (sysStep fns tls size isOk rs sys (.invalidateAllWith q)).2 = .count n) := by
  intro r
  -- a count request that ran a list as long as the target list returns the count of `sysStep`
  have count : ∀ {op : Registry.Op} {l : List Nat} {m : Nat}, Registry.step r op = (r, .count l.length l) →
      l.length = m → ∀ n l', (Registry.step r op).2 = .count n l' → (SysOut.count m : SysOut K V) = .count n := by
    intro op l m hs hl n l' h
    rw [hs] at h
    exact congrArg SysOut.count (hl.symm.trans (Registry.Out.count.inj h).1)
  refine ⟨?_, ?_, ?_, ?_, ?_, ?_⟩
  · obtain ⟨l, h1, _, _, h4⟩ := byTag_refines fns hd sys x
    exact count h1 h4
  · obtain ⟨l, h1, _, _, h4⟩ := byEvent_refines fns hd sys x
    exact count h1 h4
  · obtain ⟨l, h1, _, _, h4⟩ := byDep_refines fns hd sys x
    exact count h1 h4
  · intro b l h
    obtain ⟨rfl, -⟩ := Registry.Out.flag.inj ((congrArg Prod.snd (byName_refines fns hd sys x)).symm.trans h)
    rfl
  · intro b l h
    obtain ⟨rfl, -⟩ := Registry.Out.flag.inj ((congrArg Prod.snd (withPred_refines fns hd sys x)).symm.trans h)
    rfl
  · obtain ⟨l, h1, _, _, h4, _⟩ := allWith_refines fns hd sys
    exact count h1 h4

/-! ### non-vacuity: concrete histories

  `exOps`: `users` registers (tag "user", event "login") with callback 0, a request is interleaved,
  `orders` registers (tags "user","order", dependency "users") with callback 1, then `users` RE-registers
  with other metadata (tag "admin" only) and another clear callback (7), and `plain` registers only a
  conditional callback.

  `decide +kernel` where the evaluation is long: the kernel alone evaluates, where plain `decide` evaluates in
  the elaborator first and the kernel then repeats it. -/

def exOps : List Registry.Op :=
  [.register "users" ⟨["user"], ["login"], []⟩, .registerCallback "users" 0, .registerCond "users" 0,
   .byTag "user",
   .register "orders" ⟨["user", "order"], [], ["users"]⟩, .registerCallback "orders" 1, .registerCond "orders" 1,
   .register "users" ⟨["admin"], [], []⟩, .registerCallback "users" 7,
   .registerCond "plain" 3]

-- the history view
example : regsSince exOps = [("users", ⟨["user"], ["login"], []⟩), ("orders", ⟨["user", "order"], [], ["users"]⟩),
    ("users", ⟨["admin"], [], []⟩)] := rfl
example : cbsSince exOps = [("users", 0), ("orders", 1), ("users", 7)] := rfl
example : condsSince exOps = [("users", 0), ("orders", 1), ("plain", 3)] := rfl
example : latest (cbsSince exOps) "users" = some 7 ∧ latest (cbsSince exOps) "plain" = none := by decide +kernel
-- the tables: the re-registration of `users` did NOT remove its older "user" / "login" associations
example : (runState {} exOps).tags.get "user" = ["users", "orders"] := by decide +kernel
example : (runState {} exOps).tags.get "admin" = ["users"] := by decide +kernel
example : (runState {} exOps).events.get "login" = ["users"] := by decide
example : (runState {} exOps).deps.get "users" = ["orders"] := by decide
example : getKey (runState {} exOps).metas "users" = some ⟨["admin"], [], []⟩ := by decide +kernel
-- requests: the LATEST callback of `users` (7) runs, once; counts are the number of callbacks run
example : (Registry.step (runState {} exOps) (.byTag "user")).2 = .count 2 [7, 1] := by decide +kernel
example : (Registry.step (runState {} exOps) (.byTag "order")).2 = .count 1 [1] := by decide +kernel
example : (Registry.step (runState {} exOps) (.byEvent "login")).2 = .count 1 [7] := by decide +kernel
example : (Registry.step (runState {} exOps) (.byDep "users")).2 = .count 1 [1] := by decide
example : (Registry.step (runState {} exOps) (.byEvent "user")).2 = .count 0 [] := by decide
example : (Registry.step (runState {} exOps) (.byName "users")).2 = .flag true [7] := by decide
example : (Registry.step (runState {} exOps) (.byName "plain")).2 = .flag false [] := by decide
example : (Registry.step (runState {} exOps) (.withPred "plain")).2 = .flag true [3] := by decide +kernel
example : (Registry.step (runState {} exOps) (.withPred "nobody")).2 = .flag false [] := by decide +kernel
example : (Registry.step (runState {} exOps) .allWith).2 = .count 3 [0, 1, 3] := by decide
-- a name in a table WITHOUT a clear callback is not counted (metadata registered, callback not)
example : (Registry.step (runState {} [.register "a" ⟨["t"], [], []⟩, .register "b" ⟨["t"], [], []⟩,
    .registerCallback "b" 5]) (.byTag "t")).2 = .count 1 [5] := by decide
-- the output of the interleaved request inside the history (only `users` was registered then)
example : (Registry.run {} exOps).2[3]? = some (.count 1 [0]) := by decide
-- `clear`, then a fresh registration: only what came after the `clear` counts
example : regsSince (exOps ++ [.clear, .register "x" ⟨["user"], [], []⟩, .registerCallback "x" 9]) =
    [("x", ⟨["user"], [], []⟩)] := rfl
example : (Registry.step (runState {} (exOps ++ [.clear, .register "x" ⟨["user"], [], []⟩,
    .registerCallback "x" 9])) (.byTag "user")).2 = .count 1 [9] := by decide
example : (Registry.step (runState {} (exOps ++ [.clear])) .allWith).2 = .count 0 [] := by decide
-- `isQuery` holds for the requests and fails for the four mutating operations
example : isQuery (.byTag "user") = true ∧ isQuery .allWith = true ∧ isQuery (.getDependents "x") = true ∧
    isQuery (.register "a" ⟨[], [], []⟩) = false ∧ isQuery (.registerCallback "a" 0) = false ∧
    isQuery (.registerCond "a" 0) = false ∧ isQuery .clear = false := by decide

/-! The refinement: the four functions of the example in `Props/C12.lean`, written out again (neither file
    imports the other).  `called` lists (newest first) the
    global `plain` (3), the thread-scope `local` (2), `orders` (1), `users` (0), and an index that names
    no function (9): the thread-scope function and the stray index register nothing. -/

def exSpec (name : String) (isAsync threadScope : Bool) (fl : Flavour) (tags events deps : List String) : FnSpec :=
  { name := name, isAsync := isAsync, threadScope := threadScope, cfg := ⟨fl, .fifo, some 2, none, none⟩,
    useMem := false, isResult := false, hasCacheIf := false, hasInvalidateOn := false,
    tags := tags, events := events, deps := deps }
def exFns : List FnSpec :=
  [exSpec "users" false false .global ["user"] ["login"] [],
   exSpec "orders" true false .async ["user", "order"] [] ["users"],
   exSpec "local" false true .threadLocal ["user"] [] [],
   exSpec "plain" false false .global [] [] []]
def exSys : Sys Nat Nat := ⟨[], [9, 3, 2, 1, 0], 0⟩

example : DistinctNames exFns := distinctNames_of_nodup (by decide)
example : regsSince (macroOps exFns exSys.called) =
    [("users", ⟨["user"], ["login"], []⟩), ("orders", ⟨["user", "order"], [], ["users"]⟩)] := rfl
example : cbsSince (macroOps exFns exSys.called) = [("users", 0), ("orders", 1)] := rfl
example : condsSince (macroOps exFns exSys.called) = [("users", 0), ("orders", 1), ("plain", 3)] := rfl
example : (Registry.step (runState {} (macroOps exFns exSys.called)) (.byTag "user")).2 = .count 2 [0, 1] ∧
    clearTargets exFns exSys (fun spec => spec.tags.contains "user") = [0, 1] := by decide +kernel
example : (Registry.step (runState {} (macroOps exFns exSys.called)) (.byDep "users")).2 = .count 1 [1] ∧
    clearTargets exFns exSys (fun spec => spec.deps.contains "users") = [1] := by decide +kernel
example : (Registry.step (runState {} (macroOps exFns exSys.called)) (.byName "orders")).2 = .flag true [1] ∧
    clearTargets exFns exSys (fun spec => spec.name = "orders") = [1] := by decide +kernel
example : (Registry.step (runState {} (macroOps exFns exSys.called)) (.byName "plain")).2 = .flag false [] ∧
    (Registry.step (runState {} (macroOps exFns exSys.called)) (.byName "local")).2 = .flag false [] := by decide +kernel
example : (Registry.step (runState {} (macroOps exFns exSys.called)) (.withPred "plain")).2 = .flag true [3] ∧
    (Registry.step (runState {} (macroOps exFns exSys.called)) (.withPred "local")).2 = .flag false [] := by decide +kernel
example : (Registry.step (runState {} (macroOps exFns exSys.called)) .allWith).2 = .count 3 [0, 1, 3] ∧
    (List.range exFns.length).filter (fun i => isRegistered exFns exSys i) = [0, 1, 3] := by decide +kernel
-- why distinct names are assumed: two functions sharing a name overwrite each other's callback, the
-- registry then runs ONE callback where `System` would clear two caches
example : (Registry.step (runState {} (macroOps
      [exSpec "dup" false false .global ["t"] [] [], exSpec "dup" false false .global ["t"] [] []] [1, 0]))
    (.byTag "t")).2 = .count 1 [1] := by decide

end Cachelito.C12r
