/-
  T22 — TRANSLATOR TIE, cachelito-core/src/stats_registry.rs: the statistics registry (C15)

  The six public functions (`register`, `get`, `get_ref`, `list`, `clear`, `reset`) work on the process-global
  `STATS_REGISTRY : Lazy<RwLock<HashMap<String, &'static Lazy<CacheStats>>>>` — a table of REFERENCES to the caches' own counter
  cells.  `checklib/rust2lean.py` checks that declaration, turns the functions into methods of the registry state
  (`STATS_REGISTRY` → the table, `&'static Lazy<CacheStats>` → a cell reference, reading `(**stats).clone()` → the cell's content,
  `stats.reset()` → zeroing that cell in the heap) and translates them from /repo's CURRENT source
  (`Generated/PureStatsRegistry.lean`).

  Theorems: each translated function IS the operation of the hand-written `StatsReg.step` (about which `C15r` proves the
  table theorems and the refinement to `System.lean`): `register` replaces only the reference stored under the name;
  `get` is a snapshot of the cell the name points to NOW (so a later `record_hit` on the cache's own cell is visible);
  `get_ref` returns the reference itself; `reset` zeroes exactly that cell — every other cell, and the table, are untouched —
  and reports whether the name was registered; `clear` empties the table and touches no cell; `list` returns the names.
  What the cells themselves do (`CacheStats::record_hit`, `reset`, … of stats.rs) is tied in `Props/T04.lean` (`cache_stats_eq`).
-/
import Cachelito.Generated.PureStatsRegistry
import Cachelito.StatsReg


namespace Cachelito.T22
open Cachelito Cachelito.RustLite Cachelito.Generated Cachelito.StatsReg

theorem register_eq (r : Reg) (name : String) (c : Cell) :
    StatsRegistry.register r name c = (StatsReg.step r (.register name c)).1 := by
  simp [StatsRegistry.register, StatsReg.step]

theorem get_eq (r : Reg) (name : String) :
    (StatsReg.step r (.get name)).2 = .snap (StatsRegistry.get r name) := by
  simp [StatsRegistry.get, StatsReg.step]

theorem get_ref_eq (r : Reg) (name : String) :
    (StatsReg.step r (.getRef name)).2 = .ref ((StatsRegistry.get_ref r name).map (fun c => (c, r.cells c))) := by
  simp [StatsRegistry.get_ref, StatsReg.step]

theorem list_eq (r : Reg) : (StatsReg.step r .list).2 = .names (StatsRegistry.list r) := by
  simp [StatsRegistry.list, StatsReg.step]

theorem clear_eq (r : Reg) : StatsRegistry.clear r = (StatsReg.step r .clear).1 := by
  simp [StatsRegistry.clear, StatsReg.step, clearAll]

/-- zeroing a cell in the heap, as the translated `stats.reset()` does, is the model's write of `Counters.zero` -/
theorem heapReset_eq_write (r : Reg) (c : Cell) : { r with cells := heapReset r.cells c } = r.write c Counters.zero := rfl

/-- **`reset` is the model's `reset`**: flag and state -/
theorem reset_eq (r : Reg) (name : String) :
    (StatsRegistry.reset r name).2 = (StatsReg.step r (.reset name)).1 ∧
    (StatsReg.step r (.reset name)).2 = .flag (StatsRegistry.reset r name).1 := by
  unfold StatsRegistry.reset
  simp only [StatsReg.step]
  cases Registry.getKey r.table name with
  | none => exact ⟨rfl, rfl⟩
  | some c => exact ⟨heapReset_eq_write r c, rfl⟩

/-- `reset` is a frame for every cell other than the one the name points to, and for the table (C15: resetting one cache's
    statistics leaves every other cache's alone) -/
theorem reset_frame (r : Reg) (name : String) (c : Cell) (hc : Registry.getKey r.table name ≠ some c) :
    (StatsRegistry.reset r name).2.cells c = r.cells c ∧ (StatsRegistry.reset r name).2.table = r.table := by
  unfold StatsRegistry.reset
  cases h : Registry.getKey r.table name with
  | none => simp [h]
  | some c0 =>
    have : c ≠ c0 := fun e => hc (by rw [h, e])
    simp [h, heapReset, this]

/-- non-vacuity: two names, one shared cell, a reset through one name is visible through the other -/
example :
    let r0 : Reg := { table := [], cells := fun c => if c = 1 then ⟨3, 2⟩ else ⟨7, 7⟩ }
    let r1 := StatsRegistry.register (StatsRegistry.register r0 "a" 1) "b" 1
    StatsRegistry.get r1 "b" = some ⟨3, 2⟩ ∧ (StatsRegistry.reset r1 "a").1 = true ∧
    StatsRegistry.get (StatsRegistry.reset r1 "a").2 "b" = some ⟨0, 0⟩ ∧
    (StatsRegistry.reset r1 "a").2.cells 5 = ⟨7, 7⟩ ∧ StatsRegistry.list r1 = ["a", "b"] ∧
    (StatsRegistry.reset r1 "zz").1 = false := by
  decide

end Cachelito.T22
