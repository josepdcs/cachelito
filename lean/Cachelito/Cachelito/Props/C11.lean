/-
  C11 — `invalidate_on`: stale entries are never served and are refreshed.

  Wrapper level (`Cachelito.callFn`), for a function with an `invalidate_on` check
  (`spec.hasInvalidateOn = true`).  The check is an ORACLE supplied per call (`c.invalidateOn`, `true` =
  stale), so checks whose verdict changes between calls are covered.  Statements hold for every flavour,
  policy, limit, TTL, `max_memory`, both engine stores, unless a hypothesis says otherwise.  Where the
  property speaks of the fresh result "replacing" the stale entry, the store conditions of C09/C10 apply:
  the result is handed to the engine iff `shouldStore` (always, for a function without `cache_if` that is
  not a Result).
-/
import Cachelito.Lemmas.Wrapper

namespace Cachelito.C11
open Cachelito Cachelito.Wrap
variable {K V S : Type} [DecidableEq K]

/-- (2a) **Stale entries are not served: the body runs again.**  If the lookup hits and the check answers
    "stale", the call returns the body's fresh value.  For a plain function (no `cache_if`, not a Result)
    the refresh is unconditional: the state is the engine store of `(key, fresh)` on the post-lookup state
    and the trace is `checkCalled key cached true, bodyRun, stored key fresh, returned fresh`.  (In
    general — `Wrap.callFn_body` — the `cache_if` consultation follows `bodyRun` and the store happens iff
    `shouldStore`.) -/
theorem stale_entry_refreshed_plain (spec : FnSpec) (hI : spec.hasInvalidateOn = true)
    (hC : spec.hasCacheIf = false) (hR : spec.isResult = false) (tl : Tlru S)
    (size : V → Nat) (isOk : V → Bool) (rs : List Nat) (s : State K V) (c : CallIn K V) (cached : V)
    (hhit : (get spec.cfg s c.key).2 = some cached) (hstale : c.invalidateOn c.key cached = true) :
    callFn spec tl size isOk rs s c =
      ((if spec.useMem then insertMem spec.cfg tl size rs (get spec.cfg s c.key).1 c.key c.bodyVal
        else insert spec.cfg tl (rs.headD 0) (get spec.cfg s c.key).1 c.key c.bodyVal),
       c.bodyVal,
       [TraceEv.checkCalled c.key cached true, TraceEv.bodyRun, TraceEv.stored c.key c.bodyVal,
        TraceEv.returned c.bodyVal false]) := by
  have hb : runsBody spec s c = true := by rw [runsBody_of_some spec s c hhit, hI, hstale]; rfl
  have hw := wouldStore_plain spec isOk c hR hC
  rw [callFn_body spec tl size isOk rs s c hb, hw, checkPart_of_some spec s c hhit hI, hstale,
    predPart_nopred spec c hC, tailPart_stored spec isOk c hw]
  rfl

/-- (1b) **Served from the cache iff the lookup hit and the check says "not stale".**  In particular a value
    the check declares stale is never returned from the cache. -/
theorem served_iff_hit_and_valid (spec : FnSpec) (hI : spec.hasInvalidateOn = true) (tl : Tlru S)
    (size : V → Nat) (isOk : V → Bool) (rs : List Nat) (s : State K V) (c : CallIn K V) (v : V) :
    TraceEv.returned v true ∈ (callFn spec tl size isOk rs s c).2.2 ↔
      ((get spec.cfg s c.key).2 = some v ∧ c.invalidateOn c.key v = false) := by
  rw [served_mem_iff]
  constructor
  · rintro ⟨hb, hg⟩
    rw [runsBody_of_some spec s c hg, hI] at hb
    exact ⟨hg, hb⟩
  · rintro ⟨hg, hv⟩
    exact ⟨by rw [runsBody_of_some spec s c hg, hI, hv]; rfl, hg⟩

set_option linter.unusedVariables false in
/-- (1c) when a call is served from the cache the body did not run -/
theorem served_no_body (spec : FnSpec) (hI : spec.hasInvalidateOn = true) (tl : Tlru S)
    (size : V → Nat) (isOk : V → Bool) (rs : List Nat) (s : State K V) (c : CallIn K V) (v : V)
    (h : TraceEv.returned v true ∈ (callFn spec tl size isOk rs s c).2.2) :
    TraceEv.bodyRun ∉ (callFn spec tl size isOk rs s c).2.2 := by
  obtain ⟨hb, _⟩ := (served_mem_iff spec tl size isOk rs s c v).mp h
  intro hm
  rw [(bodyRun_mem_iff spec tl size isOk rs s c).mp hm] at hb
  cases hb

/-- (2b) **The old value never survives a refresh (all flavours, policies, limits, both stores).**
    After a call that ran the body and handed its result to the engine, whatever is held under the key is
    the FRESH entry (fresh value, stamped now, zero hits) — or nothing, if the store itself evicted the
    newcomer or refused it as oversize.  The stale entry is gone in every case (sync: `HashMap::insert`
    replaces; async: the store first drops the existing entry). -/
theorem old_value_never_survives (spec : FnSpec) (tl : Tlru S) (size : V → Nat) (isOk : V → Bool)
    (rs : List Nat) (s : State K V) (c : CallIn K V) (hb : runsBody spec s c = true)
    (hw : shouldStore spec isOk (c.cacheIf c.key c.bodyVal) c.bodyVal = true) :
    ∀ e, lookup c.key (callFn spec tl size isOk rs s c).1.store = some e →
      e = ⟨c.bodyVal, stamp spec.cfg s.now, 0⟩ := by
  intro e he
  rw [callFn_state_stored spec tl size isOk rs s c hb hw] at he
  rcases (storeOp_sub spec tl size rs _ c.key c.bodyVal).put_cases he with ⟨_, h⟩ | ⟨h, _⟩
  · rw [h, get_now]
  · exact absurd rfl h

/-- (2c) **Async: the fresh value is always held after the refresh** (every policy, every limit): the
    async store evicts BEFORE it writes, so the newcomer is never its own victim; the only exception is
    the memory-aware store refusing a value that alone exceeds `max_memory`. -/
theorem refresh_lands_async (spec : FnSpec) (hf : spec.cfg.flavour = .async) (tl : Tlru S) (size : V → Nat)
    (isOk : V → Bool) (rs : List Nat) (s : State K V) (c : CallIn K V) (hb : runsBody spec s c = true)
    (hw : shouldStore spec isOk (c.cacheIf c.key c.bodyVal) c.bodyVal = true)
    (hno : spec.useMem = true → oversize spec.cfg size c.bodyVal = false) :
    lookup c.key (callFn spec tl size isOk rs s c).1.store = some ⟨c.bodyVal, stamp spec.cfg s.now, 0⟩ := by
  rw [callFn_state_stored spec tl size isOk rs s c hb hw,
    storeOp_async_self spec hf tl size rs _ c.key c.bodyVal hno, get_now]

/-- (2d) **Sync, plain store: a refresh of a held key always lands** (every policy).  In a consistent
    state whose queue is within the entry limit (true of every reachable state, C04) re-storing a key
    that is held does not grow the queue, so nothing is evicted and the fresh entry is held afterwards. -/
theorem refresh_lands_sync_plain (spec : FnSpec) (hf : spec.cfg.flavour ≠ .async) (hu : spec.useMem = false)
    (hI : spec.hasInvalidateOn = true) (tl : Tlru S) (size : V → Nat) (isOk : V → Bool) (rs : List Nat)
    (s : State K V) (c : CallIn K V) (cached : V) (hi : Inv s)
    (hl : ∀ n, spec.cfg.limit = some n → s.queue.length ≤ n)
    (hhit : (get spec.cfg s c.key).2 = some cached) (hstale : c.invalidateOn c.key cached = true)
    (hw : shouldStore spec isOk (c.cacheIf c.key c.bodyVal) c.bodyVal = true) :
    lookup c.key (callFn spec tl size isOk rs s c).1.store = some ⟨c.bodyVal, stamp spec.cfg s.now, 0⟩ := by
  have hb : runsBody spec s c = true := by rw [runsBody_of_some spec s c hhit, hI, hstale]; rfl
  obtain ⟨e', he', _⟩ := get_some_held spec.cfg s c.key hhit
  rw [callFn_state_stored spec tl size isOk rs s c hb hw]
  unfold storeOp
  rw [hu, if_neg Bool.false_ne_true,
    Hist.insert_sync_restore_present spec.cfg hf tl _ _ c.key c.bodyVal (get_inv spec.cfg s c.key hi)
      (mem_keys_of_lookup he')
      (fun n hn => Nat.le_trans
        ((get_inv spec.cfg s c.key hi).length_eq ▸ hi.length_eq ▸ C04.get_length_le spec.cfg s c.key) (hl n hn)),
    get_now]

/-- (2e) **Sync FIFO/LRU, limit ≥ 1, both stores: the refresh always lands** (value not oversize): the
    newcomer is at the back of the queue and FIFO/LRU evictions pop the front.  (For sync LFU / ARC /
    TLRU / Random under memory pressure the newcomer — zero hits — CAN be the victim of its own store;
    see the example at the end.  Then the key is simply absent, by (2b).) -/
theorem refresh_lands_sync_fifo_lru (spec : FnSpec)
    (hp : spec.cfg.policy = .fifo ∨ spec.cfg.policy = .lru) (hf : spec.cfg.flavour ≠ .async)
    (hl : spec.cfg.limit ≠ some 0) (tl : Tlru S) (size : V → Nat) (isOk : V → Bool) (rs : List Nat)
    (s : State K V) (c : CallIn K V) (hi : Inv s) (hb : runsBody spec s c = true)
    (hw : shouldStore spec isOk (c.cacheIf c.key c.bodyVal) c.bodyVal = true)
    (hno : spec.useMem = true → oversize spec.cfg size c.bodyVal = false) :
    lookup c.key (callFn spec tl size isOk rs s c).1.store = some ⟨c.bodyVal, stamp spec.cfg s.now, 0⟩ := by
  rw [callFn_state_stored spec tl size isOk rs s c hb hw,
    storeOp_sync_fifo_lru_present spec hp hf hl tl size rs _ c.key c.bodyVal
      (get_inv spec.cfg s c.key hi) hno, get_now]

/-- (2f) **No eviction pressure: the refresh always lands** (all flavours and policies). -/
theorem refresh_lands_noevict (spec : FnSpec) (hne : NoEvict spec) (tl : Tlru S) (size : V → Nat)
    (isOk : V → Bool) (rs : List Nat) (s : State K V) (c : CallIn K V) (hb : runsBody spec s c = true)
    (hw : shouldStore spec isOk (c.cacheIf c.key c.bodyVal) c.bodyVal = true) :
    lookup c.key (callFn spec tl size isOk rs s c).1.store = some ⟨c.bodyVal, stamp spec.cfg s.now, 0⟩ := by
  rw [callFn_state_stored spec tl size isOk rs s c hb hw, storeOp_noevict spec hne, get_now]
  exact lookup_put_self _ _ _

/-- (3a) **The next call consults the check on the FRESH value, never on the stale one.**  After a refresh
    (body ran, result handed to the engine) and any further history of ticks and calls — for the same key
    only calls that would store the same value again, in particular ANY history of calls for other keys —
    every `checkCalled` event of a call for the key carries the fresh value (or there is none: the call
    missed). -/
theorem next_check_sees_fresh (spec : FnSpec) (tl : Tlru S) (size : V → Nat) (isOk : V → Bool)
    (rs : List Nat) (s : State K V) (c : CallIn K V) (hb : runsBody spec s c = true)
    (hw : shouldStore spec isOk (c.cacheIf c.key c.bodyVal) c.bodyVal = true)
    (h2 : List (WEv K V))
    (hother : ∀ c0 ∈ callsOf h2, c0.key = c.key → wouldStore spec isOk c0 = true → c0.bodyVal = c.bodyVal)
    (c' : CallIn K V) (rs' : List Nat) (hk : c'.key = c.key) :
    ∀ k v st, TraceEv.checkCalled k v st ∈
        (callFn spec tl size isOk rs'
          (runCalls spec tl size isOk (callFn spec tl size isOk rs s c).1 h2).1 c').2.2 →
      k = c.key ∧ v = c.bodyVal ∧ st = c'.invalidateOn c.key c.bodyVal := by
  intro k v st hm
  have h0 : HeldSat c.key (fun x => x = c.bodyVal) (callFn spec tl size isOk rs s c).1 := by
    intro e he
    rw [old_value_never_survives spec tl size isOk rs s c hb hw e he]
  have h1 := runCalls_heldSat spec tl size isOk c.key (fun x => x = c.bodyVal) h2 _ hother h0
  obtain ⟨_, hk', hget, hst⟩ := checkCalled_mem spec tl size isOk rs' _ c' hm
  rw [hk] at hget hk' hst
  obtain ⟨e, he, _, hev⟩ := Hist.get_some_elim hget
  have hv : v = c.bodyVal := by rw [← hev]; exact h1 e he
  subst hv
  exact ⟨hk', rfl, hst⟩

/-- (3b) **…and is served from the cache if the check accepts the new value** (no eviction pressure, no
    expiry; all flavours and policies): after the refresh and any further history that leaves the entry
    alone, a call for the key whose check answers "not stale" on the fresh value returns it from the cache
    with trace `checkCalled key fresh false, returned fresh (from cache)` — the body does not run. -/
theorem refreshed_then_served (spec : FnSpec) (hI : spec.hasInvalidateOn = true) (hnp : NoPressure spec)
    (tl : Tlru S) (size : V → Nat) (isOk : V → Bool) (s : State K V) (c : CallIn K V) (rs : List Nat)
    (hb : runsBody spec s c = true)
    (hw : shouldStore spec isOk (c.cacheIf c.key c.bodyVal) c.bodyVal = true)
    (h2 : List (WEv K V)) (hkeep : ∀ c0 ∈ callsOf h2, c0.key = c.key → c0.invalidateOn c.key c.bodyVal = false)
    (c' : CallIn K V) (rs' : List Nat) (hk : c'.key = c.key)
    (hvalid : c'.invalidateOn c.key c.bodyVal = false) :
    (callFn spec tl size isOk rs'
        (runCalls spec tl size isOk (callFn spec tl size isOk rs s c).1 h2).1 c').2 =
      (c.bodyVal, [TraceEv.checkCalled c.key c.bodyVal false, TraceEv.returned c.bodyVal true]) := by
  rw [stored_then_served spec hnp tl size isOk s c rs hb hw h2
    (fun c0 hc0 hk0 => Or.inr (hkeep c0 hc0 hk0)) c' rs' hk (fun _ => Or.inr hvalid), hI]
  rfl

/-- (3c) **Immediately following call, any configuration in which the refresh landed** (e.g. async with
    any policy and limit, by (2c)): if the fresh entry is held after the refresh and `ttl ≠ 0`, the very
    next call for the key hits on the fresh value, consults the check on it, and — if the check answers
    "not stale" — is served from the cache without running the body. -/
theorem landed_then_checked_and_served (spec : FnSpec) (hI : spec.hasInvalidateOn = true)
    (ht : spec.cfg.ttl ≠ some 0) (tl : Tlru S) (size : V → Nat) (isOk : V → Bool)
    (s : State K V) (c : CallIn K V) (rs : List Nat)
    (hland : lookup c.key (callFn spec tl size isOk rs s c).1.store =
      some ⟨c.bodyVal, stamp spec.cfg s.now, 0⟩)
    (c' : CallIn K V) (rs' : List Nat) (hk : c'.key = c.key) :
    (get spec.cfg (callFn spec tl size isOk rs s c).1 c'.key).2 = some c.bodyVal ∧
    (c'.invalidateOn c.key c.bodyVal = false →
      (callFn spec tl size isOk rs' (callFn spec tl size isOk rs s c).1 c').2 =
        (c.bodyVal, [TraceEv.checkCalled c.key c.bodyVal false, TraceEv.returned c.bodyVal true])) := by
  have hget : (get spec.cfg (callFn spec tl size isOk rs s c).1 c'.key).2 = some c.bodyVal := by
    rw [hk]
    apply get_fresh spec.cfg ht _ c.key c.bodyVal 0
    rw [callFn_now]; exact hland
  refine ⟨hget, fun hvalid => ?_⟩
  have hv : c'.invalidateOn c'.key c.bodyVal = false := by rw [hk]; exact hvalid
  have hb : runsBody spec (callFn spec tl size isOk rs s c).1 c' = false := by
    rw [runsBody_of_some spec _ c' hget, hI, hv]; rfl
  rw [callFn_hit spec tl size isOk rs' _ c' hget hb, checkPart_of_some spec _ c' hget hI, hv, hk]
  rfl

/-! ### Non-vacuity (`K = V = Nat`; the check "value < threshold", with a threshold that moves between calls) -/

def exTl : Tlru Nat := ⟨fun a b => decide (a < b), fun _ h _ r => h * r⟩
/-- a call whose check declares values below `thr` stale -/
def mk (k v thr : Nat) : WEv Nat Nat := .call ⟨k, v, fun _ _ => true, fun _ x => decide (x < thr)⟩ []

/-- async, LFU, limit 1 (maximal entry pressure), plain store -/
def specA : FnSpec :=
  { name := "f", isAsync := true, threadScope := false, cfg := ⟨.async, .lfu, some 1, none, some 60⟩,
    useMem := false, isResult := false, hasCacheIf := false, hasInvalidateOn := true,
    tags := [], events := [], deps := [] }

/-- **The 2-call refresh scenario (async), extended.**  Call 1 misses and stores 10.  Call 2: the check
    (threshold 20) declares 10 stale ⇒ body runs, 25 replaces 10.  Calls 3 and 4: the check accepts 25 ⇒
    served from the cache, no body.  Call 5: threshold 30 ⇒ 25 is stale ⇒ body runs, 40 stored.  The body runs
    exactly on calls 1, 2 and 5 (the unrepaired async store re-executed on calls 2, 3, 4, 5: finding F1). -/
example : (runCalls specA exTl id (fun _ => true) (State.init : State Nat Nat)
      [mk 1 10 0, mk 1 25 20, mk 1 99 20, .tick 500, mk 1 98 20, mk 1 40 30]).2 =
    [(10, [.bodyRun, .stored 1 10, .returned 10 false]),
     (25, [.checkCalled 1 10 true, .bodyRun, .stored 1 25, .returned 25 false]),
     (25, [.checkCalled 1 25 false, .returned 25 true]),
     (25, [.checkCalled 1 25 false, .returned 25 true]),
     (40, [.checkCalled 1 25 true, .bodyRun, .stored 1 40, .returned 40 false])] := by decide +kernel

/-- the store after the refresh holds only the fresh value -/
example : ((runCalls specA exTl id (fun _ => true) (State.init : State Nat Nat)
      [mk 1 10 0, mk 1 25 20]).1.store.map (fun p => (p.1, p.2.val))) = [(1, 25)] := by decide

/-- sync global LRU, limit 2, and thread-local FIFO with the memory-aware store: same behaviour -/
def specG : FnSpec := { specA with isAsync := false, cfg := ⟨.global, .lru, some 2, none, none⟩ }
def specT : FnSpec := { specA with isAsync := false, threadScope := true,
                                   cfg := ⟨.threadLocal, .fifo, some 2, some 100, none⟩, useMem := true }
example : (runCalls specG exTl id (fun _ => true) (State.init : State Nat Nat)
      [mk 1 10 0, mk 2 11 0, mk 1 25 20, mk 1 99 20, mk 2 98 0]).2 =
    [(10, [.bodyRun, .stored 1 10, .returned 10 false]),
     (11, [.bodyRun, .stored 2 11, .returned 11 false]),
     (25, [.checkCalled 1 10 true, .bodyRun, .stored 1 25, .returned 25 false]),
     (25, [.checkCalled 1 25 false, .returned 25 true]),
     (11, [.checkCalled 2 11 false, .returned 11 true])] := by decide +kernel
example : (runCalls specT exTl id (fun _ => true) (State.init : State Nat Nat)
      [mk 1 10 0, mk 1 25 20, mk 1 99 20]).2 =
    [(10, [.bodyRun, .stored 1 10, .returned 10 false]),
     (25, [.checkCalled 1 10 true, .bodyRun, .stored 1 25, .returned 25 false]),
     (25, [.checkCalled 1 25 false, .returned 25 true])] := by decide +kernel

/-- **The sync newcomer can be its own victim** (why (2c)–(2f) carry hypotheses): sync global LFU with
    `max_memory = 30` (size = value).  Key 2 is held and was hit once; key 1 holds 10 and is refreshed with 25:
    total 25 + 11 > 30, the LFU scan picks the entry with the fewest hits — the newcomer (0 hits).  Afterwards
    key 1 is absent (neither the stale 10 nor the fresh 25 is held) and the next call runs the body again. -/
def specL : FnSpec := { specA with isAsync := false, cfg := ⟨.global, .lfu, none, some 30, none⟩, useMem := true }
example : (runCalls specL exTl id (fun _ => true) (State.init : State Nat Nat)
      [mk 1 10 0, mk 2 11 0, mk 2 0 0, mk 1 25 20, mk 1 26 20]).2 =
    [(10, [.bodyRun, .stored 1 10, .returned 10 false]),
     (11, [.bodyRun, .stored 2 11, .returned 11 false]),
     (11, [.checkCalled 2 11 false, .returned 11 true]),
     (25, [.checkCalled 1 10 true, .bodyRun, .stored 1 25, .returned 25 false]),
     (26, [.bodyRun, .stored 1 26, .returned 26 false])] := by decide +kernel
example : ((runCalls specL exTl id (fun _ => true) (State.init : State Nat Nat)
      [mk 1 10 0, mk 2 11 0, mk 2 0 0, mk 1 25 20]).1.store.map (fun p => (p.1, p.2.val))) = [(2, 11)] := by
  decide +kernel

/-- hypotheses of (3b) are satisfiable -/
def specU : FnSpec := { specA with cfg := ⟨.async, .tlru, none, none, none⟩ }
example : NoPressure specU := ⟨⟨rfl, Or.inl rfl⟩, rfl⟩

end Cachelito.C11
