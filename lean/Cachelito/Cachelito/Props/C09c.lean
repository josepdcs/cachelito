/-
  C09 / C10 (concurrent clause) — "An Err / a rejected result is never stored and never served: a failing call
  only LOOKS UP; the first Ok (accepted) result that is stored is then served without running the body — under
  ANY interleaving of any number of callers, whatever failing calls run concurrently and finish later."

  Model: `Cachelito.ConcCallsR` — any number of caller threads over ONE shared cache of the data-carrying
  interleaving model `Cachelito.ConcData`.  Every call `(k, rs, v, st)` carries its own outcome (an IMPURE
  body): `v` = what the body produces if it runs in this call, `st` = whether the wrapper hands it to the
  engine (`Wrapper.shouldStore`: `Ok` for a `Result` function, the verdict of `cache_if`, …).  A call is
      lookup (`get k`, its micro-steps) ; hit ⇒ return the cached value ;
      miss ⇒ body ; `st = true`: store (`insert k v` / `mem`: `insert_with_memory k v`, its micro-steps) ; return `v`
                    `st = false`: return `v` (a step of its own that does not touch the cache).
  Both engines (`isAsync cfg`), every policy, ANY schedule `sch : List ThreadId` (`callRunR`), any call lists.
  Ghost log, NEWEST FIRST: `read k found` / `body k` / `write k` / `ret k v stored` / `fail k v`, so
  "`e` happened after `e'`" reads "`log = later ++ e' :: earlier` and `e ∈ later`".

    (a) `nonstoring_call_is_lookup_only`, `nonstoring_step_is_get_step`, `every_step_is_an_engine_step`,
        `writes_come_from_storing_calls`                                     — ANY configuration
    (b) `served_values_come_from_storing_calls`, `err_never_served`, `err_never_served_except`,
        `served_value_was_produced_by_a_storing_call`                        — ANY configuration
    (c) `stored_ok_stays`, `no_body_after_ok_storing_call_returned`, `no_more_body_runs_once_stored`,
        `failing_calls_always_run_body_until_first_write`, `hit_only_after_write`,
        `all_failing_calls_run_body`, `body_runs_eq_missed_lookups`          — `ConcCalls.Plain cfg`
        (no limit, no memory bound, no TTL; callers only call)
    (d) `deterministic_instance`                                             — model sanity
  Nothing is partial.  Helper lemmas: `Cachelito/Lemmas/ConcCallsR.lean`.
  The hypothetical variant `discard = true` ("discard on Err") of the model is used only in two of the closing
  examples, which show that (c) fails for it.
-/
import Cachelito.Lemmas.ConcCallsR

namespace Cachelito.C09c
open Cachelito Cachelito.ConcData Cachelito.ConcCallsR

variable {K V S : Type} [DecidableEq K]

/-! ## (a) A non-storing call only looks up -/

/-- **A call whose result is not stored (`Err` / rejected) performs exactly the micro-steps of the engine
    operation `get k`** — on ANY shared state `s` (so: at every point of every interleaving), for any caller
    `c` whose current call is `(k, rs, v, false)`:
    * while it is in its lookup (local engine state `p`), its step exists, changes the shared state exactly
      as `ConcData.micro … (.get k) rs p` does — it IS the step (`ConcData.tstep`) of a thread running the
      program `[.get k]` with local state `p` — and logs no store-write event;
    * once the lookup has missed and the body has run, its only remaining step is the return: the shared
      state is untouched and the only event is `fail k v`. -/
theorem nonstoring_call_is_lookup_only (mem : Bool) (cfg : Cfg) (tl : Tlru S) (size : V → Nat) (s : State K V)
    (c : Caller K V) (k : K) (rs : List Nat) (v : V) (rest : List (Call K V))
    (hc : c.calls = (k, rs, v, false) :: rest) :
    (∀ p, c.stage = .lookup p →
      ∃ t' c' evs,
        tstep false cfg tl size s ⟨[(.get k, rs)], p, []⟩ = some ((micro false cfg tl size s (.get k) rs p).1, t') ∧
        callerStep false mem cfg tl size s c = some ((micro false cfg tl size s (.get k) rs p).1, c', evs) ∧
        (∀ k', Ev.write k' ∉ evs) ∧
        -- the lookup goes on / is served / has missed (then the body has run and only the return is left)
        ((∃ p', t'.pend = some p' ∧ c' = { c with stage := .lookup (some p') }) ∨
         (∃ op w, t'.done = [(op, .val (some w))] ∧ c'.calls = rest ∧ Ev.ret k w false ∈ evs) ∨
         (t'.prog = [] ∧ c' = { c with stage := .store none, bodies := c.bodies ++ [k] } ∧ Ev.body k ∈ evs))) ∧
    (∀ p, c.stage = .store p →
      callerStep false mem cfg tl size s c
        = some (s, { calls := rest, stage := .lookup none, bodies := c.bodies, rets := c.rets ++ [(k, v)] },
                [.fail k v])) := by
  refine ⟨fun p hst => ?_, fun p hst => callerStep_iff.mpr (.failed hc hst)⟩
  -- a store-write is logged only by a caller whose current call stores
  have hnw : ∀ {s' c' evs}, CallerStep mem cfg tl size s c (s', c', evs) → ∀ k', Ev.write k' ∉ evs := by
    intro s' c' evs H k' hk'
    obtain ⟨_, _, _, hc'⟩ := (callerStep_calls H).2 k' hk'
    cases hc.symm.trans hc'
  obtain ⟨t', ht, hcase⟩ := tstep_cons false cfg tl size s (.get k) rs [] p []
  cases hm : micro false cfg tl size s (.get k) rs p with
  | mk s' res =>
    rw [hm] at ht hcase
    cases res with
    | more p' =>
      rcases hcase with ⟨_, hr, rfl⟩ | ⟨_, _, hr, _⟩ <;> cases hr
      have H := CallerStep.lookMore (mem := mem) hc hst hm
      exact ⟨_, _, _, ht, callerStep_iff.mpr H, hnw H, Or.inl ⟨p', rfl, rfl⟩⟩
    | fin op o =>
      rcases hcase with ⟨_, hr, _⟩ | ⟨_, _, hr, rfl⟩ <;> cases hr
      by_cases ho : ∃ w, o = .val (some w)
      · obtain ⟨w, rfl⟩ := ho
        have H := CallerStep.served (mem := mem) hc hst hm
        exact ⟨_, _, _, ht, callerStep_iff.mpr H, hnw H, Or.inr (Or.inl ⟨op, w, rfl, rfl, List.mem_cons_self⟩)⟩
      · have H := CallerStep.missed (mem := mem) hc hst hm (fun w hw => ho ⟨w, hw⟩)
        exact ⟨_, _, _, ht, callerStep_iff.mpr H, hnw H, Or.inr (Or.inr ⟨rfl, rfl, List.mem_cons_self⟩)⟩

/-- **System form of (a), for every state and every caller**: let caller `i` of ANY call-level state `c` be
    in a call whose result is not stored.  In the interleaving model `ConcData` (on the state `c` IS:
    `c.cstate`), thread `i` is then a thread running `[.get k]` (in its lookup) or a thread with nothing to
    do (about to return).  Its next step exists; in the lookup it is the `ConcData.cstep` of thread `i`
    (same new shared state), otherwise `ConcData` has no step for it and the shared state is untouched; in
    both cases no store-write event is added to the log. -/
theorem nonstoring_step_is_get_step (mem : Bool) (cfg : Cfg) (tl : Tlru S) (size : V → Nat) (c : CallState K V)
    (i : Nat) (x : Caller K V) (k : K) (rs : List Nat) (v : V) (rest : List (Call K V))
    (hx : c.callers[i]? = some x) (hc : x.calls = (k, rs, v, false) :: rest) :
    ((∃ p, x.stage = .lookup p ∧ (c.cstate mem).threads[i]? = some ⟨[(.get k, rs)], p, []⟩) ∨
     (∃ p, x.stage = .store p ∧ (c.cstate mem).threads[i]? = some ⟨[], none, []⟩)) ∧
    ∃ c', callStep false mem cfg tl size c i = some c' ∧
      (∀ p, x.stage = .lookup p →
        c'.shared = (micro false cfg tl size c.shared (.get k) rs p).1 ∧
        ∃ d, cstep cfg tl size (c.cstate mem) i = some d ∧ d.shared = c'.shared) ∧
      (∀ p, x.stage = .store p →
        c'.shared = c.shared ∧ cstep cfg tl size (c.cstate mem) i = none ∧ c'.log = .fail k v :: c.log) ∧
      (∀ k', Ev.write k' ∈ c'.log → Ev.write k' ∈ c.log) := by
  have hth := cstate_thread mem hx
  have hstep : ∀ {r}, callerStep false mem cfg tl size c.shared x = some r →
      callStep false mem cfg tl size c i = some ⟨r.1, c.callers.set i r.2.1, r.2.2 ++ c.log⟩ :=
    fun h => by simp only [callStep, hx, h]
  cases hst : x.stage with
  | lookup p =>
    obtain ⟨t', x', evs, h1, h2, hw, _⟩ := (nonstoring_call_is_lookup_only mem cfg tl size c.shared x k rs v rest hc).1 p hst
    refine ⟨Or.inl ⟨p, rfl, ?_⟩, _, hstep h2, ?_, ?_, ?_⟩
    · rw [hth]; simp only [Caller.thread, hc, hst]
    · intro p' hp'
      cases hp'
      refine ⟨rfl, ⟨(micro false cfg tl size c.shared (.get k) rs p).1, (c.cstate mem).threads.set i t'⟩, ?_, rfl⟩
      rw [cstep_cstate mem hx]
      simp only [Caller.thread, hc, hst]
      rw [h1]; rfl
    · intro p' hp'; cases hp'
    · intro k' hk'
      rcases List.mem_append.mp hk' with hk' | hk'
      · exact absurd hk' (hw k')
      · exact hk'
  | store p =>
    refine ⟨Or.inr ⟨p, rfl, ?_⟩, _, hstep (callerStep_iff.mpr (.failed hc hst)), ?_, ?_, ?_⟩
    · rw [hth]; simp [Caller.thread, hc, hst]
    · intro p' hp'; cases hp'
    · intro p' _
      refine ⟨rfl, ?_, rfl⟩
      rw [cstep_cstate mem hx]
      simp only [Caller.thread, hc, hst, Bool.false_eq_true, if_false]
      rfl
    · intro k' hk'
      rcases List.mem_append.mp hk' with hk' | hk'
      · simp at hk'
      · exact hk'

/-- **Every step of the call-level system is a step of the interleaving model `ConcData`** by the same
    thread on the state the call-level state is — so every invariant of `ConcData` runs (C18: bounds,
    store/queue consistency, …) holds for the shared cache at every point of every call-level run — or it is
    the return of a non-storing call, which leaves the shared cache untouched. -/
theorem every_step_is_an_engine_step (mem : Bool) (cfg : Cfg) (tl : Tlru S) (size : V → Nat)
    (c c' : CallState K V) (i : Nat) (h : callStep false mem cfg tl size c i = some c') :
    (∃ d, cstep cfg tl size (c.cstate mem) i = some d ∧ d.shared = c'.shared) ∨
    (cstep cfg tl size (c.cstate mem) i = none ∧ c'.shared = c.shared ∧ ∃ k v, c'.log = Ev.fail k v :: c.log) := by
  obtain ⟨x, x', s', evs, l1, l2, hx, _, hstep, rfl⟩ := callStep_cases h
  rw [cstep_cstate mem hx]
  rcases callerStep_thread hstep with ⟨t', ht⟩ | ⟨ht, rfl, k, v, rfl⟩
  · exact Or.inl ⟨_, by rw [ht]; rfl, rfl⟩
  · exact Or.inr ⟨by rw [ht]; rfl, rfl, k, v, rfl⟩

/-- **Only storing calls write**: under any schedule, a store-write of `k` has executed only if some call
    for `k` with `st = true` is among the calls of the callers.  (So if every call for `k` fails, nothing is
    ever written for `k`.) -/
theorem writes_come_from_storing_calls (mem : Bool) (cfg : Cfg) (tl : Tlru S) (size : V → Nat) (s0 : State K V)
    (callss : List (List (Call K V))) (sch : List ThreadId) (k : K)
    (hw : Ev.write k ∈ (callRunR mem cfg tl size sch (CallState.start s0 callss)).log) :
    ∃ calls, calls ∈ callss ∧ ∃ y, y ∈ calls ∧ y.1 = k ∧ y.2.2.2 = true := by
  obtain ⟨y, hy, hk, hst⟩ := (writeInv_run mem cfg tl size s0 callss sch).writes k hw
  obtain ⟨calls, hcs, hyc⟩ := List.mem_flatten.mp hy
  exact ⟨calls, hcs, y, hyc, hk, hst⟩

/-! ## (b) What is stored and what is served comes from storing calls — ANY configuration -/

/-- **Served values come from storing calls.**  For ANY configuration (limit, memory bound, TTL, policy,
    engine), any callers and any schedule: if every pair of the initial store satisfies `P` and every call
    whose result is stored (`st = true`) produces a value satisfying `P`, then at every point every stored
    pair satisfies `P` and every value a call was SERVED from the cache (`ret k w false`) satisfies `P` — and
    so does every value returned by a storing call. -/
theorem served_values_come_from_storing_calls (P : K → V → Prop) (mem : Bool) (cfg : Cfg) (tl : Tlru S)
    (size : V → Nat) (s0 : State K V) (callss : List (List (Call K V))) (sch : List ThreadId)
    (hs0 : ∀ k e, (k, e) ∈ s0.store → P k e.val)
    (hcalls : ∀ calls, calls ∈ callss → ∀ x, x ∈ calls → x.2.2.2 = true → P x.1 x.2.2.1) :
    (∀ k e, (k, e) ∈ (callRunR mem cfg tl size sch (CallState.start s0 callss)).shared.store → P k e.val) ∧
    (∀ k w, Ev.ret k w false ∈ (callRunR mem cfg tl size sch (CallState.start s0 callss)).log → P k w) ∧
    (∀ k w, Ev.ret k w true ∈ (callRunR mem cfg tl size sch (CallState.start s0 callss)).log → P k w) := by
  have hi := callRun_P mem cfg tl size sch _ (invP_start (P := P) s0 callss hs0 hcalls)
  exact ⟨hi.store, fun k w h => hi.log k w false h, fun k w h => hi.log k w true h⟩

/-- **An `Err` is never served, under any interleaving.**  `ok : V → Bool` classifies the results (`is_ok()`;
    with `cache_if`: any property the predicate guarantees).  If the wrapper stores only `ok` results
    (`st = true → ok v`; for a `Result` function without `cache_if`, `st = ok v`) and the initial store holds
    only `ok` values, then at every point the store holds only `ok` values and no call is ever served a
    value that is not `ok` — for every configuration, both engines, plain and memory-aware store. -/
theorem err_never_served (ok : V → Bool) (mem : Bool) (cfg : Cfg) (tl : Tlru S)
    (size : V → Nat) (s0 : State K V) (callss : List (List (Call K V))) (sch : List ThreadId)
    (hs0 : ∀ k e, (k, e) ∈ s0.store → ok e.val = true)
    (hcalls : ∀ calls, calls ∈ callss → ∀ x, x ∈ calls → x.2.2.2 = true → ok x.2.2.1 = true) :
    (∀ k e, (k, e) ∈ (callRunR mem cfg tl size sch (CallState.start s0 callss)).shared.store → ok e.val = true) ∧
    (∀ k w, Ev.ret k w false ∈ (callRunR mem cfg tl size sch (CallState.start s0 callss)).log → ok w = true) := by
  have h := served_values_come_from_storing_calls (fun _ v => ok v = true) mem cfg tl size s0 callss sch hs0 hcalls
  exact ⟨h.1, h.2.1⟩

/-- the same for `V = Except ε α` (Rust `Result`), from the empty cache, with `st = is_ok()`: no call is
    ever served an `Err`, and no `Err` is ever in the store -/
theorem err_never_served_except {ε α : Type} (mem : Bool) (cfg : Cfg) (tl : Tlru S)
    (size : Except ε α → Nat) (callss : List (List (Call K (Except ε α)))) (sch : List ThreadId)
    (hcalls : ∀ calls, calls ∈ callss → ∀ x, x ∈ calls → x.2.2.2 = x.2.2.1.toBool) (k : K) (err : ε) :
    Ev.ret k (.error err) false ∉ (callRunR mem cfg tl size sch (CallState.init callss)).log ∧
    ∀ e, (k, e) ∈ (callRunR mem cfg tl size sch (CallState.init callss)).shared.store → e.val ≠ .error err := by
  have h := err_never_served (K := K) (fun v : Except ε α => v.toBool) mem cfg tl size State.init callss sch
    (by intro k e he; cases he)
    (by intro calls hc x hx hst; rw [← hcalls calls hc x hx]; exact hst)
  refine ⟨?_, ?_⟩
  · intro hm
    have := h.2 k _ hm
    simp [Except.toBool] at this
  · intro e he heq
    have := h.1 k e he
    rw [heq] at this
    simp [Except.toBool] at this

/-- **A served value was produced by a storing call for the same key** (or was in the cache at the start):
    whatever is served for `k` is the outcome `v` of some call `(k, _, v, true)` of some caller — never the
    outcome of a failing / rejected call. -/
theorem served_value_was_produced_by_a_storing_call (mem : Bool) (cfg : Cfg) (tl : Tlru S)
    (size : V → Nat) (s0 : State K V) (callss : List (List (Call K V))) (sch : List ThreadId) (k : K) (w : V)
    (h : Ev.ret k w false ∈ (callRunR mem cfg tl size sch (CallState.start s0 callss)).log) :
    (∃ e, (k, e) ∈ s0.store ∧ e.val = w) ∨
    (∃ calls, calls ∈ callss ∧ ∃ x, x ∈ calls ∧ x.1 = k ∧ x.2.2.1 = w ∧ x.2.2.2 = true) := by
  exact (served_values_come_from_storing_calls
    (fun k w => (∃ e, (k, e) ∈ s0.store ∧ e.val = w) ∨
      (∃ calls, calls ∈ callss ∧ ∃ x, x ∈ calls ∧ x.1 = k ∧ x.2.2.1 = w ∧ x.2.2.2 = true))
    mem cfg tl size s0 callss sch
    (fun k e he => Or.inl ⟨e, he, rfl⟩)
    (fun calls hc x hx hst => Or.inr ⟨calls, hc, x, hx, rfl, rfl, hst⟩)).2.1 k w h

/-! ## (c) Plain configuration: the first stored Ok stays and is served -/

/-- **A stored Ok stays**: once the store-write micro-step of a storing call for `k` has executed
    (`write k` in the log after `sch₁`), `k` is stored at that point and after every further schedule `sch₂`
    — whatever the other callers (failing or not) do — and every lookup of `k` whose read executes after
    that write finds it: no missed lookup of `k` and no body run for `k` is logged after a `write k`. -/
theorem stored_ok_stays (mem : Bool) (cfg : Cfg) (hp : ConcCalls.Plain cfg) (tl : Tlru S) (size : V → Nat)
    (s0 : State K V) (callss : List (List (Call K V))) (sch₁ sch₂ : List ThreadId) (k : K)
    (hw : Ev.write k ∈ (callRunR mem cfg tl size sch₁ (CallState.start s0 callss)).log) :
    k ∈ keys (callRunR mem cfg tl size sch₁ (CallState.start s0 callss)).shared.store ∧
    k ∈ keys (callRunR mem cfg tl size sch₂
      (callRunR mem cfg tl size sch₁ (CallState.start s0 callss))).shared.store ∧
    ∀ later earlier,
      (callRunR mem cfg tl size sch₂ (callRunR mem cfg tl size sch₁ (CallState.start s0 callss))).log
        = later ++ Ev.write k :: earlier →
      Ev.read k false ∉ later ∧ Ev.body k ∉ later := by
  have h1 := plainInv_run hp mem tl size s0 callss sch₁
  have hk := h1.call.logInv.written k hw
  exact ⟨hk, (callRun_stable hp mem tl size sch₂ h1 hk).1,
    fun later earlier hl => (callRun_inv hp mem tl size sch₂ h1).call.logInv.after later earlier k hl⟩

/-- **Never again once an Ok-storing call has returned**: after the return of a call for `k` that ran the
    body and stored its result (`ret k v true`), `k` is in the store, no lookup of `k` misses and no body
    runs for `k` — so every call that STARTS after that return is served from the cache — WHATEVER calls
    with `st = false` (Err / rejected) run concurrently, missed before and finish later: their return does
    not touch the cache. -/
theorem no_body_after_ok_storing_call_returned (mem : Bool) (cfg : Cfg) (hp : ConcCalls.Plain cfg) (tl : Tlru S)
    (size : V → Nat) (s0 : State K V) (callss : List (List (Call K V))) (sch : List ThreadId)
    (k : K) (v : V) (later earlier : List (Ev K V))
    (hlog : (callRunR mem cfg tl size sch (CallState.start s0 callss)).log = later ++ Ev.ret k v true :: earlier) :
    Ev.read k false ∉ later ∧ Ev.body k ∉ later ∧
    k ∈ keys (callRunR mem cfg tl size sch (CallState.start s0 callss)).shared.store := by
  have hg := (plainInv_run hp mem tl size s0 callss sch).good
  have hh := hlog ▸ hg.hist
  have hw : Ev.write k ∈ Ev.ret k v true :: earlier := List.mem_cons_of_mem _ (Hist.split hh)
  obtain ⟨h1, h2⟩ := hh.never_after (Or.inr hw)
  exact ⟨h1, h2, (hg.stored k).mpr (Or.inr (hlog ▸ List.mem_append_right _ hw))⟩

/-- **State form of "never again"**: from any reachable point at which `k` is in the store, no further
    schedule runs the body for `k` — the number of body runs for `k` does not change any more, whatever outcomes (`Err`
    included) the remaining calls for `k` carry. -/
theorem no_more_body_runs_once_stored (mem : Bool) (cfg : Cfg) (hp : ConcCalls.Plain cfg) (tl : Tlru S)
    (size : V → Nat) (s0 : State K V) (callss : List (List (Call K V))) (sch₁ sch₂ : List ThreadId) (k : K)
    (hk : k ∈ keys (callRunR mem cfg tl size sch₁ (CallState.start s0 callss)).shared.store) :
    totalBodies k (callRunR mem cfg tl size sch₂
        (callRunR mem cfg tl size sch₁ (CallState.start s0 callss))).callers
      = totalBodies k (callRunR mem cfg tl size sch₁ (CallState.start s0 callss)).callers :=
  (callRun_stable hp mem tl size sch₂ (plainInv_run hp mem tl size s0 callss sch₁) hk).2

/-- in the plain configuration the body runs for `k` exactly as often as a lookup of `k` missed (and every
    body run is logged: `body k`) -/
theorem body_runs_eq_missed_lookups (mem : Bool) (cfg : Cfg) (hp : ConcCalls.Plain cfg) (tl : Tlru S)
    (size : V → Nat) (s0 : State K V) (callss : List (List (Call K V))) (sch : List ThreadId) (k : K) :
    totalBodies k (callRunR mem cfg tl size sch (CallState.start s0 callss)).callers
      = (callRunR mem cfg tl size sch (CallState.start s0 callss)).log.countP (isBody k) ∧
    (callRunR mem cfg tl size sch (CallState.start s0 callss)).log.countP (isBody k)
      = (callRunR mem cfg tl size sch (CallState.start s0 callss)).log.countP (isMiss k) := by
  have hi := (plainInv_run hp mem tl size s0 callss sch).call
  exact ⟨hi.bodies k, hi.paired k⟩

/-- **A lookup finds `k` only after a store-write of `k`** (when `k` was not in the cache at the start), and a
    call is served only after such a successful lookup. -/
theorem hit_only_after_write (mem : Bool) (cfg : Cfg) (hp : ConcCalls.Plain cfg) (tl : Tlru S)
    (size : V → Nat) (s0 : State K V) (callss : List (List (Call K V))) (sch : List ThreadId) (k : K)
    (hk0 : k ∉ keys s0.store) (later earlier : List (Ev K V)) :
    ((callRunR mem cfg tl size sch (CallState.start s0 callss)).log = later ++ Ev.read k true :: earlier →
      Ev.write k ∈ earlier) ∧
    (∀ w, (callRunR mem cfg tl size sch (CallState.start s0 callss)).log = later ++ Ev.ret k w false :: earlier →
      Ev.read k true ∈ earlier ∧ Ev.write k ∈ earlier) := by
  have hg := (plainInv_run hp mem tl size s0 callss sch).good
  refine ⟨fun hl => (Hist.split (e := .read k true) (hl ▸ hg.hist)).resolve_left hk0, fun w hl => ?_⟩
  have hh : Hist _ (Ev.ret k w false :: earlier) := Hist.suffix (hl ▸ hg.hist)
  refine ⟨hh.1, ?_⟩
  obtain ⟨e1, e2, rfl⟩ := List.append_of_mem hh.1
  exact List.mem_append_right _ (List.mem_cons_of_mem _ ((Hist.split hh.2).resolve_left hk0))

/-- **Failing calls always run the body until the first write**: `k` not in the cache at the start.  While no
    store-write of `k` has executed — e.g. while every call for `k` so far has failed — `k` is not stored,
    every lookup of `k` that has executed missed, no call for `k` was served from the cache, and the body ran
    once for every lookup of `k`: every (failing) call for `k` ran the body again. -/
theorem failing_calls_always_run_body_until_first_write (mem : Bool) (cfg : Cfg) (hp : ConcCalls.Plain cfg)
    (tl : Tlru S) (size : V → Nat) (s0 : State K V) (callss : List (List (Call K V))) (sch : List ThreadId) (k : K)
    (hk0 : k ∉ keys s0.store)
    (hnw : Ev.write k ∉ (callRunR mem cfg tl size sch (CallState.start s0 callss)).log) :
    k ∉ keys (callRunR mem cfg tl size sch (CallState.start s0 callss)).shared.store ∧
    Ev.read k true ∉ (callRunR mem cfg tl size sch (CallState.start s0 callss)).log ∧
    (∀ w, Ev.ret k w false ∉ (callRunR mem cfg tl size sch (CallState.start s0 callss)).log) ∧
    totalBodies k (callRunR mem cfg tl size sch (CallState.start s0 callss)).callers
      = (callRunR mem cfg tl size sch (CallState.start s0 callss)).log.countP (isRead k) := by
  obtain ⟨hg, hi⟩ := plainInv_run hp mem tl size s0 callss sch
  have hnr : Ev.read k true ∉ (callRunR mem cfg tl size sch (CallState.start s0 callss)).log := by
    intro hm
    obtain ⟨l1, l2, hl⟩ := List.append_of_mem hm
    refine (Hist.split (e := .read k true) (hl ▸ hg.hist)).elim hk0 fun h => hnw ?_
    rw [hl]; exact List.mem_append_right _ (List.mem_cons_of_mem _ h)
  refine ⟨fun hk => ((hg.stored k).mp hk).elim hk0 hnw, hnr, fun w hm => ?_, ?_⟩
  · obtain ⟨l1, l2, hl⟩ := List.append_of_mem hm
    apply hnr
    rw [hl]
    exact List.mem_append_right _ (List.mem_cons_of_mem _ (Hist.split (e := .ret k w false) (hl ▸ hg.hist)))
  · rw [hi.bodies k, hi.paired k]
    exact countP_isMiss_eq_isRead k _ hnr

/-- **If every call for `k` fails, every call for `k` runs the body** (C09: "every call that fails runs the
    body again"; C10: a rejected result is not served to the next call): when no call for `k` is a storing
    call and `k` is not in the cache at the start, then under every schedule `k` is never stored, no call
    for `k` is served, and the body ran once for every lookup of `k`. -/
theorem all_failing_calls_run_body (mem : Bool) (cfg : Cfg) (hp : ConcCalls.Plain cfg)
    (tl : Tlru S) (size : V → Nat) (s0 : State K V) (callss : List (List (Call K V))) (sch : List ThreadId) (k : K)
    (hk0 : k ∉ keys s0.store)
    (hfail : ∀ calls, calls ∈ callss → ∀ y, y ∈ calls → y.1 = k → y.2.2.2 = false) :
    k ∉ keys (callRunR mem cfg tl size sch (CallState.start s0 callss)).shared.store ∧
    (∀ w, Ev.ret k w false ∉ (callRunR mem cfg tl size sch (CallState.start s0 callss)).log) ∧
    totalBodies k (callRunR mem cfg tl size sch (CallState.start s0 callss)).callers
      = (callRunR mem cfg tl size sch (CallState.start s0 callss)).log.countP (isRead k) := by
  have hnw : Ev.write k ∉ (callRunR mem cfg tl size sch (CallState.start s0 callss)).log := by
    intro hw
    obtain ⟨calls, hc, y, hy, hyk, hst⟩ := writes_come_from_storing_calls mem cfg tl size s0 callss sch k hw
    rw [hfail calls hc y hy hyk] at hst
    cases hst
  obtain ⟨h1, _, h3, h4⟩ :=
    failing_calls_always_run_body_until_first_write mem cfg hp tl size s0 callss sch k hk0 hnw
  exact ⟨h1, h3, h4⟩

/-! ## (d) Model sanity: the deterministic, always-storing instance is `ConcCalls` -/

/-- **With `v = f k` and `st = true` for all calls the model coincides with `ConcCalls.callRun`** (the model
    behind C03's concurrent clause): same shared cache state, same callers (remaining calls, stage, body
    runs, returned values), same log up to the events `ConcCalls` does not have (`body`, `fail`). -/
theorem deterministic_instance (f : K → V) (cfg : Cfg) (tl : Tlru S) (size : V → Nat) (s0 : State K V)
    (callss : List (List (K × List Nat))) (sch : List ThreadId) :
    (callRunR false cfg tl size sch (CallState.start s0 (callss.map (detCalls f)))).toCalls
      = ConcCalls.callRun f cfg tl size sch (ConcCalls.CallState.start s0 callss) ∧
    (callRunR false cfg tl size sch (CallState.start s0 (callss.map (detCalls f)))).shared
      = (ConcCalls.callRun f cfg tl size sch (ConcCalls.CallState.start s0 callss)).shared ∧
    (callRunR false cfg tl size sch (CallState.start s0 (callss.map (detCalls f)))).log.filterMap Ev.toCalls?
      = (ConcCalls.callRun f cfg tl size sch (ConcCalls.CallState.start s0 callss)).log := by
  obtain ⟨h1, h2⟩ := start_det f s0 callss
  have h := (callRun_det f cfg tl size sch _ h2).1
  rw [h1] at h
  exact ⟨h, by rw [← h]; rfl, by rw [← h]; rfl⟩

/-! ## Non-vacuity -/

def exTl : Tlru Nat := ⟨fun a b => decide (a < b), fun _ h _ r => h * r⟩
def cfgSync : Cfg := ⟨.global, .lru, none, none, none⟩
def cfgAsync : Cfg := ⟨.async, .lru, none, none, none⟩

/-- caller A (0): key 1, the body produces `100` = Ok, stored.  caller B (1): key 1, the body produces `7` =
    Err, not stored.  caller C (2): key 1 (would produce `300`, stored — but it is served). -/
def abc : List (List (Call Nat Nat)) := [[(1, [], 100, true)], [(1, [], 7, false)], [(1, [], 300, true)]]

/-- `Ok` = at least 100 -/
def exOk (v : Nat) : Bool := decide (100 ≤ v)

/-- readable form of an event: read 0 / body 1 / write 2 / ret 3 / fail 4 / erase 5 -/
def Ev.code : Ev Nat Nat → Nat × Nat × Nat
  | .read k b => (0, k, if b then 1 else 0)
  | .body k => (1, k, 0)
  | .write k => (2, k, 0)
  | .ret k v b => (3, k, v * 2 + (if b then 1 else 0))
  | .fail k v => (4, k, v)
  | .erase k => (5, k, 0)

/-- the hypotheses of (b) hold for this instance: the wrapper stores exactly the Ok results -/
example : ∀ calls, calls ∈ abc → ∀ x, x ∈ calls → x.2.2.2 = exOk x.2.2.1 := by decide

/-- sync engine, the schedule "B misses; A misses, stores Ok, returns; B's Err finishes; C is served":
    chronological log  B:read-miss, B:body, A:read-miss, A:body, A:write, A:ret(100, stored), B:fail(7),
    C:read-hit, C:ret(100, served).  Two body runs (A, B), none for C; C is served A's Ok, not B's Err and not
    its own outcome; the cache holds key 1 with value 100. -/
example :
    allReturnedB (callRunR false cfgSync exTl (fun _ => 0) [1, 0, 0, 0, 1, 2, 2] (CallState.init abc)) = true ∧
    totalBodies 1 (callRunR false cfgSync exTl (fun _ => 0) [1, 0, 0, 0, 1, 2, 2] (CallState.init abc)).callers = 2 ∧
    (callRunR false cfgSync exTl (fun _ => 0) [1, 0, 0, 0, 1, 2, 2] (CallState.init abc)).callers.map (·.rets)
      = [[(1, 100)], [(1, 7)], [(1, 100)]] ∧
    (callRunR false cfgSync exTl (fun _ => 0) [1, 0, 0, 0, 1, 2, 2] (CallState.init abc)).callers.map (·.bodies)
      = [[1], [1], []] ∧
    (callRunR false cfgSync exTl (fun _ => 0) [1, 0, 0, 0, 1, 2, 2] (CallState.init abc)).log.reverse.map Ev.code
      = [(0, 1, 0), (1, 1, 0), (0, 1, 0), (1, 1, 0), (2, 1, 0), (3, 1, 201), (4, 1, 7), (0, 1, 1), (3, 1, 200)] ∧
    (callRunR false cfgSync exTl (fun _ => 0) [1, 0, 0, 0, 1, 2, 2] (CallState.init abc)).shared.store.map
        (fun p => (p.1, p.2.val)) = [(1, 100)] := by
  decide +kernel

/-- async engine, the same story (the store is one micro-step; no bound is configured, so the LRU hit is a
    single micro-step as well) -/
example :
    allReturnedB (callRunR false cfgAsync exTl (fun _ => 0) [1, 0, 0, 1, 2] (CallState.init abc)) = true ∧
    totalBodies 1 (callRunR false cfgAsync exTl (fun _ => 0) [1, 0, 0, 1, 2] (CallState.init abc)).callers = 2 ∧
    (callRunR false cfgAsync exTl (fun _ => 0) [1, 0, 0, 1, 2] (CallState.init abc)).callers.map (·.rets)
      = [[(1, 100)], [(1, 7)], [(1, 100)]] ∧
    (callRunR false cfgAsync exTl (fun _ => 0) [1, 0, 0, 1, 2] (CallState.init abc)).log.reverse.map Ev.code
      = [(0, 1, 0), (1, 1, 0), (0, 1, 0), (1, 1, 0), (2, 1, 0), (3, 1, 201), (4, 1, 7), (0, 1, 1), (3, 1, 200)] := by
  decide +kernel

/-- memory-aware store (`insert_with_memory`), sync engine: same log -/
example :
    (callRunR true cfgSync exTl (fun _ => 0) [1, 0, 0, 0, 1, 2, 2] (CallState.init abc)).log.reverse.map Ev.code
      = [(0, 1, 0), (1, 1, 0), (0, 1, 0), (1, 1, 0), (2, 1, 0), (3, 1, 201), (4, 1, 7), (0, 1, 1), (3, 1, 200)] := by
  decide +kernel

/-- all calls fail (three callers, key 1, `Err`): three lookups, three body runs, nothing stored, nobody served -/
example :
    totalBodies 1 (callRunR false cfgSync exTl (fun _ => 0) [0, 1, 0, 2, 1, 2]
      (CallState.init [[(1, [], 7, false)], [(1, [], 8, false)], [(1, [], 9, false)]])).callers = 3 ∧
    (callRunR false cfgSync exTl (fun _ => 0) [0, 1, 0, 2, 1, 2]
      (CallState.init [[(1, [], 7, false)], [(1, [], 8, false)], [(1, [], 9, false)]])).shared.store.length = 0 ∧
    (callRunR false cfgSync exTl (fun _ => 0) [0, 1, 0, 2, 1, 2]
      (CallState.init [[(1, [], 7, false)], [(1, [], 8, false)], [(1, [], 9, false)]])).callers.map (·.rets)
      = [[(1, 7)], [(1, 8)], [(1, 9)]] := by
  decide +kernel

/-- **The conclusion of `no_body_after_ok_storing_call_returned` FAILS for the hypothetical "discard on Err"
    variant** (`discard = true`: a failing call removes the entry of its key when it finishes).  Same callers,
    same schedule: B's late Err erases A's Ok, so C — which starts after A has returned — misses and runs the
    body (three body runs; a `body 1` event is logged AFTER `ret 1 100 true`).
    Chronological log: B:read-miss, B:body, A:read-miss, A:body, A:write, A:ret(100, stored), B:erase,
    B:fail(7), C:read-MISS, C:body, C:write, C:ret(300, stored). -/
example :
    totalBodies 1 (callRunWith true false cfgSync exTl (fun _ => 0) [1, 0, 0, 0, 1, 2, 2, 2]
      (CallState.init abc)).callers = 3 ∧
    (callRunWith true false cfgSync exTl (fun _ => 0) [1, 0, 0, 0, 1, 2, 2, 2] (CallState.init abc)).log.reverse.map Ev.code
      = [(0, 1, 0), (1, 1, 0), (0, 1, 0), (1, 1, 0), (2, 1, 0), (3, 1, 201), (5, 1, 0), (4, 1, 7),
         (0, 1, 0), (1, 1, 0), (2, 1, 0), (3, 1, 601)] ∧
    (callRunWith true false cfgSync exTl (fun _ => 0) [1, 0, 0, 0, 1, 2, 2, 2] (CallState.init abc)).callers.map (·.rets)
      = [[(1, 100)], [(1, 7)], [(1, 300)]] := by
  decide +kernel

/-- the same refutation, literally: in the "discard on Err" variant the log splits as
    `later ++ ret 1 100 true :: earlier` with a body run for key 1 (and a missed lookup of key 1) in `later` —
    the negation of the conclusion of `no_body_after_ok_storing_call_returned` -/
example :
    ∃ later earlier,
      (callRunWith true false cfgSync exTl (fun _ => 0) [1, 0, 0, 0, 1, 2, 2, 2] (CallState.init abc)).log
        = later ++ Ev.ret 1 100 true :: earlier ∧
      Ev.body 1 ∈ later ∧ Ev.read 1 false ∈ later :=
  ⟨[.ret 1 300 true, .write 1, .body 1, .read 1 false, .fail 1 7, .erase 1],
   [.write 1, .body 1, .read 1 false, .body 1, .read 1 false], by decide +kernel⟩

/-- whereas in the real wrapper (same callers, same schedule) nothing but C's hit follows A's return -/
example :
    (callRunR false cfgSync exTl (fun _ => 0) [1, 0, 0, 0, 1, 2, 2, 2] (CallState.init abc)).log
      = [.ret 1 100 false, .read 1 true, .fail 1 7] ++ Ev.ret 1 100 true ::
        [.write 1, .body 1, .read 1 false, .body 1, .read 1 false] := by
  decide +kernel

end Cachelito.C09c
