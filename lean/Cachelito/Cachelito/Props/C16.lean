/-
  C16 — No cache operation panics, for any configuration and history.

  The model's operations are total Lean functions; what can panic in the Rust code is a short list of
  primitive operations, each with a side condition.  This file proves every side condition in every
  reachable state (or for every branch outcome, for the `RefCell` discipline):

    (a) `fastrand::usize(..len)` needs `len > 0`; `VecDeque::remove(pos)` must return `Some`:
        the Random arm's index is in range whenever the queue is non-empty, and a non-empty queue always
        yields a victim.
    (b) `total_len - idx` (`usize` subtraction in the ARC/TLRU scans) needs `idx ≤ total_len`.
    (c) `RefCell` borrows of the thread-local cache never conflict (and the pre-fix code DID conflict):
        here for the hand-written traces of `Cachelito/Borrow.lean`; for the borrow nestings extracted from
        the current source, `Props/C16s.lean`.
    (d) the estimator's unchecked subtractions: `Cachelito.C05a.builtin_never_underflows`.
    (e) every eviction loop terminates: `Cachelito.C05.memLoop_fuel_independent`.
  Not modelled (DESIGN.md §9): allocation failure, `usize` overflow of memory sums, panics in user code.
-/
import Cachelito.Lemmas.Inv
import Cachelito.Borrow

namespace Cachelito.C16
open Cachelito Cachelito.Borrow
variable {K V S : Type} [DecidableEq K]

set_option linter.unusedSectionVars false in
/-- (a) The random draw is a valid index: `pos = r % len < len` whenever the queue is non-empty, so
    `fastrand::usize(..len)` has a non-empty range and `order.remove(pos)` returns `Some`. -/
theorem random_index_in_range (r : Nat) (q : List K) (h : q ≠ []) :
    r % q.length < q.length ∧ ∃ k, q[r % q.length]? = some k := by
  have hl : 0 < q.length := List.length_pos_iff.mpr h
  have hlt := Nat.mod_lt r hl
  exact ⟨hlt, q[r % q.length], by simp [hlt]⟩

/-- (a) With a non-empty queue the Random arm always evicts (it never falls through the `if let`). -/
theorem random_evicts_of_nonempty (r : Nat) (m : Store K V) (q : List K) (h : q ≠ []) :
    (evictRandom r m q).2.2 = true := by
  obtain ⟨_, k, hk⟩ := random_index_in_range r q h
  simp [evictRandom, hk]

/-- (a) On the empty queue the Random arm is guarded (`!order.is_empty()`): nothing is drawn or removed. -/
theorem random_guarded_on_empty (r : Nat) (m : Store K V) : evictRandom r m ([] : List K) = (m, [], false) := by
  simp [evictRandom]

/-- (a) A non-empty consistent cache always yields a victim under every policy (no policy "finds nothing"
    and silently lets the cache grow, and the Random arm never indexes out of range). -/
theorem eviction_always_finds_victim (cfg : Cfg) (tl : Tlru S) (now r : Nat) (m : Store K V) (q : List K)
    (h : InvMQ m q) (hq : q ≠ []) :
    (evictLimit cfg tl now r m q).2.2 = true ∧ (evictMem cfg tl now r m q).2.2 = true :=
  ⟨(Evicted.length_of_nonempty h (evictLimit_spec h cfg tl now r) hq).2,
   (Evicted.length_of_nonempty h (evictMem_spec h cfg tl now r) hq).2⟩

set_option linter.unusedVariables false in
/-- (a) The bookkeeping invariant `Inv` (`InvMQ` of store and queue) that `eviction_always_finds_victim` asks
    for holds after every history from the empty cache, for all flavours and policies. -/
theorem step_total_and_consistent (cfg : Cfg) (tl : Tlru S) (size : V → Nat) (rs : List Nat)
    (ops : List (Op K V × List Nat)) :
    Inv (run cfg tl size (State.init : State K V) ops).1 :=
  run_inv cfg tl size _ ops inv_init

/-- (b) Every position handed to the ARC/TLRU score is below the queue length, so `total_len - idx` and
    `(idx + 1)` never under- or overflow: stated on the scan itself — scanning a queue suffix of length
    `n` starting at position `i` with `i + n = len` only produces ranks `len - idx` with `idx < len`.
    (`hs` makes `score` the probe that records the position arguments `candsFrom` hands to it.) -/
theorem scan_positions_in_range (score : Entry V → Nat → Nat → Nat × Nat) (m : Store K V)
    (hs : ∀ e i len, score e i len = (i, len)) (len : Nat) :
    ∀ (q : List K) (i : Nat), i + q.length = len →
      ∀ c ∈ candsFrom score m len i q, c.2.1 < c.2.2 ∧ c.2.2 = len := by
  intro q
  induction q with
  | nil => intro i _ c hc; simp [candsFrom] at hc
  | cons k q ih =>
    intro i hi c hc
    simp only [candsFrom] at hc
    simp only [List.length_cons] at hi
    cases hl : lookup k m with
    | none => rw [hl] at hc; exact ih (i + 1) (by omega) c hc
    | some e =>
      rw [hl] at hc
      rcases List.mem_cons.mp hc with h | h
      · subst h; rw [hs]; exact ⟨by show i < len; omega, rfl⟩
      · exact ih (i + 1) (by omega) c h

/-- (c) **Thread-local lookups never hit a `RefCell` conflict**, for every policy and branch outcome. -/
theorem get_borrows_ok (p : Policy) (expired hit : Bool) : traceOk (getTrace p expired hit) = true := by
  cases p <;> cases expired <;> cases hit <;> decide

theorem brun_append {b b' : BSt} {xs : List BEv} (h : brun b xs = some b') (ys : List BEv) :
    brun b (xs ++ ys) = brun b' ys := by
  induction xs generalizing b with
  | nil => simp [brun] at h; subst h; rfl
  | cons x xs ihx =>
    simp only [brun, List.cons_append] at h ⊢
    cases hb : bstep b x with
    | none => simp [hb] at h
    | some b1 => simp only [hb] at h ⊢; exact ihx h

/-- borrow state while the caller holds the order queue mutably -/
def qHeld : BSt := { queue := { excl := true } }

/-- the memory loop keeps the borrow state it started with (queue held mutably), for any number of
    evicting iterations -/
theorem memLoop_borrows_ok (p : Policy) (n : Nat) : brun qHeld (memLoopTrace false p n) = some qHeld := by
  induction n with
  | zero => cases p <;> decide
  | succ n ih =>
    have h1 : brun qHeld (shrR .store ++ evictTrace false p true) = some qHeld := by cases p <;> decide
    simp only [memLoopTrace]
    rw [brun_append h1]; exact ih

theorem limitTrace_ok (p : Policy) (overLimit found : Bool) :
    brun qHeld (limitTrace false p overLimit found) = some qHeld := by
  cases p <;> cases overLimit <;> cases found <;> decide

/-- the shape of every store: the store region, then a queue region around `body`; panic-free as soon as
    `body` leads from `qHeld` back to `qHeld` -/
theorem storeThenQueue_ok {body : List BEv} (h : brun qHeld body = some qHeld) :
    traceOk (mutR .store ++ mutR .queue body) = true := by
  have e : mutR .store ++ mutR .queue body = (mutR .store ++ [BEv.mut .queue]) ++ (body ++ [BEv.endMut .queue]) := by
    simp [mutR, region]
  have pro : brun {} (mutR .store ++ [BEv.mut .queue]) = some qHeld := by decide
  rw [traceOk, e, brun_append pro, brun_append h]
  decide

/-- (c) **Thread-local stores never hit a `RefCell` conflict** (entry-limit eviction under every policy,
    whether or not a victim is found). -/
theorem insert_borrows_ok (p : Policy) (overLimit found : Bool) :
    traceOk (insertTrace false p overLimit found) = true :=
  storeThenQueue_ok (limitTrace_ok p overLimit found)

/-- (c) **Thread-local memory-aware stores never hit a `RefCell` conflict**: oversize path, any number of
    memory-loop evictions, then the entry-limit step — for every policy and branch outcome. -/
theorem insertMem_borrows_ok (p : Policy) (hasMem oversize : Bool) (n : Nat) (overLimit found : Bool) :
    traceOk (insertMemTrace false p hasMem oversize n overLimit found) = true := by
  unfold insertMemTrace
  refine storeThenQueue_ok ?_
  cases hasMem
  · simpa using limitTrace_ok p overLimit found
  · cases oversize
    · simp only [Bool.false_eq_true, if_false, if_true, Bool.and_false]
      have h1 : brun qHeld (shrR .store) = some qHeld := by decide
      rw [List.append_assoc, brun_append h1, brun_append (memLoop_borrows_ok p n)]
      exact limitTrace_ok p overLimit found
    · simp only [if_true, Bool.and_true, List.append_nil]
      decide

/-- (c) Regression witness of the repaired defect: BEFORE the fix, a thread-local LFU / ARC / TLRU store
    that overflows re-borrowed the order queue (`BorrowMutError`) — the trace is rejected. -/
theorem legacy_lfu_overflow_panics : traceOk (insertTrace true .lfu true true) = false := by decide
/-- (c) the same for ARC -/
theorem legacy_arc_overflow_panics : traceOk (insertTrace true .arc true true) = false := by decide
/-- (c) the same for TLRU, in the memory loop of a memory-aware store -/
theorem legacy_tlru_memory_panics : traceOk (insertMemTrace true .tlru true false 1 false false) = false := by decide

/-! Non-vacuity: the post-fix overflow traces are accepted, the same branch outcome on the legacy code
    is rejected. -/
example : traceOk (insertTrace false .lfu true true) = true := by decide
example : traceOk (insertMemTrace false .arc true false 2 true true) = true := by decide

end Cachelito.C16
