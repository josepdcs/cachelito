/-
  T05 — TRANSLATOR TIE, eviction_policy.rs: `EvictionPolicy::from(&str)`, `is_valid` (C19)

  The functions named here are regenerated from /repo's CURRENT source on every check by `checklib/rust2lean.py`
  (`Generated/Pure*.lean`); the theorems are re-proved against whatever was generated (see `Props/T01.lean`).
-/
import Cachelito.Generated.PurePolicy
import Cachelito.Lemmas.Source


namespace Cachelito.T05
open Cachelito Cachelito.RustLite Cachelito.Generated Cachelito.SourceLemmas
open Cachelito.Generated.Policy

variable {K V F : Type} [DecidableEq K]

/-- `is_valid` accepts exactly the names that `from` does not default -/
theorem policy_valid_iff (s : String) :
    policyIsValid s = true ↔ toLowercase s ∈ ["fifo", "lru", "lfu", "arc", "random", "tlru"] := by
  unfold policyIsValid
  split <;> simp_all

theorem policy_from_spec (s : String) :
    policyFrom s = (if toLowercase s = "fifo" then .fifo else if toLowercase s = "lfu" then .lfu
      else if toLowercase s = "arc" then .arc else if toLowercase s = "random" then .random
      else if toLowercase s = "tlru" then .tlru else .lru) := by
  unfold policyFrom
  split <;> simp_all

/-- the six policy names (compared after `to_lowercase`) denote the six policies and are valid; every other string
    falls back to LRU and is not valid -/
theorem policy_names (s : String) :
    (toLowercase s = "fifo" → policyFrom s = .fifo ∧ policyIsValid s = true) ∧
    (toLowercase s = "lru" → policyFrom s = .lru ∧ policyIsValid s = true) ∧
    (toLowercase s = "lfu" → policyFrom s = .lfu ∧ policyIsValid s = true) ∧
    (toLowercase s = "arc" → policyFrom s = .arc ∧ policyIsValid s = true) ∧
    (toLowercase s = "random" → policyFrom s = .random ∧ policyIsValid s = true) ∧
    (toLowercase s = "tlru" → policyFrom s = .tlru ∧ policyIsValid s = true) ∧
    (toLowercase s ∉ ["fifo", "lru", "lfu", "arc", "random", "tlru"] → policyFrom s = .lru ∧ policyIsValid s = false) := by
  have hv := policy_valid_iff s
  rw [policy_from_spec]
  refine ⟨?_, ?_, ?_, ?_, ?_, ?_, ?_⟩ <;> intro h <;> simp_all

end Cachelito.T05
