/-
  C02 — Distinct argument tuples never share a cache entry.

  Model: `Cachelito/Keys.lean` (`render` = Rust's `{:?}`, `keyOf` = the parts joined by `|`, which is
  what both macro key builders generate).  A cache entry is addressed by its key and nothing else
  (`Core.lean`: every lookup and store goes through the key), so two calls can be served from the
  same entry only if their keys are equal; the theorems below show that equal keys force equal
  receivers and equal argument tuples.

  Quantification: every signature (optional receiver type, any number of argument types) over the
  whole grammar `Ty` — integers, bool, char, String/&str, floats, unit, tuples, Option, Vec/slices,
  arbitrarily nested, and `derive(Debug)` structs / tuple structs / enums over arbitrary identifiers;
  every Unicode escape predicate `fm.esc` (so the result does not depend on Rust's Unicode tables).

  Assumption (explicit hypothesis `FloatOK fm.float`): the float printer, which is not modelled, is
  injective and prints a non-empty string over `0-9 . e E + - i n f N a`.  It is satisfiable
  (`floatOK_example`).  For `f64`/`f32` it holds when all NaNs are identified.  Outside the property:
  user-written `CacheableKey` impls.
-/
import Cachelito.Lemmas.Keys

namespace Cachelito.C02
open Cachelito.Keys

/-- **C02.**  For every signature, two calls whose keys are equal have the same receiver and the
    same argument tuple.  Contrapositive: calls that differ in the receiver or in any argument
    position have different keys, hence never share a cache entry. -/
theorem key_injective {F : Type} (fm : Fmt F) (hf : FloatOK fm.float) (sig : Sig)
    (ra rb : Option (Val F)) (a b : List (Val F))
    (ha : sig.wt ra a = true) (hb : sig.wt rb b = true)
    (h : keyOf fm ra a = keyOf fm rb b) : ra = rb ∧ a = b := by
  have := joinWith_render_injective fm hf sig.tys (keyVals ra a) (keyVals rb b)
    (sig.wt_keyVals ra a ha) (sig.wt_keyVals rb b hb) h
  exact sig.keyVals_injective ra rb a b ha hb this

/-- Positional form: a difference in a single argument position `i` is enough. -/
theorem differ_at_position {F : Type} (fm : Fmt F) (hf : FloatOK fm.float) (sig : Sig)
    (ra rb : Option (Val F)) (a b : List (Val F))
    (ha : sig.wt ra a = true) (hb : sig.wt rb b = true)
    (i : Nat) (hne : a[i]? ≠ b[i]?) : keyOf fm ra a ≠ keyOf fm rb b := by
  intro h
  exact hne (congrArg (·[i]?) (key_injective fm hf sig ra rb a b ha hb h).2)

/-- **C02 without the injectivity assumption.**  If the float printer is only known to print
    non-empty strings over the float alphabet (true of Rust's printer on every bit pattern,
    including all NaNs), equal keys still force equal receivers and argument tuples *up to the
    text of their float leaves*: everything except floats is equal, and floats in corresponding
    positions print alike.  (`Val.mapF fm.float` replaces every float leaf by its printed text.)
    So the only calls that can share an entry although their tuples differ are calls whose
    differing floats have the same `{:?}` text — for `f64`/`f32`: NaNs of different payload/sign. -/
theorem key_injective_up_to_float_text {F : Type} (fm : Fmt F)
    (hne : ∀ x, fm.float x ≠ []) (hal : ∀ x, ∀ c ∈ fm.float x, isFloatChar c = true) (sig : Sig)
    (ra rb : Option (Val F)) (a b : List (Val F))
    (ha : sig.wt ra a = true) (hb : sig.wt rb b = true)
    (h : keyOf fm ra a = keyOf fm rb b) :
    ra.map (Val.mapF fm.float) = rb.map (Val.mapF fm.float) ∧
    a.map (Val.mapF fm.float) = b.map (Val.mapF fm.float) := by
  let tx : F → FloatText := fun x => ⟨fm.float x, hne x, hal x⟩
  let gm : Fmt FloatText := ⟨fm.esc, fun x => x.val⟩
  obtain ⟨h1, h2⟩ := key_injective gm floatOK_text sig _ _ _ _
    ((Sig.wt_mapF tx sig ra a).trans ha) ((Sig.wt_mapF tx sig rb b).trans hb)
    (by rw [keyOf_mapF tx fm gm rfl (fun _ => rfl), keyOf_mapF tx fm gm rfl (fun _ => rfl), h])
  have hc : ∀ v : Val F, Val.mapF (fun x : FloatText => x.val) (Val.mapF tx v) = Val.mapF fm.float v :=
    fun v => mapF_comp tx _ v
  exact ⟨by simpa [Option.map_map, Function.comp_def, hc] using congrArg (Option.map (Val.mapF (·.val))) h1,
    by simpa [List.map_map, Function.comp_def, hc] using congrArg (List.map (Val.mapF (·.val))) h2⟩

/-- A single value is determined by its `Debug` rendering (within its type). -/
theorem render_injective {F : Type} (fm : Fmt F) (hf : FloatOK fm.float) (t : Ty) (v w : Val F)
    (hv : wt t v = true) (hw : wt t w = true) (h : render fm v = render fm w) : v = w :=
  (render_append_injective fm hf t v w hv hw [] [] rfl rfl (by rw [List.append_nil, List.append_nil, h])).1

/-- **Argument boundaries are unambiguous.**  If a rendered value of type `t` followed by the
    separator and arbitrary text equals another rendered value of type `t` followed by the
    separator and arbitrary text, the two values and the two continuations agree: no content of a
    value (separators, quotes, backslashes, escapes inside strings) can move the boundary. -/
theorem boundary_unambiguous {F : Type} (fm : Fmt F) (hf : FloatOK fm.float) (t : Ty) (v w : Val F)
    (hv : wt t v = true) (hw : wt t w = true) (x y : Text)
    (h : render fm v ++ '|' :: x = render fm w ++ '|' :: y) : v = w ∧ x = y := by
  obtain ⟨hvw, hxy⟩ := render_append_injective fm hf t v w hv hw _ _ rfl rfl h
  exact ⟨hvw, (List.cons.inj hxy).2⟩

/-! ### Non-vacuity -/

/-- the float assumptions are satisfiable (here: `F := Nat` printed in decimal) -/
theorem floatOK_example : FloatOK renderNat where
  inj x y h := by
    have h1 := parseNat_render x [] rfl
    have h2 := parseNat_render y [] rfl
    rw [h, h2] at h1
    simpa using h1.symm
  nonempty x := renderRadix_ne_nil _ _ _ _
  alphabet x c hc := by
    have := renderNat_digits x c hc
    simp only [decVal] at this
    split at this
    · rename_i hd; simp [isFloatChar, hd]
    · simp at this

/-- formatter of the examples: ASCII control characters and everything above `~` escaped -/
def exFmt : Fmt Nat := ⟨fun c => c.toNat < 32 || 127 ≤ c.toNat, renderNat⟩

def exId (s : String) (h : isIdent s.toList = true := by decide) : Ident := ⟨s.toList, h⟩

/-- `f("a|b", "c")` and `f("a", "b|c")`: the separator inside a string does not merge the keys -/
example :
    keyOf exFmt none [.str "a|b".toList, .str "c".toList]
      ≠ keyOf exFmt none [.str "a".toList, .str "b|c".toList] := by decide +kernel

example :
    keyOf exFmt none [.str "a|b".toList, .str "c".toList] = "\"a|b\"|\"c\"".toList ∧
    keyOf exFmt none [.str "a".toList, .str "b|c".toList] = "\"a\"|\"b|c\"".toList := by decide +kernel

/-- moving a quote or a backslash across the boundary -/
example :
    keyOf exFmt none [.str "a\"".toList, .str "b".toList]
      ≠ keyOf exFmt none [.str "a".toList, .str "\"b".toList] ∧
    keyOf exFmt none [.str "a\\".toList, .str "|".toList]
      ≠ keyOf exFmt none [.str "a".toList, .str "\\|".toList] ∧
    keyOf exFmt none [.str "a\"|\"b".toList] ≠ keyOf exFmt none [.str "a".toList, .str "b".toList] := by
  decide +kernel

/-- `f(1, 23)` and `f(12, 3)` are both calls of `fn f(u32, u32)`, differ, and get different keys … -/
example :
    (Sig.mk none [.uint, .uint]).wt (F := Nat) none [.nat 1, .nat 23] = true ∧
    (Sig.mk none [.uint, .uint]).wt (F := Nat) none [.nat 12, .nat 3] = true ∧
    keyOf exFmt none [.nat 1, .nat 23] = "1|23".toList ∧
    keyOf exFmt none [.nat 12, .nat 3] = "12|3".toList ∧
    keyOf exFmt none [.nat 1, .nat 23] ≠ keyOf exFmt none [.nat 12, .nat 3] := by decide +kernel

/-- … but WITHOUT the separator (the mutant) they collide: the theorem is about the `|`. -/
example : keyOfNoSep exFmt none [.nat 1, .nat 23] = keyOfNoSep exFmt none [.nat 12, .nat 3] := by
  decide

/-- a method: the receiver is part of the key -/
example :
    let point := Ty.adt [.named (exId "Point") [(exId "x", .sint), (exId "y", .sint)]]
    let sig : Sig := ⟨some point, [.option .str, .vec (.tuple [.uint])]⟩
    let p1 : Val Nat := .namedV (exId "Point") [(exId "x", .int 1), (exId "y", .int (-2))]
    let p2 : Val Nat := .namedV (exId "Point") [(exId "x", .int 1), (exId "y", .int 2)]
    let args : List (Val Nat) := [.some (.str "k".toList), .vec [.tuple [.nat 7]]]
    sig.wt (some p1) args = true ∧ sig.wt (some p2) args = true ∧
    keyOf exFmt (some p1) args = "Point { x: 1, y: -2 }|Some(\"k\")|[(7,)]".toList ∧
    keyOf exFmt (some p1) args ≠ keyOf exFmt (some p2) args := by decide +kernel

/-- escapes: control characters, the two quotes, and a `\u{…}` escape -/
example :
    render exFmt (.str ['a', '\n', '"', '\'', '\\', '\x7f', Char.ofNat 0x301]) =
      "\"a\\n\\\"'\\\\\\u{7f}\\u{301}\"".toList ∧
    render exFmt (.char '\'') = "'\\''".toList ∧ render exFmt (.char '"') = "'\"'".toList := by
  decide +kernel

/-- enum variants of all three shapes -/
example :
    let e := Ty.adt [.unit (exId "A"), .tuple (exId "B") [.uint, .char], .named (exId "C") [(exId "x", .bool)]]
    wt (F := Nat) e (.unitV (exId "A")) = true ∧
    wt (F := Nat) e (.tupleV (exId "B") [.nat 1, .char 'z']) = true ∧
    wt (F := Nat) e (.namedV (exId "C") [(exId "x", .bool true)]) = true ∧
    wt (F := Nat) e (.tupleV (exId "A") []) = false ∧
    render exFmt (.tupleV (exId "B") [.nat 1, .char 'z']) = "B(1, 'z')".toList ∧
    render exFmt (.namedV (exId "C") [(exId "x", .bool true)]) = "C { x: true }".toList := by decide +kernel

/-- the injectivity assumption is needed: a printer that prints two float values alike (as Rust
    prints every NaN as `NaN`) gives two different tuples one key; `key_injective_up_to_float_text`
    still applies to it -/
example :
    let fm : Fmt Bool := ⟨fun _ => false, fun _ => ['N', 'a', 'N']⟩
    keyOf fm none [.float true, .nat 1] = keyOf fm none [.float false, .nat 1] ∧
    keyOf fm none [.float true, .nat 1] = "NaN|1".toList := by decide +kernel

end Cachelito.C02
