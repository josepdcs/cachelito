/-
  C01 (b) — A cached call returns exactly what the uncached function would return: wrapper level.

  Setting: any list of cached functions `fns` with ARBITRARY configurations (flavour, scope, policy, limit,
  TTL, memory bound, `cache_if`, `invalidate_on`, `Result` filtering), any score algebras, size function
  and random draws, and any history of calls (any function, any thread), clock ticks, registry
  invalidations and statistics operations.

  Function `i` is deterministic on keys: `f : K → V` and every call of `i` in the history has
  `c.bodyVal = f c.key` (the oracle "what the body returns if it runs" agrees with `f`).  That distinct
  argument tuples render to distinct keys is property C02, proved separately; the other functions may be
  impure.

  Besides value correctness the file proves PROVENANCE, which needs no determinism at all: a value
  served from the cache was handed to the engine by an earlier call of the SAME function, on the same
  instance, with the SAME key (`stored` event) — never a value stored for other arguments or by another
  cached function.  (That a replaced value is never served again is the engine-level part (a).)
-/
import Cachelito.Lemmas.Calls

namespace Cachelito.C01b
open Cachelito Cachelito.Calls
variable {K V S : Type} [DecidableEq K]

section
variable (fns : List FnSpec) (tls : Nat → Tlru S) (size : V → Nat) (isOk : V → Bool)

/-- **Provenance of stored entries.**  After any history, every entry `(k, e)` of any cache instance `id`
    was produced by a call of function `id.fn` that landed on that instance, had key `k`, and whose body
    returned `e.val`. -/
theorem entry_provenance (id : CacheId) (ops : List (SysOp K V × List Nat)) (k : K) (e : Entry V)
    (he : (k, e) ∈ ((sysRun fns tls size isOk (Sys.init : Sys K V) ops).1.getCache id).store) :
    ∃ c ∈ callsOn fns id ops, c.key = k ∧ c.bodyVal = e.val ∧ ∃ p ∈ ops, ∃ th, p.1 = SysOp.call id.fn th c := by
  obtain ⟨c, hc, h1, h2⟩ := run_prov_init fns tls size isOk id ops (k, e) he
  exact ⟨c, hc, h1, h2, mem_callsOn hc⟩

/-- **Invariant.**  If function `i` is deterministic (`bodyVal = f key` in all its calls), every entry
    `(k, e)` in every instance of `i` (the shared one, or any thread's) has `e.val = f k`. -/
theorem entries_carry_body_value (i : Nat) (f : K → V) (ops : List (SysOp K V × List Nat))
    (hdet : ∀ p ∈ ops, ∀ th c, p.1 = SysOp.call i th c → c.bodyVal = f c.key)
    (thread : Option Nat) (k : K) (e : Entry V)
    (he : (k, e) ∈ ((sysRun fns tls size isOk (Sys.init : Sys K V) ops).1.getCache ⟨i, thread⟩).store) :
    e.val = f k := by
  obtain ⟨c, _, h1, h2, p, hp, th, hcall⟩ := entry_provenance fns tls size isOk ⟨i, thread⟩ ops k e he
  rw [← h2, ← h1]
  exact hdet p hp th c hcall

/-- **Wrapper-level value correctness.**  After any history in which function `i` behaved
    deterministically, a call of `i` (by any thread, with any key) whose body would return `f c.key`
    returns `f c.key` — from the cache or from the body, under every configuration, after any evictions,
    expirations and invalidations. -/
theorem call_returns_body_value (i : Nat) (f : K → V) (pre : List (SysOp K V × List Nat))
    (hdet : ∀ p ∈ pre, ∀ th c, p.1 = SysOp.call i th c → c.bodyVal = f c.key)
    (th : Nat) (c : CallIn K V) (rs : List Nat) (hc : c.bodyVal = f c.key) (v : V) (tr : List (TraceEv K V))
    (hout : (sysStep fns tls size isOk rs (sysRun fns tls size isOk (Sys.init : Sys K V) pre).1 (.call i th c)).2 =
      .ret v tr) : v = f c.key := by
  cases hs : fns[i]? with
  | none => rw [sysStep_call_none fns tls size isOk rs _ th c hs] at hout; cases hout
  | some spec =>
    rw [out_call fns tls size isOk rs _ th c hs] at hout
    have hinv : AllP (fun k v => v = f k)
        ((sysRun fns tls size isOk (Sys.init : Sys K V) pre).1.getCache (cacheIdOf spec i th)).store := by
      intro p hp
      exact entries_carry_body_value fns tls size isOk i f pre hdet _ p.1 p.2 hp
    cases hout
    rcases (callFn_prov (P := fun k v => v = f k) spec (tls i) size isOk rs _ c hinv).2.2.2.2 with h | h
    · rw [h]; exact hc
    · exact h.1

/-- **Value correctness, over a whole history.**  If every call of function `i` in the history has
    `bodyVal = f key`, then every output `ret v _` of a call of `i` with key `k` has `v = f k`. -/
theorem returns_body_value (i : Nat) (f : K → V) (ops : List (SysOp K V × List Nat))
    (hdet : ∀ p ∈ ops, ∀ th c, p.1 = SysOp.call i th c → c.bodyVal = f c.key)
    (j th : Nat) (c : CallIn K V) (rs : List Nat) (hj : ops[j]? = some (.call i th c, rs))
    (v : V) (tr : List (TraceEv K V))
    (hout : (sysRun fns tls size isOk (Sys.init : Sys K V) ops).2[j]? = some (.ret v tr)) : v = f c.key := by
  rw [sysRun_out fns tls size isOk _ ops j _ rs hj] at hout
  simp only [Option.some.injEq] at hout
  have hmem : (SysOp.call i th c, rs) ∈ ops := List.mem_of_getElem? hj
  exact call_returns_body_value fns tls size isOk i f (ops.take j)
    (fun p hp => hdet p (List.mem_of_mem_take hp)) th c rs (hdet _ hmem th c rfl) v tr hout

/-- **A lookup never yields a value stored for other arguments or by another cached function.**  If a
    call of `fn` with key `c.key` is answered from the cache (`returned v true` in its trace), then `v` was
    the body value of an earlier call of the SAME function `fn`, landing on the same instance, with the
    SAME key.  Moreover every `returned` event carries the value the call returns.  No determinism assumed. -/
theorem served_value_provenance {fn : Nat} {spec : FnSpec} (hspec : fns[fn]? = some spec)
    (pre : List (SysOp K V × List Nat)) (th : Nat) (c : CallIn K V) (rs : List Nat)
    (v : V) (tr : List (TraceEv K V))
    (hout : (sysStep fns tls size isOk rs (sysRun fns tls size isOk (Sys.init : Sys K V) pre).1 (.call fn th c)).2 =
      .ret v tr) :
    (∀ w b, TraceEv.returned w b ∈ tr → w = v) ∧
    (TraceEv.returned v true ∈ tr →
      ∃ c' ∈ callsOn fns (cacheIdOf spec fn th) pre, c'.key = c.key ∧ c'.bodyVal = v ∧
        ∃ p ∈ pre, ∃ th', p.1 = SysOp.call fn th' c') ∧
    (v = c.bodyVal ∨ TraceEv.returned v true ∈ tr) := by
  rw [out_call fns tls size isOk rs _ th c hspec] at hout
  have hinv := run_prov_init fns tls size isOk (cacheIdOf spec fn th) pre
  obtain ⟨_, _, h3, h4, h5⟩ := callFn_prov spec (tls fn) size isOk rs _ c hinv
  cases hout
  refine ⟨h4, fun hr => ?_, ?_⟩
  · obtain ⟨c', hc', g1, g2⟩ := h3 _ hr
    exact ⟨c', hc', g1, g2, mem_callsOn hc'⟩
  · rcases h5 with h | h
    · exact Or.inl h
    · exact Or.inr h.2

/-- **Calls of other functions do not touch `i`'s instances.** -/
theorem other_function_frame {fn i : Nat} (hne : fn ≠ i) (rs : List Nat) (sys : Sys K V) (th : Nat) (c : CallIn K V)
    (thread : Option Nat) :
    (sysStep fns tls size isOk rs sys (.call fn th c)).1.getCache ⟨i, thread⟩ = sys.getCache ⟨i, thread⟩ := by
  exact step_off_call fns tls size isOk rs sys (callOn_of_fn_ne (id := ⟨i, thread⟩) hne)

/-- **Everything that is not a call only deletes**: after a tick, a registry invalidation or a statistics
    operation, every entry of every instance was already there, unchanged. -/
theorem non_calls_only_delete (rs : List Nat) (sys : Sys K V) (op : SysOp K V) (hop : isCall op = false)
    (id : CacheId) (p : K × Entry V)
    (hp : p ∈ ((sysStep fns tls size isOk rs sys op).1.getCache id).store) : p ∈ (sys.getCache id).store :=
  ((sysStep_noncall fns tls size isOk rs sys op hop).2 id).store_sub hp

end

/-! ### Non-vacuity

`h0` global LFU with `limit = 1` and TTL 2 s, `h1` thread-scope LRU with `cache_if` and `invalidate_on`,
`h2` async ARC with `limit = 2`, a memory bound and tags.  Bodies: `f i k = 10 * k + i`.  The history
mixes overflow, expiry (tick 3000), a rejected store, a stale hit and three kinds of invalidation. -/

def exTl : Tlru Nat := ⟨fun a b => decide (a < b), fun _ h _ r => h * r⟩
def h0 : FnSpec := ⟨"h0", false, false, ⟨.global, .lfu, some 1, none, some 2⟩, false, false, false, false, [], ["ev"], []⟩
def h1 : FnSpec := ⟨"h1", false, true, ⟨.threadLocal, .lru, some 2, none, none⟩, false, false, true, true, [], [], []⟩
def h2 : FnSpec := ⟨"h2", true, false, ⟨.async, .arc, some 2, some 100, none⟩, true, false, false, false, ["t"], [], []⟩
def exFns : List FnSpec := [h0, h1, h2]
def f (i k : Nat) : Nat := 10 * k + i
/-- `cache_if` rejects key 3, `invalidate_on` calls key 4 stale -/
def mk (i k : Nat) : CallIn Nat Nat := ⟨k, f i k, fun k _ => k != 3, fun k _ => k == 4⟩
def exOps : List (SysOp Nat Nat × List Nat) :=
  [(.call 0 0 (mk 0 1), []), (.call 0 1 (mk 0 2), []), (.call 0 0 (mk 0 2), []), (.tick 3000, []),
   (.call 0 1 (mk 0 2), []), (.call 1 0 (mk 1 4), []), (.call 1 0 (mk 1 4), []), (.call 1 1 (mk 1 3), []), (.call 1 1 (mk 1 3), []),
   (.call 1 1 (mk 1 5), []), (.call 1 1 (mk 1 5), []),
   (.call 2 0 (mk 2 1), []), (.call 2 1 (mk 2 2), []), (.call 2 0 (mk 2 3), []), (.call 2 1 (mk 2 1), []),
   (.invalidateByTag "t", []), (.call 2 0 (mk 2 3), []), (.invalidateWith "h0" (fun k => k == 2), []),
   (.call 0 0 (mk 0 2), []), (.invalidateByEvent "ev", []), (.call 0 0 (mk 0 2), [])]
def exRun := sysRun exFns (fun _ => exTl) (fun v => v) (fun _ => true) (Sys.init : Sys Nat Nat) exOps
/-- (value returned, body runs, served from cache) per operation; `(0,0,false)` for non-calls -/
def summary (o : SysOut Nat Nat) : Nat × Nat × Bool :=
  match o with | .ret v tr => (v, bodyRuns tr, lookupHit tr) | _ => (0, 0, false)

/-- decidable form of the determinism hypothesis -/
def detOk (p : SysOp Nat Nat × List Nat) : Bool :=
  match p.1 with | .call i _ c => c.bodyVal == f i c.key | _ => true

/-- the determinism hypothesis holds for each of the three functions -/
example : ∀ i, ∀ p ∈ exOps, ∀ th c, p.1 = SysOp.call i th c → c.bodyVal = f i c.key := by
  intro i p hp th c hc
  have hall : ∀ q ∈ exOps, detOk q = true := by decide
  have h := hall p hp
  simp only [detOk, hc] at h
  simpa using h
/-- hits (also after an overflow), a hit judged stale by `invalidate_on` (body re-run), a store rejected by
    `cache_if` (missed again), misses after expiry / eviction / three kinds of invalidation — the value is
    `10 * key + fn` every time -/
example : exRun.2.map summary =
    [(10, 1, false), (20, 1, false), (20, 0, true), (0, 0, false),
     (20, 1, false), (41, 1, false), (41, 1, true), (31, 1, false), (31, 1, false), (51, 1, false), (51, 0, true),
     (12, 1, false), (22, 1, false), (32, 1, false), (12, 1, false),
     (0, 0, false), (32, 1, false), (0, 0, false),
     (20, 1, false), (0, 0, false), (20, 1, false)] := by decide +kernel

end Cachelito.C01b
