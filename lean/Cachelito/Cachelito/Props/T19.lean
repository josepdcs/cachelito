/-
  T19 — TRANSLATOR TIE, the callbacks `#[cache]` and `#[cache_async]` register with the invalidation registry (C12, C13, C18)

  The clear callback (run by `invalidate_by_tag` / `_event` / `_dependency` / `invalidate_cache`) and the conditional-invalidation
  callback (run by `invalidate_with` / `invalidate_all_with`) are closures inside the macros' `quote!` templates.
  `checklib/rust2lean.py` cuts their bodies out of the CURRENT macro source (the only `move` closure passed to
  `register_callback` resp. `register_invalidation_callback`), replaces the interpolated statics `#cache_ident` / `#order_ident`
  by the engine's fields and translates them as methods `macro_clear_callback` / `macro_cond_callback` of the sync global and
  the async engine (`Generated/PureGlobal.lean`, `Generated/PureAsync.lean`, regenerated on every check).

  Theorems: for every cache content and every predicate
    * the clear callback leaves the store and the queue EMPTY and touches nothing else — the model's `clear`;
    * the conditional callback leaves exactly the model's `invalidateWith p`: the store without the entries whose key
      satisfies `p` (the others untouched, in order), the queue without one slot per removed key (the others in order).
  These are the two operations `System.lean` / `C12` / `C13` run per cache; what selects the caches is the registry (`C12r`).
-/
import Cachelito.Generated.PureGlobal
import Cachelito.Generated.PureAsync
import Cachelito.Lemmas.Source


namespace Cachelito.T19
open Cachelito Cachelito.RustLite Cachelito.Generated Cachelito.SourceLemmas

variable {K V F : Type} [DecidableEq K]

/-- one iteration of the removal loop both conditional callbacks run -/
def removeStep (acc : Store K V × List K) (key : K) : Store K V × List K :=
  (eraseKey key acc.1, acc.2.erase key)

theorem foldl_removeStep_fst (ks : List K) : ∀ (m : Store K V) (q : List K),
    (ks.foldl removeStep (m, q)).1 = m.filter (fun e => decide (e.1 ∉ ks)) := by
  induction ks with
  | nil =>
    intro m q
    show m = m.filter (fun e => decide (e.1 ∉ ([] : List K)))
    exact (List.filter_eq_self.2 (by simp)).symm
  | cons k ks ih =>
    intro m q
    show (ks.foldl removeStep (eraseKey k m, q.erase k)).1 = _
    rw [ih (eraseKey k m) (q.erase k)]
    simp only [eraseKey, List.filter_filter]
    apply List.filter_congr
    intro e _
    by_cases h1 : e.1 = k <;> by_cases h2 : e.1 ∈ ks <;> simp [h1, h2]

theorem foldl_removeStep_snd (ks : List K) : ∀ (m : Store K V) (q : List K),
    (ks.foldl removeStep (m, q)).2 = ks.foldl (fun q k => q.erase k) q := by
  induction ks with
  | nil => intro m q; rfl
  | cons k ks ih =>
    intro m q
    exact ih (eraseKey k m) (q.erase k)

/-- removing the keys selected by `p` one by one leaves the entries `p` rejects -/
theorem filter_not_mem_selected (p : K → Bool) (m : Store K V) :
    m.filter (fun e => decide (e.1 ∉ (keys m).filter p)) = m.filter (fun e => !p e.1) := by
  apply List.filter_congr
  intro e he
  have hk : e.1 ∈ keys m := by
    simp only [keys, List.mem_map]
    exact ⟨e, he, rfl⟩
  cases hp : p e.1 <;> simp [hp, hk]

/-! ## sync global (`cachelito-macros/src/lib.rs`) -/

-- the statement carries the file's `[DecidableEq K]` without needing it (so does `async_clear_callback_eq`)
set_option linter.unusedSectionVars false in
/-- **the clear callback of `#[cache]` is the model's `clear`** -/
theorem global_clear_callback_eq (c : GlobalCache K V F) :
    Global.macro_clear_callback c = { c with map := [], order := [] } := by
  simp [Global.macro_clear_callback, clearAll]

theorem global_clear_callback_model (c : GlobalCache K V F) (now hs ms : Nat) :
    (Global.macro_clear_callback c).map = (Cachelito.clear (⟨c.map, c.order, now, hs, ms⟩ : State K V)).store ∧
    (Global.macro_clear_callback c).order = (Cachelito.clear (⟨c.map, c.order, now, hs, ms⟩ : State K V)).queue := by
  simp [global_clear_callback_eq, Cachelito.clear]

/-- **the conditional-invalidation callback of `#[cache]` is the model's `invalidateWith`** -/
theorem global_cond_callback_model (c : GlobalCache K V F) (p : K → Bool) (now hs ms : Nat) :
    Global.macro_cond_callback c p =
      { c with map := (Cachelito.invalidateWith p (⟨c.map, c.order, now, hs, ms⟩ : State K V)).store,
               order := (Cachelito.invalidateWith p (⟨c.map, c.order, now, hs, ms⟩ : State K V)).queue } := by
  unfold Global.macro_cond_callback Cachelito.invalidateWith
  dsimp only
  rw [foldl_congr' (g := removeStep)]
  · rw [foldl_removeStep_fst, foldl_removeStep_snd, filter_not_mem_selected p c.map]
  · rintro ⟨m, q⟩ key
    exact congrArg (Prod.mk _) (remove_position_eq key q)

/-! ## async (`cachelito-async-macros/src/lib.rs`) -/

set_option linter.unusedSectionVars false in
/-- **the clear callback of `#[cache_async]` is the model's `clear`** -/
theorem async_clear_callback_eq (c : AsyncCache K V F) :
    Async.macro_clear_callback c = { c with cache := [], order := [] } := by
  simp [Async.macro_clear_callback, clearAll]

theorem async_clear_callback_model (c : AsyncCache K V F) (now hs ms : Nat) :
    (Async.macro_clear_callback c).cache = (Cachelito.clear (⟨c.cache, c.order, now, hs, ms⟩ : State K V)).store ∧
    (Async.macro_clear_callback c).order = (Cachelito.clear (⟨c.cache, c.order, now, hs, ms⟩ : State K V)).queue := by
  simp [async_clear_callback_eq, Cachelito.clear]

/-- one iteration of the async callback's loop: the DashMap entry and one queue slot go -/
def removeStepA (x : AsyncCache K V F × List K) (key : K) : AsyncCache K V F × List K :=
  ({ x.1 with cache := eraseKey key x.1.cache }, x.2.erase key)

theorem foldl_removeStepA (ks : List K) : ∀ (c : AsyncCache K V F) (q : List K),
    ks.foldl removeStepA (c, q) =
      ({ c with cache := (ks.foldl removeStep (c.cache, q)).1 }, (ks.foldl removeStep (c.cache, q)).2) := by
  induction ks with
  | nil => intro c q; rfl
  | cons k ks ih =>
    intro c q
    show ks.foldl removeStepA ({ c with cache := eraseKey k c.cache }, q.erase k) = _
    rw [ih]
    rfl

omit [DecidableEq K] in
/-- the keys the async callback collects from the DashMap are the stored keys the predicate selects -/
theorem collected_keys (p : K → Bool) (m : Store K V) :
    List.map (fun entry => Prod.fst entry) (List.filter (fun entry => p (Prod.fst entry)) m) = (keys m).filter p := by
  induction m with
  | nil => rfl
  | cons e m ih =>
    simp only [List.filter_cons, keys, List.map_cons]
    cases hp : p e.1 <;> simp <;> simpa [keys] using ih

/-- **the conditional-invalidation callback of `#[cache_async]` is the model's `invalidateWith`** -/
theorem async_cond_callback_model (c : AsyncCache K V F) (p : K → Bool) (now hs ms : Nat) :
    Async.macro_cond_callback c p =
      { c with cache := (Cachelito.invalidateWith p (⟨c.cache, c.order, now, hs, ms⟩ : State K V)).store,
               order := (Cachelito.invalidateWith p (⟨c.cache, c.order, now, hs, ms⟩ : State K V)).queue } := by
  unfold Async.macro_cond_callback Cachelito.invalidateWith
  dsimp only
  rw [foldl_congr' (g := removeStepA)]
  · rw [collected_keys, foldl_removeStepA, foldl_removeStep_fst, foldl_removeStep_snd]
    simp only []
    rw [filter_not_mem_selected p c.cache]
  · rintro ⟨m, q⟩ key
    exact congrArg (Prod.mk _) (remove_position_eq key q)

/-! ## consequences used by C12 / C13 -/

/-- after the clear callback nothing is stored and nothing is tracked (C12) -/
theorem global_clear_empties (c : GlobalCache K V F) :
    (Global.macro_clear_callback c).map = [] ∧ (Global.macro_clear_callback c).order = [] ∧
    (Global.macro_clear_callback c).limit = c.limit ∧ (Global.macro_clear_callback c).stats = c.stats := by
  simp [global_clear_callback_eq]

/-- the conditional callback removes EXACTLY the selected keys: an entry survives iff the predicate rejects its key, and the
    survivors keep their values, births, hit counters and relative order (C13) -/
theorem global_cond_survivors (c : GlobalCache K V F) (p : K → Bool) :
    (Global.macro_cond_callback c p).map = c.map.filter (fun e => !p e.1) := by
  rw [global_cond_callback_model c p 0 0 0]; rfl

theorem async_cond_survivors (c : AsyncCache K V F) (p : K → Bool) :
    (Async.macro_cond_callback c p).cache = c.cache.filter (fun e => !p e.1) := by
  rw [async_cond_callback_model c p 0 0 0]; rfl

/-- a predicate that selects nothing changes nothing (the harness calls `invalidate_with(name, |_| false)` to make a
    cache take its locks and walk its store without changing it) -/
theorem global_cond_never (c : GlobalCache K V F) : Global.macro_cond_callback c (fun _ => false) = c := by
  rw [global_cond_callback_model c _ 0 0 0]
  have h1 : ∀ l : List K, List.filter (fun _ => false) l = [] := fun l => List.filter_eq_nil_iff.2 (by simp)
  cases c
  simp [Cachelito.invalidateWith, h1]

/-- non-vacuity: the translated sync callback run on a concrete cache with a duplicate-free queue -/
example : (Global.macro_cond_callback
      (⟨[("a", ⟨1, 0, 0⟩), ("b", ⟨2, 0, 3⟩), ("c", ⟨3, 0, 1⟩)], ["b", "a", "c"], some 3, none, .lru, none, none, ⟨0, 0⟩⟩ :
        GlobalCache String Nat (Option Nat)) (fun k => k == "a" || k == "c")).order = ["b"] := by
  decide

end Cachelito.T19
