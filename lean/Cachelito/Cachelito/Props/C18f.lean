/-
  C18f — C18 ("Concurrent use keeps values correct and the cache consistent") re-established at the
  granularity of the NESTED store-lock sections of the sync `insert_with_memory`.

  `Props/C18.lean` proves C18 for `Cachelito.ConcData`, where the whole queue-mutex section of the sync
  `insert_with_memory` is one atomic micro-step (listed in DESIGN.md as a limit of the model).  Here the model
  is `Cachelito.ConcDataFine`: that section is split into the real `M` sections
  (`[M.r: entry size]`, `[M.w: remove k]`, and per loop iteration `[M.r: Σ sizes]` + `[M.w: evict one]`, then the
  entry-limit step); between two of them the other threads may run every micro-step that does not need the
  queue mutex `O` (store writes `put`, hit bumps, lookups, ticks), and `cstepFine` refuses the micro-steps that
  need `O` while another thread holds it.  Everything else is `ConcData` unchanged.

  All theorems quantify over any number of threads, programs, schedules, policies, `tl`, `size`, draws.

    (a) values                     : `calls_return_function_value`
    (b) every point                : `sync_inflight_invariant` (stored keys distinct, queue duplicate-free, every
                                     stored key missing from the queue is the key of a thread between its store
                                     write and the START of its queue section — stronger than "… not yet finished
                                     its queue section", which is `sync_inflight_invariant_weak`),
                                     `queue_mutex_exclusive`, `holder_never_blocked`
    (c) entry limit, every point   : `sync_bound_inflight`
    (d) quiescence                 : `allDone_quiescent`, `sync_quiescent` (every stored key queued, no duplicates,
                                     `|store| ≤ limit`)
    (e) memory                     : `sync_quiescent_memory` (ghost invariant at every point; `≤ max_memory` at
                                     quiescence)
    (f) sequential use afterwards  : `sync_then_sequential`, `sync_then_sequential_memory`
    (g) relation to the coarse model: `fine_single_thread_eq`, `fine_refines_coarse_when_uninterrupted`
    non-vacuity                    : concrete 2-thread schedules at the end.

  Nothing is `_partial`.  The async engine has no nested sections; for it the fine model IS the coarse model
  (`fineEntry` is `none`), and (a) and (g) are stated for both engines.

  Helper lemmas: `Cachelito/Lemmas/ConcDataFine.lean`.
-/
import Cachelito.Lemmas.ConcDataFine

namespace Cachelito.C18f
open Cachelito Cachelito.ConcData Cachelito.ConcDataFine

variable {K V S : Type} [DecidableEq K]

/-! ## (a) Values -/

/-- **Each call returns the function's value for its own arguments**, at the fine granularity, both engines:
    if the cache starts with pairs `(k, f k)` only and every store operation of every thread writes `(k, f k)`,
    then after ANY schedule of the fine model every stored pair is `(k, f k)` and every finished lookup
    `get k` of every thread that returned a value returned `f k`. -/
theorem calls_return_function_value (f : K → V) (cfg : Cfg) (tl : Tlru S) (size : V → Nat)
    (s0 : State K V) (progs : List (List (Op K V × List Nat)))
    (hs0 : ValOK f s0.store) (hprogs : ∀ prog, prog ∈ progs → ∀ x, x ∈ prog → OpOK f x.1)
    (sch : List ThreadId) :
    ValOK f (crunFine cfg tl size sch (FState.start s0 progs)).shared.store ∧
    ∀ t, t ∈ (crunFine cfg tl size sch (FState.start s0 progs)).threads →
      ∀ op o, (op, o) ∈ t.done → ∀ k v, op = .get k → o = .val (some v) → v = f k := by
  have h := crunFine_invariant cfg tl size (FValInv f)
    (fun _ _ _ => cstepFine_val) sch _ (fvalInv_start s0 progs hs0 hprogs)
  exact ⟨h.1, fun t ht op o hr => (h.2 t ht).2.2 (op, o) hr⟩

/-! ## (b) The in-flight invariant at every point; the queue mutex -/

/-- **Sync: the in-flight invariant holds at every point of every fine interleaving.**  Stored keys are
    distinct, the queue is duplicate-free, and every stored key that is missing from the queue is the key of a
    thread that has written the store and has not yet STARTED its queue section (`pendKeysF`: the thread is
    between `[M.w: put]` and the acquisition of `O`).  In particular the key of a thread that is inside its
    split queue section is already queued, whatever the other threads' store-only sections did in between. -/
theorem sync_inflight_invariant (cfg : Cfg) (tl : Tlru S) (size : V → Nat) (hf : cfg.flavour ≠ .async)
    (s0 : State K V) (h0 : WeakInv s0) (progs : List (List (Op K V × List Nat))) (sch : List ThreadId) :
    SyncInv (crunFine cfg tl size sch (FState.start s0 progs)).shared.store
            (crunFine cfg tl size sch (FState.start s0 progs)).shared.queue
            (pendKeysF (crunFine cfg tl size sch (FState.start s0 progs)).threads) := by
  have h := crunFine_invariant cfg tl size FineSys
    (fun _ _ _ => cstepFine_sync hf) sch _ (fineSys_start h0 progs)
  exact h.1

/-- the weaker, usual form: `queue.Nodup` at every point, and every stored key missing from the queue
    belongs to a thread that has written the store and not yet FINISHED its queue section (in-flight keys
    together with the keys of the threads inside the split section) -/
theorem sync_inflight_invariant_weak (cfg : Cfg) (tl : Tlru S) (size : V → Nat) (hf : cfg.flavour ≠ .async)
    (s0 : State K V) (h0 : WeakInv s0) (progs : List (List (Op K V × List Nat))) (sch : List ThreadId) :
    (crunFine cfg tl size sch (FState.start s0 progs)).shared.queue.Nodup ∧
    SyncInv (crunFine cfg tl size sch (FState.start s0 progs)).shared.store
            (crunFine cfg tl size sch (FState.start s0 progs)).shared.queue
            (pendKeysF (crunFine cfg tl size sch (FState.start s0 progs)).threads ++
             holdKeys (crunFine cfg tl size sch (FState.start s0 progs)).threads) := by
  have h := sync_inflight_invariant cfg tl size hf s0 h0 progs sch
  exact ⟨h.queueNodup, h.congr (fun x hx => List.mem_append_left _ hx)⟩

/-- **The model respects the queue mutex**: at every point of every schedule at most one
    thread is inside a (multi-step) queue-mutex section.  (`cstepFine` only checks "no OTHER thread holds `O`"
    when a micro-step needs `O`; that a thread continuing its own section is never blocked follows.) -/
theorem queue_mutex_exclusive (cfg : Cfg) (tl : Tlru S) (size : V → Nat)
    (s0 : State K V) (progs : List (List (Op K V × List Nat))) (sch : List ThreadId) :
    holders (crunFine cfg tl size sch (FState.start s0 progs)).threads ≤ 1 ∧
    (holdKeys (crunFine cfg tl size sch (FState.start s0 progs)).threads).length ≤ 1 := by
  have h := crunFine_invariant cfg tl size (fun c => holders c.threads ≤ 1)
    (fun _ _ _ => cstepFine_holders) sch (FState.start s0 progs)
    (by rw [holders_start]; omega)
  exact ⟨h, Nat.le_trans (length_holdKeys_le _) h⟩

/-- **A thread inside its queue section is never blocked** (the mutex model cannot deadlock a holder): at
    every point of every schedule, a thread that is inside its split queue section can perform its next
    micro-step. -/
theorem holder_never_blocked (cfg : Cfg) (tl : Tlru S) (size : V → Nat)
    (s0 : State K V) (progs : List (List (Op K V × List Nat))) (sch : List ThreadId) (i : ThreadId) (t : FThread K V)
    (hi : (crunFine cfg tl size sch (FState.start s0 progs)).threads[i]? = some t) (ht : holdsO t.pend = true) :
    (cstepFine cfg tl size (crunFine cfg tl size sch (FState.start s0 progs)) i).isSome = true := by
  have hw := crunFine_invariant cfg tl size WFF
    (fun _ _ _ => cstepFine_wf) sch _ (wff_start s0 progs)
  exact holder_steps (queue_mutex_exclusive cfg tl size s0 progs sch).1 hw hi ht

/-! ## (c) The entry bound at every point -/

/-- **Sync: the capacity invariant holds at every point of every fine interleaving** (`limit = n`): under
    EVERY policy the store holds at most `n` entries plus one per store in flight plus one for the thread that
    is inside its split queue section (its entry-limit step has not run yet); under FIFO, LRU and Random
    moreover the queue has at most `n` slots (`n + 1` while a thread is inside its split section). -/
theorem sync_bound_inflight (cfg : Cfg) (tl : Tlru S) (size : V → Nat) (hf : cfg.flavour ≠ .async)
    (n : Nat) (hl : cfg.limit = some n)
    (s0 : State K V) (h0 : WeakInv s0) (hb0 : WeakBound cfg n s0)
    (progs : List (List (Op K V × List Nat))) (sch : List ThreadId) :
    (crunFine cfg tl size sch (FState.start s0 progs)).shared.store.length
        ≤ n + (pendKeysF (crunFine cfg tl size sch (FState.start s0 progs)).threads).length
            + (holdKeys (crunFine cfg tl size sch (FState.start s0 progs)).threads).length ∧
    (holdKeys (crunFine cfg tl size sch (FState.start s0 progs)).threads).length ≤ 1 ∧
    (cfg.policy = .fifo ∨ cfg.policy = .lru ∨ cfg.policy = .random →
      (crunFine cfg tl size sch (FState.start s0 progs)).shared.queue.length
        ≤ n + (holdKeys (crunFine cfg tl size sch (FState.start s0 progs)).threads).length) := by
  have h := crunFine_invariant cfg tl size
    (fun c => FineSys c ∧ FBoundSys cfg n c) ?_ sch (FState.start s0 progs)
    ⟨fineSys_start h0 progs, fboundSys_start hb0 progs⟩
  · exact ⟨fine_entries_le h.1.1 h.2, (queue_mutex_exclusive cfg tl size s0 progs sch).2, h.2.slots⟩
  · intro c i c' hc hs
    exact ⟨cstepFine_sync hf hc.1 hs, cstepFine_bound hf hl hc.1 hc.2 hs⟩

/-! ## (d) Quiescence -/

/-- a thread list in which everybody has returned is quiescent (no operation in progress) -/
theorem allDone_quiescent (cfg : Cfg) (tl : Tlru S) (size : V → Nat)
    (s0 : State K V) (progs : List (List (Op K V × List Nat))) (sch : List ThreadId)
    (hd : AllDoneF (crunFine cfg tl size sch (FState.start s0 progs))) :
    QuiescentF (crunFine cfg tl size sch (FState.start s0 progs)) := by
  have hw := crunFine_invariant cfg tl size WFF (fun _ _ _ => cstepFine_wf) sch _ (wff_start s0 progs)
  exact fun t ht => hw t ht (hd t ht)

/-- **Sync, at quiescence** (no operation in progress — in particular once all callers have returned):
    stored keys distinct, queue duplicate-free, EVERY stored key is in the queue (so every entry can still be
    evicted, expired and invalidated), and, with `limit = n`, at most `n` entries — under every policy, Random
    included.  The state again satisfies `WeakInv` / `WeakBound`, so concurrent phases compose (also with the
    coarse theorems of `C18`). -/
theorem sync_quiescent (cfg : Cfg) (tl : Tlru S) (size : V → Nat) (hf : cfg.flavour ≠ .async)
    (s0 : State K V) (h0 : WeakInv s0) (progs : List (List (Op K V × List Nat))) (sch : List ThreadId)
    (hq : QuiescentF (crunFine cfg tl size sch (FState.start s0 progs))) :
    ((keys (crunFine cfg tl size sch (FState.start s0 progs)).shared.store).Nodup ∧
     (crunFine cfg tl size sch (FState.start s0 progs)).shared.queue.Nodup ∧
     ∀ x, x ∈ keys (crunFine cfg tl size sch (FState.start s0 progs)).shared.store →
          x ∈ (crunFine cfg tl size sch (FState.start s0 progs)).shared.queue) ∧
    WeakInv (crunFine cfg tl size sch (FState.start s0 progs)).shared ∧
    ∀ n, cfg.limit = some n → WeakBound cfg n s0 →
      (crunFine cfg tl size sch (FState.start s0 progs)).shared.store.length ≤ n ∧
      WeakBound cfg n (crunFine cfg tl size sch (FState.start s0 progs)).shared := by
  have h1 := sync_inflight_invariant cfg tl size hf s0 h0 progs sch
  have hP : pendKeysF (crunFine cfg tl size sch (FState.start s0 progs)).threads = [] :=
    keysBy_of_quiescent fkeys rfl hq
  have hF : holdKeys (crunFine cfg tl size sch (FState.start s0 progs)).threads = [] :=
    keysBy_of_quiescent hkeys rfl hq
  rw [hP] at h1
  refine ⟨⟨h1.keysNodup, h1.queueNodup, h1.queued⟩, h1, fun n hl hb0 => ?_⟩
  have h2 := sync_bound_inflight cfg tl size hf n hl s0 h0 hb0 progs sch
  rw [hP, hF] at h2
  have hwb : WeakBound cfg n (crunFine cfg tl size sch (FState.start s0 progs)).shared := ⟨fun _ => h2.1, h2.2.2⟩
  exact ⟨weak_length_le h1 hwb, hwb⟩

/-! ## (e) Memory -/

/-- **Sync, memory** (`max_memory = M`, all stores through `insert_with_memory`, values `f k`), at the fine
    granularity.  At every point of every interleaving the footprint exceeds `M` by at most the sizes of the
    values of the threads that have written the store and have not yet passed the END of their memory loop
    (`memKeys`: between `[M.w: put]` and the fitting `[M.r]` sum / the eviction attempt that found nothing /
    the oversize removal).  A thread leaves that set only with the footprint `≤ M` read under the store lock, or
    when no queued key is stored — then every stored entry belongs to another thread still in the set.  After
    the last such exit nothing can be written without re-entering the set.  Hence at quiescence the footprint
    is at most `M`. -/
theorem sync_quiescent_memory (f : K → V) (cfg : Cfg) (tl : Tlru S) (size : V → Nat) (hf : cfg.flavour ≠ .async)
    (M : Nat) (hM : cfg.maxMem = some M)
    (s0 : State K V) (h0 : WeakInv s0) (hs0 : ValOK f s0.store) (hb0 : totalMem size s0.store ≤ M)
    (progs : List (List (Op K V × List Nat)))
    (hprogs : ∀ prog, prog ∈ progs → ∀ x, x ∈ prog → OpOK f x.1)
    (hvia : ∀ prog, prog ∈ progs → ∀ x, x ∈ prog → x.1.viaMem = true) (sch : List ThreadId) :
    totalMem size (crunFine cfg tl size sch (FState.start s0 progs)).shared.store
      ≤ M + ((memKeys (crunFine cfg tl size sch (FState.start s0 progs)).threads).map (fun k => size (f k))).sum ∧
    (QuiescentF (crunFine cfg tl size sch (FState.start s0 progs)) →
      totalMem size (crunFine cfg tl size sch (FState.start s0 progs)).shared.store ≤ M) := by
  have h := crunFine_invariant cfg tl size
    (fun c => FineSys c ∧ FValInv f c ∧ NoPlainF c ∧ MemSysF size f M c) ?_ sch (FState.start s0 progs) ?_
  · refine ⟨h.2.2.2, fun hq => ?_⟩
    have := h.2.2.2
    unfold MemSysF at this
    rw [show memKeys (crunFine cfg tl size sch (FState.start s0 progs)).threads = [] from
      keysBy_of_quiescent mkeys rfl hq] at this
    exact this
  · intro c i c' hc hs
    exact ⟨cstepFine_sync hf hc.1 hs, cstepFine_val hc.2.1 hs, cstepFine_noPlain hc.2.2.1 hs,
           cstepFine_mem hf hM hc.1 hc.2.1 hc.2.2.1 hc.2.2.2 hs⟩
  · refine ⟨fineSys_start h0 progs, fvalInv_start s0 progs hs0 hprogs, ?_, ?_⟩
    · exact forall_startF s0 fun prog hprog => ⟨hvia prog hprog, nofun⟩
    · unfold MemSysF MemInv memKeys
      rw [keysBy_start mkeys rfl]
      simpa [FState.start] using hb0

/-! ## (f) Sequential use after quiescence -/

/-- **Sync: subsequent sequential use respects the bound and returns correct values** — from the state left
    by any fine schedule at quiescence, every sequential history keeps the consistency, never holds more than
    `limit = n` entries after any operation, and every lookup that returns a value returns `f` of its key. -/
theorem sync_then_sequential (f : K → V) (cfg : Cfg) (tl : Tlru S) (size : V → Nat) (hf : cfg.flavour ≠ .async)
    (n : Nat) (hl : cfg.limit = some n)
    (s0 : State K V) (h0 : WeakInv s0) (hb0 : WeakBound cfg n s0) (hs0 : ValOK f s0.store)
    (progs : List (List (Op K V × List Nat))) (hprogs : ∀ prog, prog ∈ progs → ∀ x, x ∈ prog → OpOK f x.1)
    (sch : List ThreadId) (hq : QuiescentF (crunFine cfg tl size sch (FState.start s0 progs)))
    (ops : List (Op K V × List Nat)) (hops : ∀ x, x ∈ ops → OpOK f x.1) :
    WeakInv (run cfg tl size (crunFine cfg tl size sch (FState.start s0 progs)).shared ops).1 ∧
    (∀ i, (run cfg tl size (crunFine cfg tl size sch (FState.start s0 progs)).shared (ops.take i)).1.store.length ≤ n) ∧
    ∀ a o, (a, o) ∈ ops.zip (run cfg tl size (crunFine cfg tl size sch (FState.start s0 progs)).shared ops).2 →
      ∀ k v, a.1 = .get k → o = .val (some v) → v = f k := by
  obtain ⟨_, hw, hb⟩ := sync_quiescent cfg tl size hf s0 h0 progs sch hq
  obtain ⟨_, hwb⟩ := hb n hl hb0
  have h3 := (calls_return_function_value f cfg tl size s0 progs hs0 hprogs sch).1
  refine ⟨(run_weak hf tl size ops _ hw).1, ?_, (run_val cfg tl size ops _ h3 hops).2⟩
  intro i
  have hr := run_weak hf tl size (ops.take i) _ hw
  exact weak_length_le hr.1 (hr.2 n hl hwb)

/-- **Sync: … and the memory bound**, for sequential histories whose stores go through `insert_with_memory`. -/
theorem sync_then_sequential_memory (f : K → V) (cfg : Cfg) (tl : Tlru S) (size : V → Nat)
    (hf : cfg.flavour ≠ .async) (M : Nat) (hM : cfg.maxMem = some M)
    (s0 : State K V) (h0 : WeakInv s0) (hs0 : ValOK f s0.store) (hb0 : totalMem size s0.store ≤ M)
    (progs : List (List (Op K V × List Nat)))
    (hprogs : ∀ prog, prog ∈ progs → ∀ x, x ∈ prog → OpOK f x.1)
    (hvia : ∀ prog, prog ∈ progs → ∀ x, x ∈ prog → x.1.viaMem = true)
    (sch : List ThreadId) (hq : QuiescentF (crunFine cfg tl size sch (FState.start s0 progs)))
    (ops : List (Op K V × List Nat)) (hops : AllViaMem ops) (i : Nat) :
    totalMem size (run cfg tl size (crunFine cfg tl size sch (FState.start s0 progs)).shared (ops.take i)).1.store ≤ M := by
  obtain ⟨_, hw, _⟩ := sync_quiescent cfg tl size hf s0 h0 progs sch hq
  have hm := (sync_quiescent_memory f cfg tl size hf M hM s0 h0 hs0 hb0 progs hprogs hvia sch).2 hq
  exact run_weak_mem hf tl size M hM (ops.take i) (hops.take i) _ hw hm

/-! ## (g) Relation to the coarse model -/

/-- **For ONE thread the fine model computes exactly `trackMemStep`.**  A thread whose `insert_with_memory` is
    in flight (store written) and that runs its queue section with nobody stepping in between performs
    finitely many (`n ≤ 2·|queue| + 6`) micro-steps — the first `n - 1` leave the operation in progress — and
    ends in exactly the shared state `trackMemStep cfg tl size rs s k` of the single coarse micro-step, reporting
    the same finished operation.  (`ReachF … s pend n s' r` is that uninterrupted block; the fine loop has no fuel, the
    coarse `memLoop` runs with fuel `|queue| + 1`.) -/
theorem fine_single_thread_eq (cfg : Cfg) (hf : cfg.flavour ≠ .async) (tl : Tlru S) (size : V → Nat)
    (op : Op K V) (rs0 : List Nat) (s : State K V) (k : K) (v : V) (rs : List Nat) :
    ∃ n, n ≤ 2 * s.queue.length + 6 ∧ ReachF cfg tl size op rs0 s (some (.base (.trackMem k v rs))) n
      (trackMemStep cfg tl size rs s k) (.fin (.insertMem k v) .unit) :=
  ConcDataFine.fine_single_thread_eq hf tl size op rs0 s k v rs

/-- one coarse step = one uninterrupted block of fine steps of the same thread -/
theorem coarse_step_is_fine_block (cfg : Cfg) (tl : Tlru S) (size : V → Nat) (c c' : CState K V) (i : ThreadId)
    (h : cstep cfg tl size c i = some c') :
    ∃ n, crunFine cfg tl size (List.replicate n i) (embed c) = embed c' := by
  obtain ⟨t, s', t', hi, hts, hc⟩ := cstepWith_some h
  obtain ⟨op, rs, rest, hprog, hcase⟩ := tstep_some hts
  obtain ⟨l1, l2, hl, hlen, hset⟩ := split_of_getElem? hi
  obtain ⟨n, hn⟩ := coarse_micro_reach cfg tl size c.shared op rs t.pend
  refine ⟨n, ?_⟩
  have hemb : embed c = ⟨c.shared, l1.map embedT ++ ⟨(op, rs) :: rest, t.pend.map FPend.base, t.done⟩ :: l2.map embedT⟩ := by
    simp only [embed, hl, List.map_append, List.map_cons, embedT, hprog]
  have hfree : ∀ x, x ∈ l1.map embedT ++ l2.map embedT → holdsO x.pend = false := by
    intro x hx
    rw [← List.map_append, List.mem_map] at hx
    obtain ⟨y, _, rfl⟩ := hx
    exact holdsO_embedT y
  have hrun := crunFine_reach (rest := rest) (d := t.done) hfree hn
  rw [List.length_map, hlen] at hrun
  rw [hemb, hrun, hc]
  simp only [embed, hset, List.map_append, List.map_cons]
  rcases hcase with ⟨p, hm, ht'⟩ | ⟨op', o, hm, ht'⟩
  · rw [hm, ht']; simp only [liftRes, applyRes, embedT, hprog, Option.map_some]
  · rw [hm, ht']; simp only [liftRes, applyRes, embedT, Option.map_none]

/-- **`fine_refines_coarse_when_uninterrupted`** (both engines): if no other thread steps while a thread is
    inside a critical-section sequence that the coarse model treats as one micro-step, the fine run equals the
    coarse run.  Precisely: for every coarse schedule `sch` there are block lengths `ns` (one per entry) such
    that the fine schedule "entry `i` repeated `ns[i]` times" leads the fine model from `embed c` to exactly
    `embed (crun … sch c)`.  So every coarse schedule is a fine schedule, and every state reachable in
    `ConcData` is reachable in `ConcDataFine`. -/
theorem fine_refines_coarse_when_uninterrupted (cfg : Cfg) (tl : Tlru S) (size : V → Nat)
    (sch : List ThreadId) (c : CState K V) :
    ∃ ns : List Nat, ns.length = sch.length ∧
      crunFine cfg tl size (List.zipWith List.replicate ns sch).flatten (embed c) =
        embed (crun cfg tl size sch c) := by
  induction sch generalizing c with
  | nil => exact ⟨[], rfl, rfl⟩
  | cons i sch ih =>
    cases hs : cstep cfg tl size c i with
    | none =>
      obtain ⟨ns, hlen, hrun⟩ := ih c
      refine ⟨0 :: ns, by simp [hlen], ?_⟩
      have : crun cfg tl size (i :: sch) c = crun cfg tl size sch c := by
        unfold crun cstep at *; simp only [crunWith, hs]
      rw [this]
      simpa [List.zipWith, List.replicate] using hrun
    | some c' =>
      obtain ⟨n, hn⟩ := coarse_step_is_fine_block cfg tl size c c' i hs
      obtain ⟨ns, hlen, hrun⟩ := ih c'
      refine ⟨n :: ns, by simp [hlen], ?_⟩
      have : crun cfg tl size (i :: sch) c = crun cfg tl size sch c' := by
        unfold crun cstep at *; simp only [crunWith, hs]
      rw [this]
      simp only [List.zipWith_cons_cons, List.flatten_cons, crunFine_append, hn]
      exact hrun

/-! ## Non-vacuity: concrete two-thread schedules -/

def exTl : Tlru Nat := ⟨fun a b => decide (a < b), fun _ h _ r => h * r⟩
def exF (k : Nat) : Nat := if k = 9 then 40 else 10
/-- FIFO, `max_memory = 25`, no entry limit; `size v = v` -/
def cfgM : Cfg := ⟨.global, .fifo, none, some 25, none⟩
/-- FIFO, `max_memory = 25`, `limit = 1` -/
def cfgML : Cfg := ⟨.global, .fifo, some 1, some 25, none⟩

/-- thread 0 stores keys 1, 2, 3 (10 bytes each), thread 1 stores key 4 -/
def progsLoop : List (List (Op Nat Nat × List Nat)) :=
  [[(.insertMem 1 (exF 1), []), (.insertMem 2 (exF 2), []), (.insertMem 3 (exF 3), [])], [(.insertMem 4 (exF 4), [])]]

/-- the schedule up to the point where thread 1's store write has landed BETWEEN two iterations of thread 0's
    memory loop: thread 0 runs `insertMem 1`, `insertMem 2` (4 micro-steps each: put, enter, read, limit), then
    of `insertMem 3`: put, enter, read (30 > 25), evict (key 1); then thread 1: put 4 -/
def schMid : List ThreadId := [0,0,0,0, 0,0,0,0, 0,0,0,0, 1]
/-- … thread 0: read (30 > 25 again, because of key 4), evict (key 2), read (20 fits), limit; thread 1: enter,
    read, limit -/
def schEnd : List ThreadId := schMid ++ [0,0,0,0, 1,1,1]

/-- **Non-vacuity, a store write between two loop iterations** — a state that no schedule of the coarse model
    can produce an analogue of (there the loop is atomic).  At the mid-point: keys 2, 3, 4 stored (30 bytes,
    over the bound by exactly the ghost allowance 10 + 10), key 4 stored-but-unqueued and in flight, thread 0
    inside its queue section holding key 3, thread 1 BLOCKED on the queue mutex (its next micro-step is refused).
    At the end: everybody returned, 20 bytes ≤ 25, queue = stored keys, no duplicates. -/
example :
    keys (crunFine cfgM exTl id schMid (FState.init progsLoop)).shared.store = [2, 3, 4] ∧
    (crunFine cfgM exTl id schMid (FState.init progsLoop)).shared.queue = [2, 3] ∧
    totalMem id (crunFine cfgM exTl id schMid (FState.init progsLoop)).shared.store = 30 ∧
    pendKeysF (crunFine cfgM exTl id schMid (FState.init progsLoop)).threads = [4] ∧
    holdKeys (crunFine cfgM exTl id schMid (FState.init progsLoop)).threads = [3] ∧
    memKeys (crunFine cfgM exTl id schMid (FState.init progsLoop)).threads = [3, 4] ∧
    (cstepFine cfgM exTl id (crunFine cfgM exTl id schMid (FState.init progsLoop)) 1).isNone = true ∧
    (cstepFine cfgM exTl id (crunFine cfgM exTl id schMid (FState.init progsLoop)) 0).isSome = true ∧
    allDoneFB (crunFine cfgM exTl id schEnd (FState.init progsLoop)) = true ∧
    keys (crunFine cfgM exTl id schEnd (FState.init progsLoop)).shared.store = [3, 4] ∧
    (crunFine cfgM exTl id schEnd (FState.init progsLoop)).shared.queue = [3, 4] ∧
    totalMem id (crunFine cfgM exTl id schEnd (FState.init progsLoop)).shared.store = 20 := by
  decide +kernel

/-- the hypotheses of the theorems hold for this system (values `exF k`, all stores memory-aware) -/
example : (∀ prog, prog ∈ progsLoop → ∀ x, x ∈ prog → OpOK exF x.1) ∧
    (∀ prog, prog ∈ progsLoop → ∀ x, x ∈ prog → x.1.viaMem = true) := by
  refine ⟨?_, ?_⟩ <;> intro prog hp x hx <;> simp [progsLoop] at hp <;> rcases hp with rfl | rfl <;>
    simp at hx <;> rcases hx with rfl | rfl | rfl <;> simp [OpOK, Op.viaMem, exF]

/-- **Non-vacuity, the oversize path** (`exF 9 = 40 > 25`): thread 0 measures its oversize entry; thread 1's
    store write of key 2 lands between the measurement `[M.r]` and the removal `[M.w] ; pop_back`; the removal
    takes key 9 out of the store and its (last) slot out of the queue; key 2 survives and is queued by its own
    thread afterwards. -/
def progsOver : List (List (Op Nat Nat × List Nat)) := [[(.insertMem 9 (exF 9), [])], [(.insertMem 2 (exF 2), [])]]
example :
    keys (crunFine cfgM exTl id [0, 0, 1] (FState.init progsOver)).shared.store = [9, 2] ∧
    (crunFine cfgM exTl id [0, 0, 1] (FState.init progsOver)).shared.queue = [9] ∧
    holdKeys (crunFine cfgM exTl id [0, 0, 1] (FState.init progsOver)).threads = [9] ∧
    keys (crunFine cfgM exTl id [0, 0, 1, 0] (FState.init progsOver)).shared.store = [2] ∧
    (crunFine cfgM exTl id [0, 0, 1, 0] (FState.init progsOver)).shared.queue = [] ∧
    pendKeysF (crunFine cfgM exTl id [0, 0, 1, 0] (FState.init progsOver)).threads = [2] ∧
    allDoneFB (crunFine cfgM exTl id [0, 0, 1, 0, 1, 1, 1] (FState.init progsOver)) = true ∧
    keys (crunFine cfgM exTl id [0, 0, 1, 0, 1, 1, 1] (FState.init progsOver)).shared.store = [2] ∧
    (crunFine cfgM exTl id [0, 0, 1, 0, 1, 1, 1] (FState.init progsOver)).shared.queue = [2] := by
  decide +kernel

/-- **Non-vacuity, the entry limit** (`limit = 1`): both threads write the store, thread 0 enters its queue
    section — 2 entries = `1 + |in flight| + |holders|` with one store in flight and one holder, queue of
    `1 + 1` slots is not reached yet — and finishes; thread 1's limit step then evicts key 1.  At quiescence
    one entry, queued. -/
def progsLim : List (List (Op Nat Nat × List Nat)) := [[(.insertMem 1 (exF 1), [])], [(.insertMem 2 (exF 2), [])]]
example :
    (crunFine cfgML exTl id [0, 1, 0] (FState.init progsLim)).shared.store.length = 2 ∧
    pendKeysF (crunFine cfgML exTl id [0, 1, 0] (FState.init progsLim)).threads = [2] ∧
    holdKeys (crunFine cfgML exTl id [0, 1, 0] (FState.init progsLim)).threads = [1] ∧
    allDoneFB (crunFine cfgML exTl id [0, 1, 0, 0, 0, 1, 1, 1] (FState.init progsLim)) = true ∧
    keys (crunFine cfgML exTl id [0, 1, 0, 0, 0, 1, 1, 1] (FState.init progsLim)).shared.store = [2] ∧
    (crunFine cfgML exTl id [0, 1, 0, 0, 0, 1, 1, 1] (FState.init progsLim)).shared.queue = [2] := by
  decide +kernel

/-- **Non-vacuity of (g)**: the coarse schedule `[0, 0, 1, 1]` (thread 0: put, queue section; thread 1: put,
    queue section) and its block expansion `[0, 0×3, 1, 1×3]` reach the same state. -/
example :
    (crunFine cfgM exTl id [0, 0,0,0, 1, 1,1,1] (embed (CState.init progsLim))).shared.queue =
      (crun cfgM exTl id [0, 0, 1, 1] (CState.init progsLim)).shared.queue ∧
    keys (crunFine cfgM exTl id [0, 0,0,0, 1, 1,1,1] (embed (CState.init progsLim))).shared.store =
      keys (crun cfgM exTl id [0, 0, 1, 1] (CState.init progsLim)).shared.store ∧
    allDoneFB (crunFine cfgM exTl id [0, 0,0,0, 1, 1,1,1] (embed (CState.init progsLim))) = true ∧
    allDoneB (crun cfgM exTl id [0, 0, 1, 1] (CState.init progsLim)) = true := by
  decide +kernel

end Cachelito.C18f
