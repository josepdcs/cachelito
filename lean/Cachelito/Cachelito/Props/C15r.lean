/-
  C15r — the statistics registry as a data structure (`cachelito-core/src/stats_registry.rs`, `stats.rs`), and
  the proof that the abstraction used by `Cachelito/System.lean` ("`statsGet name` reads, `statsReset name`
  zeroes, the counters of the registered function of that name") is what the registry's table computes for
  the registration sequences the macros produce.

  Model: `Cachelito/StatsReg.lean` (`Reg` = table name → cell + the memory of counter cells, `StatsReg.step`,
  `runState`).  The theorems of parts (1)–(6) are for EVERY operation history `ops` from the empty registry —
  registrations in any order, a name re-registered with another cell, one cell under several names, `clear`
  anywhere, recordings and resets on any cell interleaved anywhere — or, where they speak of one operation only,
  for ANY state `r`; part (7) is the refinement to `Cachelito/System.lean`.  The history is summarised by
  (`Cachelito/Lemmas/StatsReg.lean`):
    `bindingsSince ops`   — the `(name, cell)` registrations since the last `clear`, oldest first;
    `latest l n`          — the cell of the LAST pair for `n` in `l` (none if there is none);
    `zeroes pre op c`     — `op`, executed after `pre`, zeroes cell `c`: it is `CacheStats::reset` on `c`, or
                            `stats_registry::reset n` with `latest (bindingsSince pre) n = some c` (`zeroes_iff`);
    `noZero c pre b`      — no operation of `b`, executed after `pre`, zeroes `c` (`noZero_iff`);
    `hitCount c b` / `missCount c b` — number of `record_hit` / `record_miss` on cell `c` in `b`;
    `tally c [] ops 0/0`  — the counters of `c` computed by scanning the history with these notions.

  Property theorems and non-vacuity examples only; helper lemmas are in `Cachelito/Lemmas/StatsReg.lean`.  Where a
  property is itself a step of that file's development (`cells_eq_tally`, `step_query`, `call_sim`,
  `call_threadScope_sim`, `sysStep_sim`) it is stated here once more, among the properties.
-/
import Cachelito.Lemmas.StatsReg

namespace Cachelito.C15r
open Cachelito Cachelito.StatsReg Cachelito.SysLemmas Cachelito.StatsLemmas
open Cachelito.Registry (setKey getKey)
open Cachelito.RegLemmas (latest DistinctNames distinctNames_of_nodup)
variable {K V S : Type} [DecidableEq K]

/-- `runState` is the state component of `run` (which also collects the outputs). -/
theorem run_state (r : Reg) (ops : List StatsReg.Op) : (StatsReg.run r ops).1 = runState r ops := by
  induction ops generalizing r with
  | nil => rfl
  | cons op ops ih => exact ih _

/-! ### (1) the table: `get` / `get_ref` find the cell registered LAST under the name -/

/-- **The table.**  After any history the reference stored for `n` is the one of the LAST registration of `n`
    since the last `clear` (none if there is none), and no name is stored twice. -/
theorem table_eq_latest (ops : List StatsReg.Op) (n : String) :
    getKey (runState {} ops).table n = latest (bindingsSince ops) n ∧
    ((runState {} ops).table.map (·.1)).Nodup :=
  ⟨(rel_run ops).get_eq n, (rel_run ops).keys⟩

/-- **`get n` is exact.**  After any history `get n` changes nothing and returns a snapshot of exactly the
    counters of the cell registered LAST under `n` since the last `clear` — the counters that cell has NOW,
    i.e. including everything recorded on it after (or before) the registration, through whatever path — and
    `None` if `n` was never registered or the registry was cleared since. -/
theorem get_exact (ops : List StatsReg.Op) (n : String) :
    StatsReg.step (runState {} ops) (.get n) =
      (runState {} ops, .snap ((latest (bindingsSince ops) n).map (fun c => tally c [] ops Counters.zero))) := by
  simp only [StatsReg.step, (rel_run ops).get_eq]
  cases latest (bindingsSince ops) n with
  | none => rfl
  | some c => simp only [Option.map_some, cells_eq_tally]

/-- **`get_ref n` is exact**: it returns the very cell registered last under `n` (the cache's own static, not
    a copy) — reading through it gives that cell's current counters — or `None`; nothing changes. -/
theorem getRef_exact (ops : List StatsReg.Op) (n : String) :
    StatsReg.step (runState {} ops) (.getRef n) =
      (runState {} ops, .ref ((latest (bindingsSince ops) n).map (fun c => (c, tally c [] ops Counters.zero)))) := by
  simp only [StatsReg.step, (rel_run ops).get_eq]
  cases latest (bindingsSince ops) n with
  | none => rfl
  | some c => simp only [Option.map_some, cells_eq_tally]

/-- `get n` answers `None` exactly when `n` has no registration since the last `clear`. -/
theorem get_none_iff (ops : List StatsReg.Op) (n : String) :
    (StatsReg.step (runState {} ops) (.get n)).2 = .snap none ↔ ∀ c, (n, c) ∉ bindingsSince ops := by
  rw [get_exact, ← RegLemmas.latest_eq_none_iff]
  cases latest (bindingsSince ops) n <;> simp

/-- **The registry holds a REFERENCE.**  In any state in which `n` is bound to cell `c`, a `record_hit`
    (`record_miss`) performed afterwards on the cache's own cell `c` is visible through `get n`: the snapshot
    shows one more hit (miss).  And a snapshot is a value: it is what the cell held at the time of the call. -/
theorem record_visible_through_get (r : Reg) (n : String) (c : Cell) (h : getKey r.table n = some c) :
    (StatsReg.step (StatsReg.step r (.recordHit c)).1 (.get n)).2 =
      .snap (some ⟨(r.cells c).hits + 1, (r.cells c).misses⟩) ∧
    (StatsReg.step (StatsReg.step r (.recordMiss c)).1 (.get n)).2 =
      .snap (some ⟨(r.cells c).hits, (r.cells c).misses + 1⟩) := by
  simp [StatsReg.step, h, write_cells]

/-- **Re-registration replaces the reference, nothing else.**  `register n c` changes no cell at all; afterwards
    `get n` shows the counters of the NEW cell `c`, every other name is bound as before, and the old cell `c0`
    (if different) keeps its counters, can still be read and bumped directly by the cache that owns it, but is
    no longer reached by `reset n`. -/
theorem register_replaces (r : Reg) (n : String) (c : Cell) :
    (StatsReg.step r (.register n c)).1.cells = r.cells ∧
    (StatsReg.step (StatsReg.step r (.register n c)).1 (.get n)).2 = .snap (some (r.cells c)) ∧
    (∀ n', n' ≠ n → getKey (StatsReg.step r (.register n c)).1.table n' = getKey r.table n') ∧
    (∀ c0, c0 ≠ c →
      (StatsReg.step (StatsReg.step r (.register n c)).1 (.reset n)).1.cells c0 = r.cells c0) := by
  refine ⟨rfl, ?_, ?_, ?_⟩
  · simp [StatsReg.step, RegLemmas.getKey_setKey]
  · intro n' hn
    simp [StatsReg.step, RegLemmas.getKey_setKey, Ne.symm hn]
  · intro c0 hc
    simp [StatsReg.step, RegLemmas.getKey_setKey, write_cells, Ne.symm hc]

/-! ### (2) the cells: hits / misses = recordings since the last reset -/

/-- **The cells by history.**  After any history, every cell holds the counters `tally` computes from the
    history alone (a zeroing operation sets `0 / 0`, a recording on the cell adds one, nothing else counts). -/
theorem cells_by_history (ops : List StatsReg.Op) (c : Cell) :
    (runState {} ops).cells c = tally c [] ops Counters.zero :=
  cells_eq_tally ops c

/-- **hits / misses of a cell = number of `record_hit` / `record_miss` on it since its last reset.**  If the
    history is `a ++ op :: b` where `op` zeroes cell `c` (a `CacheStats::reset` on it, or a registry `reset` of a
    name bound to it at that moment) and nothing in `b` does, then `c` holds exactly the number of `record_hit`
    and of `record_miss` performed on `c` in `b` — whatever else happened in `b` (registrations, `clear`,
    recordings and resets on other cells, resets of names bound to other cells). -/
theorem counters_since_last_reset (a : List StatsReg.Op) (op : StatsReg.Op) (b : List StatsReg.Op) (c : Cell)
    (hz : zeroes a op c = true) (hb : noZero c (a ++ [op]) b = true) :
    (runState {} (a ++ op :: b)).cells c = ⟨hitCount c b, missCount c b⟩ := by
  rw [cells_eq_tally]
  exact tally_since_zero c [] a op b _ hz hb

/-- **… and since its creation if it was never reset**: with no zeroing operation in the whole history the cell
    holds the number of all recordings on it. -/
theorem counters_never_reset (ops : List StatsReg.Op) (c : Cell) (h : noZero c [] ops = true) :
    (runState {} ops).cells c = ⟨hitCount c ops, missCount c ops⟩ := by
  rw [cells_eq_tally, tally_noZero c [] ops _ h]
  simp [Counters.zero]

/-- `total_accesses` = hits + misses = the number of recordings since the last reset. -/
theorem total_is_recordings (a : List StatsReg.Op) (op : StatsReg.Op) (b : List StatsReg.Op) (c : Cell)
    (hz : zeroes a op c = true) (hb : noZero c (a ++ [op]) b = true) :
    ((runState {} (a ++ op :: b)).cells c).total = hitCount c b + missCount c b := by
  rw [counters_since_last_reset a op b c hz hb]; rfl

/-- **The read accessors are exact** (any state): `hits`, `misses`, `total_accesses` return the cell's counters
    and their sum, `hit_rate` / `miss_rate` are computed from (hits, total) / (misses, total); none of them
    changes anything. -/
theorem cell_reads_exact (r : Reg) (c : Cell) :
    StatsReg.step r (.hits c) = (r, .num (r.cells c).hits) ∧
    StatsReg.step r (.misses c) = (r, .num (r.cells c).misses) ∧
    StatsReg.step r (.total c) = (r, .num ((r.cells c).hits + (r.cells c).misses)) ∧
    StatsReg.step r (.hitRate c) = (r, .ratio (r.cells c).hits ((r.cells c).hits + (r.cells c).misses)) ∧
    StatsReg.step r (.missRate c) = (r, .ratio (r.cells c).misses ((r.cells c).hits + (r.cells c).misses)) :=
  ⟨rfl, rfl, rfl, rfl, rfl⟩

/-- **Recording touches one counter of one cell** (any state): `record_hit c` adds one to the hits of `c`,
    `record_miss c` one to its misses; the other counter, every other cell and the table are unchanged. -/
theorem record_exact (r : Reg) (c : Cell) :
    (StatsReg.step r (.recordHit c)).1.cells c = ⟨(r.cells c).hits + 1, (r.cells c).misses⟩ ∧
    (StatsReg.step r (.recordMiss c)).1.cells c = ⟨(r.cells c).hits, (r.cells c).misses + 1⟩ ∧
    (∀ c', c' ≠ c → (StatsReg.step r (.recordHit c)).1.cells c' = r.cells c' ∧
      (StatsReg.step r (.recordMiss c)).1.cells c' = r.cells c') ∧
    (StatsReg.step r (.recordHit c)).1.table = r.table ∧ (StatsReg.step r (.recordMiss c)).1.table = r.table := by
  refine ⟨by simp [StatsReg.step, write_cells], by simp [StatsReg.step, write_cells], ?_, rfl, rfl⟩
  intro c' h
  simp [StatsReg.step, write_cells, Ne.symm h]

/-! ### (3) `reset` -/

/-- **`reset n` is exact.**  After any history: if `n` has a registration since the last `clear`, `reset n`
    returns `true` and zeroes exactly the cell registered LAST under `n` (table and all other cells unchanged);
    otherwise it returns `false` and changes nothing. -/
theorem reset_exact (ops : List StatsReg.Op) (n : String) :
    StatsReg.step (runState {} ops) (.reset n) =
      match latest (bindingsSince ops) n with
      | some c => ((runState {} ops).write c Counters.zero, .flag true)
      | none => (runState {} ops, .flag false) := by
  simp only [StatsReg.step, (rel_run ops).get_eq]
  cases latest (bindingsSince ops) n <;> rfl

/-- `reset n` returns whether `n` is registered (has a registration since the last `clear`). -/
theorem reset_returns_registered (ops : List StatsReg.Op) (n : String) :
    (StatsReg.step (runState {} ops) (.reset n)).2 = .flag true ↔ ∃ c, (n, c) ∈ bindingsSince ops := by
  rw [reset_exact, ← RegLemmas.latest_isSome_iff]
  cases latest (bindingsSince ops) n <;> simp

/-- **`reset n` is a frame for every other cell** (any state): a cell that is not the one bound to `n` keeps
    its counters, and the table is unchanged. -/
theorem reset_frame_cells (r : Reg) (n : String) (c' : Cell) (h : getKey r.table n ≠ some c') :
    (StatsReg.step r (.reset n)).1.cells c' = r.cells c' ∧ (StatsReg.step r (.reset n)).1.table = r.table := by
  simp only [StatsReg.step]
  cases hk : getKey r.table n with
  | none => exact ⟨rfl, rfl⟩
  | some c =>
    have : c' ≠ c := fun e => h (by rw [hk, e])
    exact ⟨by simp [write_cells, Ne.symm this], rfl⟩

/-- **Resetting one name leaves all others unchanged.**  After any history, if `n'` is bound to a cell other
    than the one `n` is bound to (distinct caches), then `get n'` and `get_ref n'` return after `reset n` exactly
    what they returned before; and `get n` itself returns `0 / 0`. -/
theorem reset_frame_names (ops : List StatsReg.Op) (n n' : String) (c c' : Cell)
    (hn : latest (bindingsSince ops) n = some c) (hn' : latest (bindingsSince ops) n' = some c') (hne : c' ≠ c) :
    (StatsReg.step (StatsReg.step (runState {} ops) (.reset n)).1 (.get n')).2 =
      (StatsReg.step (runState {} ops) (.get n')).2 ∧
    (StatsReg.step (StatsReg.step (runState {} ops) (.reset n)).1 (.getRef n')).2 =
      (StatsReg.step (runState {} ops) (.getRef n')).2 ∧
    (StatsReg.step (StatsReg.step (runState {} ops) (.reset n)).1 (.get n)).2 = .snap (some Counters.zero) := by
  simp [StatsReg.step, (rel_run ops).get_eq, hn, hn', write_cells, Ne.symm hne]

/-- **Two names registered to the SAME cell share counters** — the reason the property assumes distinct
    names / caches: if `n` and `n'` are both bound to cell `c`, `reset n` also zeroes what `get n'` returns, and a
    recording counted for one is counted for the other. -/
theorem shared_cell_shares_counters (ops : List StatsReg.Op) (n n' : String) (c : Cell)
    (hn : latest (bindingsSince ops) n = some c) (hn' : latest (bindingsSince ops) n' = some c) :
    (StatsReg.step (runState {} ops) (.get n)).2 = (StatsReg.step (runState {} ops) (.get n')).2 ∧
    (StatsReg.step (StatsReg.step (runState {} ops) (.reset n)).1 (.get n')).2 = .snap (some Counters.zero) := by
  simp [StatsReg.step, (rel_run ops).get_eq, hn, hn', write_cells]

/-! ### (4) `list` -/

/-- **`list` = the registered names.**  After any history `list` changes nothing and returns a duplicate-free
    list whose members are exactly the names with a registration since the last `clear`. -/
theorem list_exact (ops : List StatsReg.Op) :
    ∃ l, StatsReg.step (runState {} ops) .list = (runState {} ops, .names l) ∧ l.Nodup ∧
      ∀ n, n ∈ l ↔ ∃ c, (n, c) ∈ bindingsSince ops :=
  ⟨_, rfl, (rel_run ops).keys, (rel_run ops).mem_keys⟩

/-! ### (5) `clear` -/

/-- **`clear` empties the table but does not change any cell** (any state): afterwards every `get` / `get_ref`
    answers `None`, every `reset` answers `false` and changes nothing, `list` is empty — while every cell still
    holds its counters and can be read and bumped by the cache that owns it. -/
theorem clear_exact (r : Reg) (x : String) :
    (StatsReg.step r .clear).1.table = [] ∧ (StatsReg.step r .clear).1.cells = r.cells ∧
    (StatsReg.step (StatsReg.step r .clear).1 (.get x)).2 = .snap none ∧
    (StatsReg.step (StatsReg.step r .clear).1 (.getRef x)).2 = .ref none ∧
    StatsReg.step (StatsReg.step r .clear).1 (.reset x) = ((StatsReg.step r .clear).1, .flag false) ∧
    (StatsReg.step (StatsReg.step r .clear).1 .list).2 = .names [] :=
  ⟨rfl, rfl, rfl, rfl, rfl, rfl⟩

/-- only what is registered after the last `clear` counts: the history view is empty right after `clear` -/
theorem clear_forgets (ops : List StatsReg.Op) : bindingsSince (ops ++ [.clear]) = [] := by
  rw [bindingsSince_snoc]; rfl

/-! ### (6) queries change nothing -/

/-- **Reads are read-only** (any state): `get`, `get_ref`, `list` and the read accessors of a cell leave the
    table and every cell unchanged. -/
theorem queries_do_not_change (r : Reg) (op : StatsReg.Op) (h : isQuery op = true) : (StatsReg.step r op).1 = r :=
  step_query r h

/-- **Interleaved reads are invisible**: inserting any block of reads anywhere into a history does not change
    the resulting table and cells (from any start state). -/
theorem reads_insensitive (r : Reg) (a qs b : List StatsReg.Op) (hq : ∀ q, q ∈ qs → isQuery q = true) :
    runState r (a ++ qs ++ b) = runState r (a ++ b) := by
  rw [runState_append, runState_append, runState_append, runState_queries _ qs hq]

/-! ### (7) refinement: the abstraction of `System` is what the table computes

  `macroStatsOps fns called` is the registration history the macros produce when the global / async functions
  whose indices are in `called` (newest first, as in `Sys.called`) had their first call: in first-call order
  every such function registers its own static — cell `i` for function `i` — under its cache name
  (`name` attribute or function name); thread-scope functions and indices that name no function register
  nothing (`cachelito-macros/src/lib.rs:382-393` is in the global branch only; `cachelito-async-macros/src/lib.rs:506-513`).
  `regOf fns sys` is the registry that corresponds to a system state: the table built by
  `macroStatsOps fns sys.called`, over the memory in which cell `i` holds the counters of the shared cache
  instance of function `i`.  `DistinctNames fns`: cache names are pairwise distinct. -/

/-- **`statsGet` refines.**  On the registry that corresponds to `sys`, `get name` returns a snapshot `o` and
    changes nothing, and `sysStep … (.statsGet name)` returns exactly `o` (as a pair) and changes nothing. -/
theorem statsGet_refines (fns : List FnSpec) (hd : DistinctNames fns) (tls : Nat → Tlru S) (size : V → Nat)
    (isOk : V → Bool) (rs : List Nat) (sys : Sys K V) (name : String) :
    ∃ o : Option Counters,
      StatsReg.step (regOf fns sys) (.get name) = (regOf fns sys, .snap o) ∧
      sysStep fns tls size isOk rs sys (.statsGet name) = (sys, .stats (o.map (fun k => (k.hits, k.misses)))) := by
  refine ⟨(getKey (regOf fns sys).table name).map (regOf fns sys).cells, rfl, ?_⟩
  -- `Calls.statTargets fns sys name` unfolds to `regTargets fns sys (·.name = name)`
  have ht : Calls.statTargets fns sys name = (getKey (regOf fns sys).table name).toList :=
    regTargets_eq_getKey hd sys name
  rw [Calls.sysStep_statsGet, ht]
  cases getKey (regOf fns sys).table name <;> rfl

/-- **`statsReset` refines.**  `reset name` on the registry that corresponds to `sys` yields the registry that
    corresponds to the system after `sysStep … (.statsReset name)`, and both return the same flag. -/
theorem statsReset_refines (fns : List FnSpec) (hd : DistinctNames fns) (tls : Nat → Tlru S) (size : V → Nat)
    (isOk : V → Bool) (rs : List Nat) (sys : Sys K V) (name : String) :
    ∃ b : Bool,
      StatsReg.step (regOf fns sys) (.reset name) =
        (regOf fns (sysStep fns tls size isOk rs sys (.statsReset name)).1, .flag b) ∧
      (sysStep fns tls size isOk rs sys (.statsReset name)).2 = .flag b :=
  ⟨_, step_reset_regOf fns tls size isOk rs sys hd name, rfl⟩

/-- **A call of a global / async function refines** (no assumption on names): its effect on the statistics is
    `callOps`: on the first call the function's own cell `i` is registered under its cache name, then ONE
    recording on cell `i` — `record_hit` iff the lookup found an unexpired entry, else `record_miss`. -/
theorem call_refines (fns : List FnSpec) (tls : Nat → Tlru S) (size : V → Nat) (isOk : V → Bool) (rs : List Nat)
    (sys : Sys K V) {i : Nat} {spec : FnSpec} (hspec : fns[i]? = some spec) (hts : spec.threadScope = false)
    (th : Nat) (c : CallIn K V) :
    regOf fns (sysStep fns tls size isOk rs sys (.call i th c)).1 =
      runState (regOf fns sys)
        (callOps i spec.name (!sys.called.contains i) (Calls.found spec.cfg (sys.getCache ⟨i, none⟩) c.key)) :=
  call_sim fns tls size isOk rs sys hspec hts th c

/-- **Thread-scope functions register nothing and record nothing**: a call of a thread-scope function leaves
    the corresponding registry (table and every cell) unchanged. -/
theorem threadScope_call_refines (fns : List FnSpec) (tls : Nat → Tlru S) (size : V → Nat) (isOk : V → Bool)
    (rs : List Nat) (sys : Sys K V) {i : Nat} {spec : FnSpec} (hspec : fns[i]? = some spec)
    (hts : spec.threadScope = true) (th : Nat) (c : CallIn K V) :
    regOf fns (sysStep fns tls size isOk rs sys (.call i th c)).1 = regOf fns sys :=
  call_threadScope_sim fns tls size isOk rs sys hspec hts th c

/-- **Every step of the system is simulated**: the registry that corresponds to the state after ANY `sysStep`
    (calls of any function on any thread, ticks, the six invalidations, `statsGet`, `statsReset`) is obtained from
    the registry that corresponds to the state before by running `statOpsOf fns sys op` — `callOps` for a call of
    a global / async function, `get` / `reset` for the statistics requests, nothing for everything else. -/
theorem sysStep_refines (fns : List FnSpec) (hd : DistinctNames fns) (tls : Nat → Tlru S) (size : V → Nat)
    (isOk : V → Bool) (rs : List Nat) (sys : Sys K V) (op : SysOp K V) :
    regOf fns (sysStep fns tls size isOk rs sys op).1 = runState (regOf fns sys) (statOpsOf fns sys op) :=
  sysStep_sim fns tls size isOk rs sys hd op

/-- **Every history of the system is simulated, from the empty system to the empty registry**: after any
    `sysRun` the corresponding registry is the result of running the registry model, from the empty registry, on
    the statistics operations the history performed (`statTrace`). -/
theorem sysRun_refines (fns : List FnSpec) (hd : DistinctNames fns) (tls : Nat → Tlru S) (size : V → Nat)
    (isOk : V → Bool) (ops : List (SysOp K V × List Nat)) :
    regOf fns (sysRun fns tls size isOk (Sys.init : Sys K V) ops).1 =
      runState {} (statTrace fns tls size isOk (Sys.init : Sys K V) ops) := by
  rw [sysRun_sim fns tls size isOk Sys.init hd ops, regOf_init]

/-- **The abstract per-name counters of `sysStep` are what the table computes.**  After any history of the
    system, `statsGet name` returns what `get name` returns on the registry model run, from the empty registry,
    on the statistics operations of that history: the counters of the cell registered last under `name`,
    which by (2) are the recordings on it since its last reset.  Likewise the flag of `statsReset`. -/
theorem sysStep_outputs_agree (fns : List FnSpec) (hd : DistinctNames fns) (tls : Nat → Tlru S) (size : V → Nat)
    (isOk : V → Bool) (ops : List (SysOp K V × List Nat)) (rs : List Nat) (x : String) :
    let r := runState {} (statTrace fns tls size isOk (Sys.init : Sys K V) ops)
    let sys := (sysRun fns tls size isOk (Sys.init : Sys K V) ops).1
    (∀ o, (StatsReg.step r (.get x)).2 = .snap o →
      (sysStep fns tls size isOk rs sys (.statsGet x)).2 = .stats (o.map (fun k => (k.hits, k.misses)))) ∧
    (∀ b, (StatsReg.step r (.reset x)).2 = .flag b →
      (sysStep fns tls size isOk rs sys (.statsReset x)).2 = .flag b) := by
  intro r sys
  have hr : r = regOf fns sys := (sysRun_refines fns hd tls size isOk ops).symm
  refine ⟨?_, ?_⟩
  · intro o h
    obtain ⟨o', h1, h2⟩ := statsGet_refines fns hd tls size isOk rs sys x
    rw [hr, h1] at h; cases h; rw [h2]
  · intro b h
    obtain ⟨b', h1, h2⟩ := statsReset_refines fns hd tls size isOk rs sys x
    rw [hr, h1] at h; cases h; exact h2

/-! ### non-vacuity: concrete histories

  `exOps`: cache "users" owns cell 0, cache "orders" owns cell 1.  Lookups are recorded on both; "users" is read;
  then "alias" is registered to the SAME cell 0; "orders" is reset (a frame for "users"); "users" is RE-registered
  with another cell 2; recordings go on; the registry is cleared and "orders" registered again.

  `decide +kernel` where the evaluation is long: the kernel alone evaluates, where plain `decide` evaluates in
  the elaborator first and the kernel then repeats it. -/

def exOps : List StatsReg.Op :=
  [.recordMiss 0,                                  -- 0: the cache records before anything is registered
   .register "users" 0, .register "orders" 1,      -- 1, 2
   .recordHit 0, .recordHit 0, .recordMiss 1,      -- 3, 4, 5
   .get "users", .get "orders", .get "nobody",     -- 6, 7, 8
   .register "alias" 0,                            -- 9: a second name for cell 0
   .reset "orders",                                -- 10
   .get "users", .get "orders", .get "alias",      -- 11, 12, 13
   .recordHit 1,                                   -- 14
   .register "users" 2,                            -- 15: re-registration with another cell
   .recordMiss 2, .recordHit 0,                    -- 16, 17
   .get "users", .getRef "alias", .list,           -- 18, 19, 20
   .reset "users", .reset "nobody",                -- 21, 22
   .hits 0, .misses 2, .total 1, .hitRate 0]       -- 23 .. 26

-- the outputs of the whole history, one per operation
example : (StatsReg.run {} exOps).2 =
    [.unit, .unit, .unit, .unit, .unit, .unit,
     .snap (some ⟨2, 1⟩), .snap (some ⟨0, 1⟩), .snap none,
     .unit, .flag true,
     .snap (some ⟨2, 1⟩), .snap (some ⟨0, 0⟩), .snap (some ⟨2, 1⟩),
     .unit, .unit, .unit, .unit,
     .snap (some ⟨0, 1⟩), .ref (some (0, ⟨3, 1⟩)), .names ["users", "orders", "alias"],
     .flag true, .flag false,
     .num 3, .num 0, .num 1, .ratio 3 4] := by decide +kernel
-- the history view
example : bindingsSince exOps = [("users", 0), ("orders", 1), ("alias", 0), ("users", 2)] := rfl
example : latest (bindingsSince exOps) "users" = some 2 ∧ latest (bindingsSince exOps) "alias" = some 0 ∧
    latest (bindingsSince exOps) "nobody" = none := by decide +kernel
-- the cells: the old cell 0 of "users" kept its counters (and is still bumped by its cache); `reset "users"`
-- zeroed the NEW cell 2 only
example : (runState {} exOps).cells 0 = ⟨3, 1⟩ ∧ (runState {} exOps).cells 1 = ⟨1, 0⟩ ∧
    (runState {} exOps).cells 2 = ⟨0, 0⟩ ∧ (runState {} exOps).cells 7 = ⟨0, 0⟩ := by decide +kernel
example : tally 0 [] exOps Counters.zero = ⟨3, 1⟩ ∧ tally 1 [] exOps Counters.zero = ⟨1, 0⟩ := by decide +kernel
-- `counters_since_last_reset` applies to cell 1: operation 10 (`reset "orders"`) zeroes it, nothing later does,
-- one hit since
example : zeroes (exOps.take 10) (.reset "orders") 1 = true ∧
    noZero 1 (exOps.take 10 ++ [.reset "orders"]) (exOps.drop 11) = true ∧
    hitCount 1 (exOps.drop 11) = 1 ∧ missCount 1 (exOps.drop 11) = 0 := by decide +kernel
-- `counters_never_reset` applies to cell 0 (its name "users" was re-bound before `reset "users"`)
example : noZero 0 [] exOps = true ∧ hitCount 0 exOps = 3 ∧ missCount 0 exOps = 1 := by decide +kernel
-- `reset "users"` (operation 21) zeroes cell 2, not cell 0; `reset "orders"` (operation 10) zeroes cell 1
example : zeroes (exOps.take 21) (.reset "users") 2 = true ∧ zeroes (exOps.take 21) (.reset "users") 0 = false ∧
    zeroes (exOps.take 10) (.reset "orders") 0 = false := by decide +kernel
-- two names registered to the SAME cell share counters: resetting "alias" zeroes what "users" shows
example : (StatsReg.run {} [.register "users" 0, .register "alias" 0, .recordHit 0, .recordMiss 0,
      .get "users", .get "alias", .reset "alias", .get "users"]).2 =
    [.unit, .unit, .unit, .unit, .snap (some ⟨1, 1⟩), .snap (some ⟨1, 1⟩), .flag true, .snap (some ⟨0, 0⟩)] := by
  decide +kernel
-- with DISTINCT cells, resetting one name is a frame for the other
example : (StatsReg.run {} [.register "users" 0, .register "orders" 1, .recordHit 0, .recordMiss 1,
      .reset "orders", .get "users", .get "orders"]).2 =
    [.unit, .unit, .unit, .unit, .flag true, .snap (some ⟨1, 0⟩), .snap (some ⟨0, 0⟩)] := by decide +kernel
-- `clear` empties the table but does not change any cell; a later registration finds the old counters
example : (StatsReg.run {} (exOps ++ [.clear, .get "users", .list, .reset "orders", .hits 0,
      .register "orders" 1, .get "orders"])).2.drop 27 =
    [.unit, .snap none, .names [], .flag false, .num 3, .unit, .snap (some ⟨1, 0⟩)] := by decide +kernel
example : bindingsSince (exOps ++ [.clear, .register "orders" 1]) = [("orders", 1)] := rfl
-- `isQuery` holds for the reads and fails for everything that writes
example : isQuery (.get "a") = true ∧ isQuery (.getRef "a") = true ∧ isQuery .list = true ∧
    isQuery (.hits 0) = true ∧ isQuery (.hitRate 0) = true ∧ isQuery (.register "a" 0) = false ∧
    isQuery (.reset "a") = false ∧ isQuery .clear = false ∧ isQuery (.recordHit 0) = false ∧
    isQuery (.cellReset 0) = false := by decide

/-! The refinement: `s0` global LRU named "alpha" with a TTL of 2 s, `s1` async LFU named "beta",
    `s2` thread-scope named "gamma" (no statistics).  The system history has a miss, a hit, an expired lookup
    (miss), calls of the other functions, an invalidation, a reset of "alpha" and a hit after it. -/

def exTl : Tlru Nat := ⟨fun a b => decide (a < b), fun _ h _ r => h * r⟩
def s0 : FnSpec := ⟨"alpha", false, false, ⟨.global, .lru, none, none, some 2⟩, false, false, false, false, ["t"], [], []⟩
def s1 : FnSpec := ⟨"beta", true, false, ⟨.async, .lfu, some 2, none, none⟩, false, false, false, false, [], [], []⟩
def s2 : FnSpec := ⟨"gamma", false, true, ⟨.threadLocal, .fifo, none, none, none⟩, false, false, false, false, [], [], []⟩
def exFns : List FnSpec := [s0, s1, s2]
def mk (k v : Nat) : CallIn Nat Nat := ⟨k, v, fun _ _ => true, fun _ _ => false⟩
def exSysOps : List (SysOp Nat Nat × List Nat) :=
  [(.statsGet "alpha", []),
   (.call 0 0 (mk 1 10), []), (.call 0 1 (mk 1 10), []),      -- alpha: first call (registers) miss, then hit
   (.tick 3000, []), (.call 0 0 (mk 1 10), []),               -- expired: miss
   (.call 1 0 (mk 9 90), []), (.call 1 1 (mk 9 90), []),      -- beta: first call (registers) miss, hit
   (.call 2 0 (mk 1 10), []),                                 -- gamma: thread scope — nothing
   (.statsGet "alpha", []), (.invalidateByTag "t", []), (.call 0 1 (mk 1 10), []),   -- invalidated: miss
   (.statsReset "alpha", []), (.call 0 0 (mk 1 10), []),      -- reset, then a hit
   (.statsGet "gamma", [])]
def exSys := (sysRun exFns (fun _ => exTl) (fun _ => 0) (fun _ => true) (Sys.init : Sys Nat Nat) exSysOps).1

example : DistinctNames exFns := distinctNames_of_nodup (by decide)
-- the statistics operations the system history performs on the registry
example : statTrace exFns (fun _ => exTl) (fun _ => 0) (fun _ => true) (Sys.init : Sys Nat Nat) exSysOps =
    [.get "alpha",
     .register "alpha" 0, .recordMiss 0, .recordHit 0, .recordMiss 0,
     .register "beta" 1, .recordMiss 1, .recordHit 1,
     .get "alpha", .recordMiss 0, .reset "alpha", .recordHit 0, .get "gamma"] := by decide +kernel
example : macroStatsOps exFns exSys.called = [.register "alpha" 0, .register "beta" 1] := by decide +kernel
-- both sides of `sysRun_refines` / `sysStep_outputs_agree` on this history
example : (StatsReg.step (regOf exFns exSys) (.get "alpha")).2 = .snap (some ⟨1, 0⟩) ∧
    (StatsReg.step (regOf exFns exSys) (.get "beta")).2 = .snap (some ⟨1, 1⟩) ∧
    (StatsReg.step (regOf exFns exSys) (.get "gamma")).2 = .snap none ∧
    (StatsReg.step (regOf exFns exSys) (.reset "gamma")).2 = .flag false := by decide +kernel
example : (StatsReg.run {} (statTrace exFns (fun _ => exTl) (fun _ => 0) (fun _ => true)
      (Sys.init : Sys Nat Nat) exSysOps ++ [.get "alpha", .get "beta", .list])).2.drop 13 =
    [.snap (some ⟨1, 0⟩), .snap (some ⟨1, 1⟩), .names ["alpha", "beta"]] := by decide +kernel
-- why distinct names are assumed: two functions sharing a name — the table holds the cell of the one called
-- LAST, `System` reads the one with the lowest index
example : macroStatsOps [s0, { s1 with name := "alpha" }] [1, 0] = [.register "alpha" 0, .register "alpha" 1] ∧
    latest (bindingsSince (macroStatsOps [s0, { s1 with name := "alpha" }] [1, 0])) "alpha" = some 1 := by decide +kernel

end Cachelito.C15r
