/-
  C20 — A suspended or dropped async call never blocks or corrupts the cache.

  "An async cached call that is suspended at an await inside its body, or dropped there, holds no cache lock
   and leaves no entry for a result it never produced: other calls (same or different arguments) and
   invalidations complete meanwhile.  If the call is resumed later it stores its result normally; if it is
   dropped, the cache afterwards behaves as if that call had only performed its initial lookup."

  Model (`Cachelito/Async.lean`, transcribing `cachelito-async-macros/src/lib.rs` `generate_cache_logic_block`:
  lookup → `(async #block).await` → store): a `#[cache_async]` call is `callLookup` (phase 1), the body's
  awaits (no cache access; the call is a `PendingCall` record: key, oracles, trace so far — no lock, no
  entry), `callFinish` (phase 3, on the CURRENT state of the cache).  `aStep` interleaves `callBegin`,
  `callResume`, `callDrop` of any number of overlapping calls with every `SysOp` (calls by other callers,
  ticks, all invalidations, statistics).

    (1) factorisation      `call_is_lookup_then_finish`, `begin_then_resume_is_call`, `begin_resume_run`
    (2) no phantom entry   `lookup_phase_adds_nothing`, `begin_adds_nothing`, `provenance_step`, `provenance`,
                           `provenance_init`, `completed_calls_characterised`, `unproduced_value_nowhere`
    (3) drop = lookup only `drop_leaves_caches_unchanged`, `dropped_call_cannot_be_resumed`,
                           `base_ops_ignore_pending`, `other_ops_ignore_pending`, `drop_is_lookup_only`,
                           `dropped_call_result_irrelevant`, `drop_is_lookup_only_base`,
                           `never_resumed_is_lookup_only`
    (4) resume stores normally  `inv_preserved`, `inv_reachable`, `limit_preserved`, `limit_never_exceeded`,
                           `resume_returns_body_value`, `resume_stores_fresh_entry`,
                           `resume_rejected_changes_nothing`, `resume_oversize_not_held`,
                           `resume_touches_only_own_cache`
    (5) locks              `lookup_phase_holds_nothing`, `finish_phase_holds_nothing`,
                           `suspended_call_holds_nothing`, `others_progress_while_suspended`,
                           `others_finish_while_suspended`, `resumed_calls_finish`
  Every theorem that stands for the property is stated in this file, also where it is a lemma of
  `Lemmas/Async.lean` under another name.

  Not proved here (DESIGN.md §7 C20, *Partial*): that the state machine rustc generates for the `async fn`
  keeps no hidden guard alive across the await — checked by the run-time probe of the harness.
-/
import Cachelito.Lemmas.Async
import Cachelito.Props.C17

namespace Cachelito.C20
open Cachelito Cachelito.SysLemmas Cachelito.AsyncLemmas
variable {K V S : Type} [DecidableEq K]

/-! ## (1) Factorisation: begin + resume with nothing in between is an ordinary call -/

/-- **(1) on one cache.**  The generated function `callFn` is exactly its lookup phase followed — when the
    lookup phase says the body has to run — by its finish phase on the post-lookup state; when the lookup
    phase serves the call from the cache, its state, value and trace are those of the whole call. -/
theorem call_is_lookup_then_finish (spec : FnSpec) (tl : Tlru S) (size : V → Nat) (isOk : V → Bool) (rs : List Nat)
    (s : State K V) (c : CallIn K V) :
    callFn spec tl size isOk rs s c =
      match callLookup spec s c with
      | (s1, .inl (v, tr)) => (s1, v, tr)
      | (s1, .inr pre) => callFinish spec tl size isOk rs s1 c pre :=
  callFn_factor spec tl size isOk rs s c

section sys
variable (fns : List FnSpec) (tls : Nat → Tlru S) (size : V → Nat) (isOk : V → Bool)

/-- **(1) at system level.**  For an existing non-thread-scope function `fn` (every `#[cache_async]` function
    is one), whatever is parked already and whatever id is used: `callBegin id fn c` either completes the
    call exactly as the ordinary call `sysStep (.call fn t c)` does — same caches, same `called` registration,
    same clock, same value and trace, nothing parked — or parks it with the trace so far, and then an
    immediate `callResume id` produces exactly the system, value and trace of the ordinary call and removes
    the record.  (`callBegin` consumes no random draws; `callResume` consumes those of the ordinary call.  The
    thread `t` of the ordinary call is arbitrary: the function is not thread-scope, so `cacheIdOf` ignores it.) -/
theorem begin_then_resume_is_call {fn : Nat} {spec : FnSpec} (hs : fns[fn]? = some spec)
    (hts : spec.threadScope = false) (a : ASys K V) (id t : Nat) (c : CallIn K V) (rs rs0 : List Nat) :
    (∃ v tr, aStep fns tls size isOk rs0 a (.callBegin id fn c) =
        (⟨(sysStep fns tls size isOk rs a.sys (.call fn t c)).1, a.pending⟩, .ret v tr) ∧
      (sysStep fns tls size isOk rs a.sys (.call fn t c)).2 = .ret v tr) ∨
    (∃ pre v tr,
      (aStep fns tls size isOk rs0 a (.callBegin id fn c)).2 = .suspended pre ∧
      (aStep fns tls size isOk rs0 a (.callBegin id fn c)).1.pending = ⟨id, fn, c, pre⟩ :: a.pending ∧
      (sysStep fns tls size isOk rs a.sys (.call fn t c)).2 = .ret v tr ∧
      aStep fns tls size isOk rs (aStep fns tls size isOk rs0 a (.callBegin id fn c)).1 (.callResume id) =
        (⟨(sysStep fns tls size isOk rs a.sys (.call fn t c)).1, a.pending.filter (fun q => q.id ≠ id)⟩,
         .ret v tr)) := by
  rw [sysStep_call_shared fns tls size isOk rs a.sys t c hs hts, aStep_begin_some fns tls size isOk rs0 a id c hs]
  rcases callFn_of_lookup spec (tls fn) size isOk rs (a.sys.getCache ⟨fn, none⟩) c with
    ⟨v, tr, hr, e⟩ | ⟨pre, hr, e⟩ <;> rw [hr, e]
  · exact .inl ⟨v, tr, by simp only [lookupOnly, hs], rfl⟩
  · refine .inr ⟨pre, _, _, rfl, rfl, rfl, ?_⟩
    rw [aStep_resume_some (p := ⟨id, fn, c, pre⟩) fns tls size isOk rs _ id (by simp) hs]
    simp [getCache_lookupOnly hs, setCache_lookupOnly hs]

/-- (1) as a two-step history with a fresh id: the final `ASys` is the system after the ordinary call with the
    pending list as it was, and the value/trace of the ordinary call is output — by `callBegin` itself when the
    cache served the call (the `callResume` then finds nothing), else by `callResume`. -/
theorem begin_resume_run {fn : Nat} {spec : FnSpec} (hs : fns[fn]? = some spec) (hts : spec.threadScope = false)
    (a : ASys K V) (id t : Nat) (c : CallIn K V) (rs rs0 : List Nat) (hfresh : ∀ p ∈ a.pending, p.id ≠ id) :
    ∃ v tr, (sysStep fns tls size isOk rs a.sys (.call fn t c)).2 = .ret v tr ∧
      (aRun fns tls size isOk a [(.callBegin id fn c, rs0), (.callResume id, rs)]).1 =
        ⟨(sysStep fns tls size isOk rs a.sys (.call fn t c)).1, a.pending⟩ ∧
      ((aRun fns tls size isOk a [(.callBegin id fn c, rs0), (.callResume id, rs)]).2 = [.ret v tr, .noSuchCall] ∨
       ∃ pre, (aRun fns tls size isOk a [(.callBegin id fn c, rs0), (.callResume id, rs)]).2 =
          [.suspended pre, .ret v tr]) := by
  have hfilter : a.pending.filter (fun q => q.id ≠ id) = a.pending :=
    congrArg ASys.pending (forget_of_fresh id a hfresh)
  have hfind : a.pending.find? (fun p => p.id = id) = none := by
    rw [List.find?_eq_none]; intro p hp; simpa using hfresh p hp
  rw [aRun_cons, aRun_cons]
  rcases begin_then_resume_is_call fns tls size isOk hs hts a id t c rs rs0 with ⟨v, tr, h1, h2⟩ | ⟨pre, v, tr, h1, _, h3, h4⟩
  · refine ⟨v, tr, h2, ?_⟩
    rw [h1]
    simp only
    rw [aStep_resume_none fns tls size isOk rs
      (⟨(sysStep fns tls size isOk rs a.sys (.call fn t c)).1, a.pending⟩ : ASys K V) id hfind]
    exact ⟨rfl, Or.inl rfl⟩
  · refine ⟨v, tr, h3, ?_⟩
    rw [h4, h1, hfilter]
    exact ⟨rfl, Or.inr ⟨pre, rfl⟩⟩

end sys

/-! ## (2) No entry for a result that was never produced -/

/-- **(2) the lookup phase adds nothing.**  Every entry of the store after the lookup phase was in the store
    before it, under the same key and with the same value (only a hit counter, the queue position and the
    statistics may have moved; an expired entry of the key is purged); a key absent before is absent after. -/
theorem lookup_phase_adds_nothing (spec : FnSpec) (s : State K V) (c : CallIn K V) :
    (∀ x e', lookup x (callLookup spec s c).1.store = some e' → ∃ e, lookup x s.store = some e ∧ e.val = e'.val) ∧
    (∀ x, lookup x s.store = none → lookup x (callLookup spec s c).1.store = none) ∧
    (callLookup spec s c).1.store.length ≤ s.store.length :=
  ⟨fun _ _ h => callLookup_sub_val spec s c h, fun x h => callLookup_absent spec s c x h,
   callLookup_length_le spec s c⟩

section sys
variable (fns : List FnSpec) (tls : Nat → Tlru S) (size : V → Nat) (isOk : V → Bool)

/-- (2) `callBegin` adds nothing to ANY cache instance: every entry held afterwards was held before with the
    same value — whether the call was served or parked. -/
theorem begin_adds_nothing (rs : List Nat) (a : ASys K V) (id fn : Nat) (c : CallIn K V) (cid : CacheId)
    {x : K} {e' : Entry V}
    (h : lookup x ((aStep fns tls size isOk rs a (.callBegin id fn c)).1.sys.getCache cid).store = some e') :
    ∃ e, lookup x (a.sys.getCache cid).store = some e ∧ e.val = e'.val := by
  rw [aStep_begin_sys] at h
  cases hs : fns[fn]? with
  | none => rw [lookupOnly_none hs] at h; exact ⟨e', h, rfl⟩
  | some spec =>
    rw [getCache_lookupOnly hs] at h
    split at h
    · rename_i hid; subst hid; exact callLookup_sub_val spec _ c h
    · exact ⟨e', h, rfl⟩

/-- **(2) provenance through one step.**  If every entry of every cache instance satisfies `P`, then after
    any `aStep` every entry satisfies `P` or is the `(key, bodyVal)` of the call that this very step COMPLETED
    (`completedBy`: an ordinary call, or the resume of a call parked at that moment).  `callBegin` and `callDrop`
    complete nothing, so they preserve every entry predicate. -/
theorem provenance_step (P : CacheId → K → V → Prop) (rs : List Nat) (a : ASys K V) (op : AOp K V)
    (h : ∀ id, Calls.AllP (P id) (a.sys.getCache id).store) (id : CacheId) :
    Calls.AllP (fun k v => P id k v ∨ completedBy fns a op = some (id, k, v))
      ((aStep fns tls size isOk rs a op).1.sys.getCache id).store := by
  have hmono : ∀ {m : Store K V}, Calls.AllP (P id) m →
      Calls.AllP (fun k v => P id k v ∨ completedBy fns a op = some (id, k, v)) m :=
    fun hm => Calls.AllP.mono (fun k v hk => Or.inl hk) hm
  rcases aStep_getCache fns tls size isOk rs a op id with
    ⟨sop, rfl, e⟩ | e | ⟨i, fn, c, spec, rfl, hs, rfl, e⟩ | ⟨i, p, spec, rfl, hp, hs, rfl, e⟩ <;> rw [e]
  · rcases sysStep_shape fns tls size isOk rs a.sys sop id with e | e | ⟨p, e⟩ | e | ⟨fn, th, c, spec, e1, e2, e3, e⟩ <;>
      rw [e]
    · exact hmono (h id)
    · exact Calls.AllP.nil _
    · exact hmono (Calls.invalidateWith_allP p _ (h id))
    · exact hmono (h id)
    · obtain ⟨g1, g2, _⟩ := Calls.callFn_prov (P := P id) spec (tls fn) size isOk rs (a.sys.getCache id) c (h id)
      refine Calls.AllP.mono ?_ g1
      rintro k v (hk | hk)
      · exact Or.inl hk
      · obtain ⟨rfl, rfl⟩ := g2 k v hk
        subst e1
        exact Or.inr (by simp only [completedBy, e2, e3])
  · exact hmono (h id)
  · exact hmono (callLookup_allP (h _))
  · exact callFinish_allP (hmono (h _)) (Or.inr (by simp only [completedBy, hp, hs]))

/-- **(2) provenance over every history.**  After ANY history of base operations, begins, resumes and drops
    of any number of overlapping calls, every entry of every cache instance descends from an entry present at
    the start (`P0`) or carries the key and the body value of a call that was COMPLETED on that instance —
    never of a call that is still parked or was dropped. -/
theorem provenance (P0 : CacheId → K → V → Prop) (a : ASys K V) (ops : List (AOp K V × List Nat))
    (h : ∀ id, Calls.AllP (P0 id) (a.sys.getCache id).store) (id : CacheId) :
    Calls.AllP (fun k v => P0 id k v ∨ (id, k, v) ∈ completions fns tls size isOk a ops)
      ((aRun fns tls size isOk a ops).1.sys.getCache id).store := by
  induction ops generalizing a P0 with
  | nil => exact Calls.AllP.mono (fun k v hk => Or.inl hk) (h id)
  | cons x ops ih =>
    obtain ⟨op, rs⟩ := x
    rw [aRun_cons]
    simp only
    have h1 := provenance_step fns tls size isOk P0 rs a op h
    have h2 := ih (fun id k v => P0 id k v ∨ completedBy fns a op = some (id, k, v)) _ h1
    refine Calls.AllP.mono (fun k v hk => ?_) h2
    simp only [completions, List.mem_append, Option.mem_toList]
    exact or_assoc.1 hk

/-- (2) from the empty system every stored entry is the `(key, bodyVal)` of a completed call -/
theorem provenance_init (ops : List (AOp K V × List Nat)) (id : CacheId) :
    Calls.AllP (fun k v => (id, k, v) ∈ completions fns tls size isOk (ASys.init : ASys K V) ops)
      ((aRun fns tls size isOk (ASys.init : ASys K V) ops).1.sys.getCache id).store :=
  Calls.AllP.mono (fun _ _ hk => hk.elim False.elim fun h => h)
    (provenance fns tls size isOk (fun _ _ _ => False) ASys.init ops (fun _ => Calls.AllP.nil _) id)

/-- (2) who the completed calls are: an ordinary call of the history on that instance, or a `callResume` of the
    history acting on a record that was parked at the start or whose `callBegin` is in the history. -/
theorem completed_calls_characterised (a : ASys K V) (ops : List (AOp K V × List Nat)) (id : CacheId) (k : K) (v : V)
    (h : (id, k, v) ∈ completions fns tls size isOk a ops) :
    (∃ fn th c rs spec, (AOp.base (.call fn th c), rs) ∈ ops ∧ fns[fn]? = some spec ∧
        id = cacheIdOf spec fn th ∧ k = c.key ∧ v = c.bodyVal) ∨
    (∃ rs p, (AOp.callResume p.id, rs) ∈ ops ∧
        (p ∈ a.pending ∨ ∃ rs', (AOp.callBegin p.id p.fn p.c, rs') ∈ ops) ∧
        id = ⟨p.fn, none⟩ ∧ k = p.c.key ∧ v = p.c.bodyVal) := by
  induction ops generalizing a with
  | nil => simp [completions] at h
  | cons x ops ih =>
    obtain ⟨op, rs⟩ := x
    simp only [completions, List.mem_append, Option.mem_toList] at h
    rcases h with h | h
    · rcases completedBy_eq_some fns a h with ⟨fn, th, c, spec, rfl, hs, hx⟩ | ⟨i, p, rfl, hf, hx⟩ <;> cases hx
      · exact Or.inl ⟨fn, th, c, rs, spec, List.mem_cons_self, hs, rfl, rfl, rfl⟩
      · have hpi : p.id = i := by simpa using List.find?_some hf
        exact Or.inr ⟨rs, p, hpi ▸ List.mem_cons_self, Or.inl (List.mem_of_find?_eq_some hf), rfl, rfl, rfl⟩
    · rcases ih _ h with ⟨fn, th, c, rs', spec, h1, h2⟩ | ⟨rs', p, h1, h2, h3⟩
      · exact Or.inl ⟨fn, th, c, rs', spec, List.mem_cons_of_mem _ h1, h2⟩
      · refine Or.inr ⟨rs', p, List.mem_cons_of_mem _ h1, ?_, h3⟩
        rcases h2 with h2 | ⟨rs'', h2⟩
        · rcases pending_step fns tls size isOk rs a op p h2 with h4 | h4
          · exact Or.inl h4
          · exact Or.inr ⟨rs, h4 ▸ List.mem_cons_self⟩
        · exact Or.inr ⟨rs'', List.mem_cons_of_mem _ h2⟩

/-- **(2) a value nobody completed is nowhere.**  If `w` is not stored at the start and no COMPLETED call of
    the history produced `w` — e.g. `w` is the value only a still-parked or a dropped call would have
    produced — then after the history no entry of any cache instance carries `w`. -/
theorem unproduced_value_nowhere (a : ASys K V) (ops : List (AOp K V × List Nat)) (w : V)
    (h0 : ∀ id, Calls.AllP (fun _ v => v ≠ w) (a.sys.getCache id).store)
    (hc : ∀ x ∈ completions fns tls size isOk a ops, x.2.2 ≠ w) (id : CacheId) :
    Calls.AllP (fun _ v => v ≠ w) ((aRun fns tls size isOk a ops).1.sys.getCache id).store :=
  Calls.AllP.mono (fun _ _ hk => hk.elim (fun h => h) (hc _))
    (provenance fns tls size isOk (fun _ _ v => v ≠ w) a ops h0 id)

/-! ## (3) Drop = only the initial lookup happened -/

/-- **(3) `callDrop` leaves every cache exactly unchanged**: the system part (all cache instances, the
    registrations, the clock) is untouched, the output is `unit`, only records parked under `id` disappear. -/
theorem drop_leaves_caches_unchanged (rs : List Nat) (a : ASys K V) (id : Nat) :
    aStep fns tls size isOk rs a (.callDrop id) = (⟨a.sys, a.pending.filter (fun q => q.id ≠ id)⟩, .unit) :=
  aStep_drop fns tls size isOk rs a id

/-- (3) a dropped call can not be resumed: `callResume id` right after `callDrop id` finds nothing and changes
    nothing -/
theorem dropped_call_cannot_be_resumed (rs rs' : List Nat) (a : ASys K V) (id : Nat) :
    aStep fns tls size isOk rs' (aStep fns tls size isOk rs a (.callDrop id)).1 (.callResume id) =
      ((aStep fns tls size isOk rs a (.callDrop id)).1, .noSuchCall) := by
  rw [aStep_drop]
  exact aStep_resume_none fns tls size isOk rs' _ id (find_filter_self_none _ _)

/-- **(3) frame: base operations do not read the pending calls.**  A call by another caller (same or other
    arguments), a tick, any invalidation, any statistics operation acts on the system part exactly as
    `sysStep` does and leaves the pending records alone — whatever is parked. -/
theorem base_ops_ignore_pending (rs : List Nat) (a : ASys K V) (op : SysOp K V) :
    aStep fns tls size isOk rs a (.base op) =
      (⟨(sysStep fns tls size isOk rs a.sys op).1, a.pending⟩, .base (sysStep fns tls size isOk rs a.sys op).2) :=
  aStep_base fns tls size isOk rs a op

/-- (3) frame for all operations: an operation that does not name call `id` (a base operation, or the begin /
    resume / drop of ANOTHER call) yields the same system, the same output and the same other records whether
    or not records of `id` are parked. -/
theorem other_ops_ignore_pending (rs : List Nat) (a : ASys K V) (id : Nat) (op : AOp K V)
    (h : mentions id op = false) :
    aStep fns tls size isOk rs (forget id a) op =
      (forget id (aStep fns tls size isOk rs a op).1, (aStep fns tls size isOk rs a op).2) :=
  aStep_forget fns tls size isOk rs a id op h

/-- **(3) drop = only the initial lookup happened.**  `callBegin id fn c ; h ; callDrop id`, for ANY history
    `h` of operations not naming `id` (base operations of every kind and begins / resumes / drops of any
    number of other, overlapping calls), from ANY state: the final state — caches, registrations, clock and
    the other pending calls — and the outputs of `h` are exactly those of `h` run from the state in which
    just the lookup phase of the call was performed (`lookupOnly`), no pending record. -/
theorem drop_is_lookup_only (a : ASys K V) (id fn : Nat) (c : CallIn K V) (rs0 rs1 : List Nat)
    (h : List (AOp K V × List Nat)) (hh : ∀ x ∈ h, mentions id x.1 = false) :
    aRun fns tls size isOk a ((.callBegin id fn c, rs0) :: h ++ [(.callDrop id, rs1)]) =
      ((aRun fns tls size isOk ⟨lookupOnly fns a.sys fn c, a.pending.filter (fun q => q.id ≠ id)⟩ h).1,
       (aStep fns tls size isOk rs0 a (.callBegin id fn c)).2 ::
         (aRun fns tls size isOk ⟨lookupOnly fns a.sys fn c, a.pending.filter (fun q => q.id ≠ id)⟩ h).2 ++
           [.unit]) := by
  rw [List.cons_append, aRun_cons, aRun_append]
  have hf := aRun_forget fns tls size isOk (aStep fns tls size isOk rs0 a (.callBegin id fn c)).1 id h hh
  rw [forget_begin] at hf
  rw [hf]
  simp only [aRun, aStep_drop, forget, List.cons_append]

/-- **(3) the result of a dropped call is irrelevant.**  Two calls with the same key and the same
    `invalidate_on` oracle but ANY two body values (and `cache_if` oracles), begun, left parked during an
    arbitrary history `h` of other operations, then dropped: the two runs end in the same state (caches,
    registrations, clock, other pending calls) with the same outputs.  Nothing anywhere depends on the value
    the dropped call would have produced. -/
theorem dropped_call_result_irrelevant (a : ASys K V) (id fn : Nat) {c c' : CallIn K V}
    (hk : c.key = c'.key) (hio : c.invalidateOn = c'.invalidateOn) (rs0 rs1 : List Nat)
    (h : List (AOp K V × List Nat)) (hh : ∀ x ∈ h, mentions id x.1 = false) :
    aRun fns tls size isOk a ((.callBegin id fn c, rs0) :: h ++ [(.callDrop id, rs1)]) =
      aRun fns tls size isOk a ((.callBegin id fn c', rs0) :: h ++ [(.callDrop id, rs1)]) := by
  rw [drop_is_lookup_only fns tls size isOk a id fn c rs0 rs1 h hh,
    drop_is_lookup_only fns tls size isOk a id fn c' rs0 rs1 h hh,
    lookupOnly_congr fns a.sys fn hk hio, aStep_begin_out_congr fns tls size isOk rs0 a id fn hk hio]

/-- (3) for a history of base operations: the final system of `begin id; h; drop id` is `sysRun` of `h` from
    `lookupOnly` -/
theorem drop_is_lookup_only_base (a : ASys K V) (id fn : Nat) (c : CallIn K V) (rs0 rs1 : List Nat)
    (h : List (SysOp K V × List Nat)) :
    (aRun fns tls size isOk a
        ((.callBegin id fn c, rs0) :: h.map (fun x => (AOp.base x.1, x.2)) ++ [(.callDrop id, rs1)])).1.sys =
      (sysRun fns tls size isOk (lookupOnly fns a.sys fn c) h).1 := by
  rw [drop_is_lookup_only fns tls size isOk a id fn c rs0 rs1 _ (List.forall_mem_map.2 fun _ _ => rfl)]
  simp only [aRun_base]

/-- (3) a call that is never resumed nor dropped (still parked when the history ends): the caches evolve, and
    the other operations answer, as if only its lookup phase had happened -/
theorem never_resumed_is_lookup_only (a : ASys K V) (id fn : Nat) (c : CallIn K V) (rs0 : List Nat)
    (h : List (AOp K V × List Nat)) (hh : ∀ x ∈ h, mentions id x.1 = false) :
    (aRun fns tls size isOk a ((.callBegin id fn c, rs0) :: h)).1.sys =
      (aRun fns tls size isOk ⟨lookupOnly fns a.sys fn c, a.pending.filter (fun q => q.id ≠ id)⟩ h).1.sys ∧
    (aRun fns tls size isOk a ((.callBegin id fn c, rs0) :: h)).2.tail =
      (aRun fns tls size isOk ⟨lookupOnly fns a.sys fn c, a.pending.filter (fun q => q.id ≠ id)⟩ h).2 := by
  rw [aRun_cons]
  have hf := aRun_forget fns tls size isOk (aStep fns tls size isOk rs0 a (.callBegin id fn c)).1 id h hh
  rw [forget_begin] at hf
  rw [hf]
  exact ⟨rfl, rfl⟩

/-! ## (4) Resume stores normally -/

/-- **(4) every `aStep` keeps the store/queue invariant of every cache instance** (store keys distinct, queue
    duplicate-free, queue and store track the same keys) — in particular the late store of a resumed call,
    which runs on whatever the cache has become meanwhile. -/
theorem inv_preserved (rs : List Nat) (a : ASys K V) (op : AOp K V) (h : SysInv a.sys) :
    SysInv (aStep fns tls size isOk rs a op).1.sys :=
  aStep_inv fns tls size isOk rs a op h

/-- (4) the invariant holds in every reachable state -/
theorem inv_reachable (ops : List (AOp K V × List Nat)) :
    SysInv (aRun fns tls size isOk (ASys.init : ASys K V) ops).1.sys :=
  aRun_inv fns tls size isOk _ ops sysInv_init

/-- **(4) every `aStep` respects the entry limit.**  For a cache instance whose function has `limit = n ≥ 1`
    (every flavour — in particular async — and every policy): a consistent instance with at most `n` entries has
    at most `n` entries after any `aStep`, also after the late store of a resumed call into a cache that other
    callers have filled meanwhile. -/
theorem limit_preserved (rs : List Nat) (a : ASys K V) (op : AOp K V) (id : CacheId) {spec : FnSpec} (n : Nat)
    (hs : fns[id.fn]? = some spec) (hl : spec.cfg.limit = some n) (hn : 1 ≤ n)
    (hi : Inv (a.sys.getCache id)) (hb : (a.sys.getCache id).store.length ≤ n) :
    ((aStep fns tls size isOk rs a op).1.sys.getCache id).store.length ≤ n :=
  aStep_bound fns tls size isOk rs a op id n hs hl hn hi hb

/-- (4) the entry limit is never exceeded, after any history of base operations, begins, resumes and drops -/
theorem limit_never_exceeded (ops : List (AOp K V × List Nat)) (id : CacheId) {spec : FnSpec} (n : Nat)
    (hs : fns[id.fn]? = some spec) (hl : spec.cfg.limit = some n) (hn : 1 ≤ n) :
    ((aRun fns tls size isOk (ASys.init : ASys K V) ops).1.sys.getCache id).store.length ≤ n :=
  aRun_bound fns tls size isOk _ ops id n hs hl hn sysInv_init (Nat.zero_le _)

/-- **(4) a resumed call returns the value its body produced**, and its trace continues the trace recorded at
    the suspension. -/
theorem resume_returns_body_value (rs : List Nat) (a : ASys K V) (id : Nat) {p : PendingCall K V} {spec : FnSpec}
    (hp : a.pending.find? (fun p => p.id = id) = some p) (hs : fns[p.fn]? = some spec) :
    ∃ tr, (aStep fns tls size isOk rs a (.callResume id)).2 = .ret p.c.bodyVal (p.pre ++ TraceEv.bodyRun :: tr) := by
  obtain ⟨tr, h⟩ := callFinish_trace spec (tls p.fn) size isOk rs (a.sys.getCache ⟨p.fn, none⟩) p.c p.pre
  exact ⟨tr, by rw [aStep_resume_some fns tls size isOk rs a id hp hs, callFinish_val, h]⟩

/-- **(4) a resumed call stores normally.**  Async flavour; the value is accepted (`shouldStore`: `cache_if` /
    the `Result` filter) and not refused as oversize by the memory-aware store.  After `callResume`, the key
    of the call holds the body's value in the shared cache of its function, stamped with the cache's CURRENT
    time, hit counter 0 — whatever other callers stored, evicted or invalidated meanwhile, and whatever this
    store itself had to evict. -/
theorem resume_stores_fresh_entry (rs : List Nat) (a : ASys K V) (id : Nat) {p : PendingCall K V} {spec : FnSpec}
    (hp : a.pending.find? (fun p => p.id = id) = some p) (hs : fns[p.fn]? = some spec)
    (hf : spec.cfg.flavour = .async)
    (hst : shouldStore spec isOk (p.c.cacheIf p.c.key p.c.bodyVal) p.c.bodyVal = true)
    (hno : spec.useMem = true → oversize spec.cfg size p.c.bodyVal = false) :
    lookup p.c.key ((aStep fns tls size isOk rs a (.callResume id)).1.sys.getCache ⟨p.fn, none⟩).store =
      some ⟨p.c.bodyVal, stamp spec.cfg (a.sys.getCache ⟨p.fn, none⟩).now, 0⟩ := by
  rw [aStep_resume_some fns tls size isOk rs a id hp hs]
  simp only
  rw [getCache_setCache_same]
  exact callFinish_lookup_self spec hf (tls p.fn) size isOk rs _ p.c p.pre hst hno

/-- (4) a resumed call whose value is rejected (`cache_if` says no, or an `Err` without `cache_if`) leaves every
    cache instance as it is -/
theorem resume_rejected_changes_nothing (rs : List Nat) (a : ASys K V) (id : Nat) {p : PendingCall K V}
    {spec : FnSpec} (hp : a.pending.find? (fun p => p.id = id) = some p) (hs : fns[p.fn]? = some spec)
    (hst : shouldStore spec isOk (p.c.cacheIf p.c.key p.c.bodyVal) p.c.bodyVal = false) (cid : CacheId) :
    (aStep fns tls size isOk rs a (.callResume id)).1.sys.getCache cid = a.sys.getCache cid := by
  rw [aStep_resume_some fns tls size isOk rs a id hp hs]
  simp only
  rw [Calls.getCache_setCache]
  split
  · rename_i hid; subst hid; exact callFinish_rejected _ _ _ _ _ _ _ _ hst
  · rfl

/-- (4) an accepted value that alone exceeds `max_memory` is not held after the resume (the memory-aware store
    refuses it, and drops an entry of the key another caller may have stored meanwhile) -/
theorem resume_oversize_not_held (rs : List Nat) (a : ASys K V) (id : Nat) {p : PendingCall K V} {spec : FnSpec}
    (hp : a.pending.find? (fun p => p.id = id) = some p) (hs : fns[p.fn]? = some spec)
    (hst : shouldStore spec isOk (p.c.cacheIf p.c.key p.c.bodyVal) p.c.bodyVal = true)
    (hu : spec.useMem = true) (ho : oversize spec.cfg size p.c.bodyVal = true) :
    lookup p.c.key ((aStep fns tls size isOk rs a (.callResume id)).1.sys.getCache ⟨p.fn, none⟩).store = none := by
  rw [aStep_resume_some fns tls size isOk rs a id hp hs]
  simp only
  rw [getCache_setCache_same]
  exact callFinish_oversize spec (tls p.fn) size isOk rs _ p.c p.pre hst hu ho

/-- (4) a resume touches only the shared cache of its own function; registrations and clock stay -/
theorem resume_touches_only_own_cache (rs : List Nat) (a : ASys K V) (id : Nat) {p : PendingCall K V}
    {spec : FnSpec} (hp : a.pending.find? (fun p => p.id = id) = some p) (hs : fns[p.fn]? = some spec) :
    (∀ cid, cid ≠ ⟨p.fn, none⟩ →
      (aStep fns tls size isOk rs a (.callResume id)).1.sys.getCache cid = a.sys.getCache cid) ∧
    (aStep fns tls size isOk rs a (.callResume id)).1.sys.called = a.sys.called ∧
    (aStep fns tls size isOk rs a (.callResume id)).1.sys.now = a.sys.now ∧
    (aStep fns tls size isOk rs a (.callResume id)).1.pending = a.pending.filter (fun q => q.id ≠ id) := by
  rw [aStep_resume_some fns tls size isOk rs a id hp hs]
  refine ⟨?_, rfl, rfl, rfl⟩
  intro cid hc
  exact getCache_setCache_ne _ _ hc

end sys

/-! ## (5) The lock part: a suspended call holds nothing, the others complete meanwhile -/

section locks
open Cachelito.Conc Cachelito.AsyncLemmas.Locks

/-- **(5) at the await no cache lock is held.**  Every complete run of the lock skeleton of the lookup phase
    (`AsyncGlobalCache::get` of any async cache `c`, at hook level or with the DashMap shard guards shown)
    ends holding nothing. -/
theorem lookup_phase_holds_nothing (full : Bool) (c : Nat) {t : List Ev} (hr : Runs (Table.asyncGet full c) t) :
    heldAfterAll [] t = [] :=
  C17.suspended_holds_nothing (asyncGet_wf full c) hr

/-- (5) the finish phase (`insert` / `insert_with_memory`) is balanced as well: after the store nothing is held -/
theorem finish_phase_holds_nothing (full : Bool) (c : Nat) {t : List Ev}
    (hr : Runs (Table.asyncInsert full c) t ∨ Runs (Table.asyncInsertMem full c) t) :
    heldAfterAll [] t = [] := by
  rcases hr with hr | hr
  · exact C17.suspended_holds_nothing (asyncInsert_wf full c) hr
  · exact C17.suspended_holds_nothing (asyncInsertMem_wf full c) hr

/-- **(5) a suspended (or dropped) call holds no lock.**  In any state reachable by any interleaving, a thread
    that is parked right after the lookup phase of an async call (`ParkedAfterLookup`: it has completed some
    rank-respecting operations and then `AsyncGlobalCache::get`, and nothing of the store yet) holds no lock. -/
theorem suspended_call_holds_nothing (full : Bool) (paths : List (List Ev)) (s : Conc.State)
    (hreach : Reach (Conc.State.init paths) s) (i : ThreadId) (th : Conc.Thread) (hi : s[i]? = some th)
    (hp : ParkedAfterLookup full paths s i) : th.held = [] := by
  obtain ⟨th', before, c, pre, hi', hb, hpre, hpath⟩ := hp
  cases hi.symm.trans hi'
  refine parked_between_ops_holds_nothing hreach hi (fun o ho => ?_) hpre hpath
  rcases List.mem_append.1 ho with h | h
  · exact hb o h
  · rw [List.mem_singleton.1 h]; exact asyncGet_wf full c

/-- **(5) the others are never blocked by suspended calls.**  Any number of threads running operations of
    cachelito's table (calls, invalidations, statistics … on any caches), any reachable state, any set `susp` of
    threads parked at the await of an async call and never scheduled (suspended, or dropped there): while
    some other thread is unfinished, some other thread can take its next step. -/
theorem others_progress_while_suspended (full : Bool) (syncs asyncs : List Nat) (progs : List (List Skel))
    (hops : ∀ ops ∈ progs, ∀ o ∈ ops, o ∈ (Table.opTableOf full syncs asyncs).map (·.2))
    (paths : List (List Ev)) (hrun : IsRunOf progs paths)
    (s : Conc.State) (hreach : Reach (Conc.State.init paths) s) (susp : ThreadId → Prop)
    (hsusp : ∀ i, susp i → i < s.length → ParkedAfterLookup full paths s i)
    (hun : ∃ (i : ThreadId) (th : Conc.Thread), s[i]? = some th ∧ ¬ susp i ∧ th.todo ≠ []) :
    ∃ i, ¬ susp i ∧ enabledB s i = true := by
  refine C17.progress_despite_suspended progs (Table.wf_of_progs_in_table hops) paths hrun s hreach susp ?_ hun
  intro i th hi hs
  exact suspended_call_holds_nothing full paths s hreach i th hi (hsusp i hs (List.getElem?_eq_some_iff.1 hi).1)

/-- **(5) the others complete meanwhile.**  Same setting: there is a schedule of the OTHER threads only, every
    step of which is enabled, after which every other thread has completed all its operations, while the
    suspended calls stand exactly where they were (never scheduled, holding nothing). -/
theorem others_finish_while_suspended (full : Bool) (syncs asyncs : List Nat) (progs : List (List Skel))
    (hops : ∀ ops ∈ progs, ∀ o ∈ ops, o ∈ (Table.opTableOf full syncs asyncs).map (·.2))
    (paths : List (List Ev)) (hrun : IsRunOf progs paths)
    (s : Conc.State) (hreach : Reach (Conc.State.init paths) s) (susp : ThreadId → Prop)
    (hsusp : ∀ i, susp i → i < s.length → ParkedAfterLookup full paths s i) :
    ∃ (sched : List ThreadId) (s' : Conc.State), (∀ i ∈ sched, ¬ susp i) ∧ runSchedule sched s = some s' ∧
      (∀ (i : ThreadId) (th : Conc.Thread), s'[i]? = some th → ¬ susp i → th.todo = []) ∧
      (∀ i, susp i → s'[i]? = s[i]?) := by
  refine others_finish ((allWf_of_isRunOf (Table.wf_of_progs_in_table hops) hrun).reach hreach) susp ?_
  intro i th hi hs
  exact suspended_call_holds_nothing full paths s hreach i th hi (hsusp i hs (List.getElem?_eq_some_iff.1 hi).1)

/-- **(5) resumed later, the parked calls complete too.**  From any reachable state of such a system — in
    particular the one in which the others have finished and only the parked calls remain — there is a
    schedule, every step enabled, that finishes every thread: the store phase of a resumed call gets its locks. -/
theorem resumed_calls_finish (full : Bool) (syncs asyncs : List Nat) (progs : List (List Skel))
    (hops : ∀ ops ∈ progs, ∀ o ∈ ops, o ∈ (Table.opTableOf full syncs asyncs).map (·.2))
    (paths : List (List Ev)) (hrun : IsRunOf progs paths)
    (s : Conc.State) (hreach : Reach (Conc.State.init paths) s) :
    ∃ (sched : List ThreadId) (s' : Conc.State), runSchedule sched s = some s' ∧ allFinished s' = true :=
  all_finish ((allWf_of_isRunOf (Table.wf_of_progs_in_table hops) hrun).reach hreach)

end locks

/-! ## Non-vacuity

  One async function `f` (index 0): async flavour, LRU, `limit = 2`, tag `"t"`; `K = V = Nat`.
  Every check is an evaluation of the executable model. -/

section Examples

/-- a TLRU score algebra over `Nat` (unused by the LRU example) -/
def exTl : Nat → Tlru Nat := fun _ => ⟨fun a b => decide (a < b), fun _ h _ r => h * r⟩
/-- the universe of functions: one `#[cache_async(limit = 2, policy = "lru", tags = ["t"])]` -/
def exFns : List FnSpec :=
  [{ name := "f", isAsync := true, threadScope := false, cfg := ⟨.async, .lru, some 2, none, none⟩,
     useMem := false, isResult := false, hasCacheIf := false, hasInvalidateOn := false,
     tags := ["t"], events := [], deps := [] }]
/-- a call with key `k` whose body returns `v`; no user predicates -/
def exCall (k v : Nat) : CallIn Nat Nat := ⟨k, v, fun _ _ => true, fun _ _ => false⟩
/-- run a history (no random draws needed) -/
def exRun (a : ASys Nat Nat) (ops : List (AOp Nat Nat)) : ASys Nat Nat × List (AOut Nat Nat) :=
  aRun exFns exTl (fun _ => 0) (fun _ => true) a (ops.map (fun o => (o, [])))
/-- entries `(key, value)` of `f`'s cache, its order queue, the ids of the parked calls -/
def view (a : ASys Nat Nat) : List (Nat × Nat) × List Nat × List Nat :=
  (((a.sys.getCache ⟨0, none⟩).store.map (fun p => (p.1, p.2.val))), (a.sys.getCache ⟨0, none⟩).queue,
   a.pending.map (·.id))
/-- outputs, coded: `[0, v]` returned `v`; `[1]` suspended; `[2]` unit; `[3]` no such call;
    `[4, v]` a base call returned `v`; `[5, n]` an invalidation count; `[6]` other -/
def code : AOut Nat Nat → List Nat
  | .ret v _ => [0, v]
  | .suspended _ => [1]
  | .unit => [2]
  | .noSuchCall => [3]
  | .base (.ret v _) => [4, v]
  | .base (.count n) => [5, n]
  | .base _ => [6]
/-- `(hits, misses)` of `f`'s cache -/
def stats (a : ASys Nat Nat) : Nat × Nat := ((a.sys.getCache ⟨0, none⟩).hitStat, (a.sys.getCache ⟨0, none⟩).missStat)

/-- the hypotheses of (1), (4) are satisfiable: `f` exists, is not thread-scope, is async with `limit = 2` -/
example : exFns[0]?.map (·.threadScope) = some false ∧
    exFns[0]?.map (·.cfg) = some ⟨.async, .lru, some 2, none, none⟩ := by decide

/-- **Resume after interference.**  A call `f(1)` (body value 10) is begun: miss, parked.  Meanwhile another
    caller calls `f(1)` (its body gives 11): stored; `invalidate_by_tag "t"` clears the cache (count 1).  Then
    the parked call is resumed: it returns 10 and its value IS stored, the queue tracks it, nothing parked. -/
example :
    let ops : List (AOp Nat Nat) :=
      [.callBegin 7 0 (exCall 1 10), .base (.call 0 0 (exCall 1 11)), .base (.invalidateByTag "t"), .callResume 7]
    view (exRun ASys.init (ops.take 1)).1 = ([], [], [7]) ∧
    view (exRun ASys.init (ops.take 2)).1 = ([(1, 11)], [1], [7]) ∧
    view (exRun ASys.init (ops.take 3)).1 = ([], [], [7]) ∧
    view (exRun ASys.init ops).1 = ([(1, 10)], [1], []) ∧
    (exRun ASys.init ops).2.map code = [[1], [4, 11], [5, 1], [0, 10]] := by decide +kernel

/-- resume WITHOUT the invalidation: the late store replaces the other caller's entry (one entry, one queue slot) -/
example :
    let ops : List (AOp Nat Nat) :=
      [.callBegin 7 0 (exCall 1 10), .base (.call 0 0 (exCall 1 11)), .callResume 7]
    view (exRun ASys.init ops).1 = ([(1, 10)], [1], []) ∧
    (exRun ASys.init ops).2.map code = [[1], [4, 11], [0, 10]] := by decide +kernel

/-- **Drop after interference.**  Same history with `callDrop`: the final cache is exactly the cache of the
    history run from `lookupOnly` (no call at all beyond its lookup): empty after the invalidation; without the
    invalidation it holds the OTHER caller's value 11 and the dropped call's 10 is nowhere.  The lookup did
    happen: the statistics count two misses (the dropped call's and the other caller's). -/
example :
    let h : List (AOp Nat Nat) := [.base (.call 0 0 (exCall 1 11)), .base (.invalidateByTag "t")]
    let h' : List (AOp Nat Nat) := [.base (.call 0 0 (exCall 1 11))]
    let lo : ASys Nat Nat := ⟨lookupOnly exFns Sys.init 0 (exCall 1 10), []⟩
    view (exRun ASys.init (.callBegin 7 0 (exCall 1 10) :: h ++ [.callDrop 7])).1 = ([], [], []) ∧
    view (exRun lo h).1 = ([], [], []) ∧
    view (exRun ASys.init (.callBegin 7 0 (exCall 1 10) :: h' ++ [.callDrop 7])).1 = ([(1, 11)], [1], []) ∧
    view (exRun lo h').1 = ([(1, 11)], [1], []) ∧
    stats (exRun ASys.init (.callBegin 7 0 (exCall 1 10) :: h' ++ [.callDrop 7])).1 = (0, 2) ∧
    stats (exRun lo h').1 = (0, 2) ∧ stats (exRun ASys.init h').1 = (0, 1) ∧
    (exRun ASys.init (.callBegin 7 0 (exCall 1 10) :: h ++ [.callDrop 7, .callResume 7])).2.map code =
      [[1], [4, 11], [5, 1], [2], [3]] := by decide +kernel

/-- the histories above satisfy the side condition of (3): they do not name call 7 -/
example : ∀ x ∈ ([.base (.call 0 0 (exCall 1 11)), .base (.invalidateByTag "t"), .callBegin 8 0 (exCall 2 20),
    .callResume 8] : List (AOp Nat Nat)), mentions 7 x = false := by decide

/-- **Two overlapping parked calls for the same key, resumed in both orders**: the later resume wins, and in
    both orders there is exactly one entry and one queue slot for the key. -/
example :
    let b : List (AOp Nat Nat) := [.callBegin 1 0 (exCall 1 10), .callBegin 2 0 (exCall 1 20)]
    view (exRun ASys.init b).1 = ([], [], [2, 1]) ∧
    view (exRun ASys.init (b ++ [.callResume 1, .callResume 2])).1 = ([(1, 20)], [1], []) ∧
    (exRun ASys.init (b ++ [.callResume 1, .callResume 2])).2.map code = [[1], [1], [0, 10], [0, 20]] ∧
    view (exRun ASys.init (b ++ [.callResume 2, .callResume 1])).1 = ([(1, 10)], [1], []) ∧
    (exRun ASys.init (b ++ [.callResume 2, .callResume 1])).2.map code = [[1], [1], [0, 20], [0, 10]] ∧
    stats (exRun ASys.init (b ++ [.callResume 2, .callResume 1])).1 = (0, 2) := by decide +kernel

/-- one of the two dropped, the other resumed: only the resumed value is stored -/
example :
    let ops : List (AOp Nat Nat) :=
      [.callBegin 1 0 (exCall 1 10), .callBegin 2 0 (exCall 1 20), .callDrop 2, .callResume 1, .callResume 2]
    view (exRun ASys.init ops).1 = ([(1, 10)], [1], []) ∧
    (exRun ASys.init ops).2.map code = [[1], [1], [2], [0, 10], [3]] ∧
    completions exFns exTl (fun _ => 0) (fun _ => true) ASys.init (ops.map (fun o => (o, []))) =
      [(⟨0, none⟩, 1, 10)] := by decide +kernel

/-- **Late stores respect the limit** (`limit = 2`): three overlapping calls for three keys, resumed after each
    other — the third store evicts the least recently used entry. -/
example :
    let ops : List (AOp Nat Nat) :=
      [.callBegin 1 0 (exCall 1 10), .callBegin 2 0 (exCall 2 20), .callBegin 3 0 (exCall 3 30),
       .callResume 3, .callResume 1, .callResume 2]
    view (exRun ASys.init ops).1 = ([(1, 10), (2, 20)], [1, 2], []) := by decide +kernel

/-- a `callBegin` that hits is complete at once: value from the cache, nothing parked -/
example :
    let ops : List (AOp Nat Nat) := [.base (.call 0 0 (exCall 1 10)), .callBegin 5 0 (exCall 1 99)]
    view (exRun ASys.init ops).1 = ([(1, 10)], [1], []) ∧
    (exRun ASys.init ops).2.map code = [[4, 10], [0, 10]] ∧ stats (exRun ASys.init ops).1 = (1, 1) := by decide +kernel

/-- (1) on the example: begin + resume = the ordinary call, on the system part -/
example :
    let a := (exRun ASys.init [.callBegin 9 0 (exCall 4 40), .callResume 9]).1
    let b := (sysStep exFns exTl (fun _ => 0) (fun _ => true) [] Sys.init (.call 0 0 (exCall 4 40))).1
    view a = ([(4, 40)], [4], []) ∧ view ⟨b, []⟩ = ([(4, 40)], [4], []) ∧ a.sys.called = b.called := by decide +kernel

/-! Locks: thread 0 is an async call on cache 2 whose lookup purges an expired entry (`[O]`) and whose store
    takes the queue mutex again; thread 1 is `invalidate_cache` of that cache (`[Rc.r{ [O] }]`). -/

open Cachelito.Conc in
/-- lock events of the lookup phase (expired entry purged under the queue mutex) -/
def exPre : List Ev := [.acq (Table.O 2) .excl, .rel (Table.O 2)]
open Cachelito.Conc in
/-- lock events of the store phase -/
def exPost : List Ev := [.acq (Table.O 2) .excl, .rel (Table.O 2)]
open Cachelito.Conc in
/-- lock events of `invalidate_cache` on the async cache -/
def exInval : List Ev := [.acq Table.Rc .shared, .acq (Table.O 2) .excl, .rel (Table.O 2), .rel Table.Rc]
open Cachelito.Conc in
/-- the two thread programs -/
def exProgs : List (List Skel) :=
  [[Table.asyncGet false 2, Table.asyncInsert false 2], [Table.invalidateCache (Table.asyncClearCb false 2)]]
open Cachelito.Conc in
/-- the event lists the two threads perform -/
def exPaths : List (List Ev) := [exPre ++ exPost, exInval]

open Cachelito.Conc in
/-- the hypotheses of (5) hold: the programs are table entries, the event lists are runs of them -/
example : (∀ ops ∈ exProgs, ∀ o ∈ ops, o ∈ (Table.opTableOf false [0, 1] [2]).map (·.2)) ∧
    accepts (Table.asyncGet false 2) exPre = true ∧ accepts (Table.asyncInsert false 2) exPost = true := by decide +kernel

open Cachelito.Conc in
example : IsRunOf exProgs exPaths :=
  ⟨(accepts_iff _ _).1 (by decide +kernel), (accepts_iff _ _).1 (by decide +kernel), trivial⟩

open Cachelito.Conc Cachelito.AsyncLemmas.Locks in
/-- after its lookup phase (schedule `[0, 0]`) thread 0 is `ParkedAfterLookup` … -/
example : ParkedAfterLookup false exPaths [⟨[], exPost⟩, ⟨[], exInval⟩] 0 :=
  ⟨⟨[], exPost⟩, [], 2, exPre, rfl, by simp, (accepts_iff _ _).1 (by decide), rfl⟩

open Cachelito.Conc in
/-- … it holds nothing, the invalidation runs to completion while it stays parked (`[1, 1, 1, 1]`), and the
    resumed store then completes as well.  Contrast: parked in the MIDDLE of the lookup (holding the queue
    mutex — which the generated code never does across an await) it would block the invalidation. -/
example :
    runSchedule [0, 0] (Conc.State.init exPaths) = some [⟨[], exPost⟩, ⟨[], exInval⟩] ∧
    (runSchedule [0, 0, 1, 1, 1, 1] (Conc.State.init exPaths)).map (fun s => s.map (·.todo.length)) = some [2, 0] ∧
    (runSchedule [0, 0, 1, 1, 1, 1, 0, 0] (Conc.State.init exPaths)).map allFinished = some true ∧
    (runSchedule [0, 1] (Conc.State.init exPaths)).map (fun s => (enabledB s 1, enabledB s 0)) =
      some (false, true) := by decide +kernel

end Examples

end Cachelito.C20
