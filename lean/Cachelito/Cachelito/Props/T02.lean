/-
  T02 — TRANSLATOR TIE, utils.rs: queue / store helpers and the victim scans of the sync engines (C04, C07, C08, C13)

  The functions named here are regenerated from /repo's CURRENT source on every check by `checklib/rust2lean.py`
  (`Generated/Pure*.lean`); the theorems are re-proved against whatever was generated (see `Props/T01.lean`).
  The `f64` code is translated over an ARBITRARY structure of float operations (`RustLite.F64`).  Hypotheses that appear
  are the modelling assumptions of DESIGN.md §9: hit counters below `u64::MAX`, scores below `f64::MAX`, `as f64` and `*`
  exact and order-preserving on products of naturals.  The last two are asked of ALL naturals, not only of the products
  that occur: an idealisation (no finite float format is exact beyond its integer range); `natTop` below meets it.
-/
import Cachelito.Generated.PureUtils
import Cachelito.Lemmas.Source


namespace Cachelito.T02
open Cachelito Cachelito.RustLite Cachelito.Generated Cachelito.SourceLemmas
open Cachelito.Generated.Utils

variable {K V F : Type} [DecidableEq K]

/-- `move_key_to_end` is `moveToEnd` (the key goes to the back only if it is queued) -/
theorem move_key_to_end_eq (q : List K) (k : K) : move_key_to_end q k = moveToEnd k q := by
  unfold move_key_to_end moveToEnd
  cases h : position (fun x => decide (x = k)) q with
  | none => simp [position_none k q h]
  | some i =>
    obtain ⟨hm, he, _⟩ := position_some k q i h
    simp [hm, he, dequeRemove, pushBack]

/-- `remove_from_maps`: the entry leaves the store, the FIRST queue slot of the key leaves the queue; the flags say
    what was there -/
theorem remove_from_maps_eq (m : Store K V) (q : List K) (k : K) :
    remove_from_maps m q k = ((hasKey k m, decide (k ∈ q)), eraseKey k m, q.erase k) := by
  unfold remove_from_maps
  cases h : position (fun x => decide (x = k)) q with
  | none =>
    have hn := position_none k q h
    simp [mapRemove, hasKey, hn, List.erase_of_not_mem hn]
  | some i =>
    obtain ⟨hm, he, _⟩ := position_some k q i h
    simp [mapRemove, hasKey, hm, he, dequeRemove]

/-- both wrappers of `remove_from_maps` (`remove_key_from_global_cache`, `remove_key_from_cache_local`) remove the
    key from both structures — the sync engines' `removeBoth` — and report whether anything was there -/
theorem remove_key_eq (m : Store K V) (q : List K) (k : K) :
    remove_key_from_global_cache m q k = (hasKey k m || decide (k ∈ q), eraseKey k m, q.erase k) ∧
    remove_key_from_cache_local m q k = (hasKey k m || decide (k ∈ q), eraseKey k m, q.erase k) := by
  simp [remove_key_from_global_cache, remove_key_from_cache_local, remove_from_maps_eq]

theorem remove_key_is_removeBoth (cfg : Cfg) (hf : cfg.flavour ≠ .async) (m : Store K V) (q : List K) (k : K) :
    (remove_key_from_global_cache m q k).2 = removeBoth cfg k m q ∧
    (remove_key_from_cache_local m q k).2 = removeBoth cfg k m q := by
  have h := remove_key_eq m q k
  cases hfl : cfg.flavour <;> simp_all [removeBoth]

/-! ### the victim scans -/

/-- **LFU**: `find_min_frequency_key` returns the first minimum of the hit counters among the stored queue keys, in queue
    order — the model's `victim` under LFU — as long as no hit counter has reached `u64::MAX` -/
theorem find_min_frequency_key_eq (m : Store K V) (q : List K) (hmax : ∀ k e, lookup k m = some e → e.hits < u64Max) :
    find_min_frequency_key m q = firstMin (fun a b => decide (a < b)) (cands (fun e _ _ => e.hits) m q) := by
  unfold find_min_frequency_key
  dsimp only
  rw [foldl_congr' (g := fun (st : Nat × Option K) (k : K) =>
          match lookup k m with
          | some e => if (decide (e.hits < st.1)) = true then (e.hits, some k) else st
          | none => st)]
  · exact fold_keys_eq_firstMin (fun a b => decide (a < b)) u64Max (fun e : Entry V => e.hits) m q
      (fun k e he => decide_eq_true (hmax k e he))
  · intro st k
    cases lookup k m <;> rfl

/-- **ARC (sync engines)**: `find_arc_eviction_key` over `order.iter().enumerate()`, score `frequency as f64 *
    (total_len - idx) as f64`, is the model's ARC victim, for every float structure in which `as f64` and `*` are exact and
    order-preserving on products of naturals and those products stay below `f64::MAX` -/
theorem find_arc_eviction_key_eq (A : F64 F) (cfg : Cfg) (tl : Tlru F) (now : Nat)
    (hp : cfg.policy = .arc) (hf : cfg.flavour ≠ .async) (m : Store K V) (q : List K)
    (hmax : ∀ a b, A.lt (A.mul (A.ofNat a) (A.ofNat b)) A.maxVal = true)
    (hord : ∀ a b c d, A.lt (A.mul (A.ofNat a) (A.ofNat b)) (A.mul (A.ofNat c) (A.ofNat d)) = decide (a * b < c * d)) :
    find_arc_eviction_key A m (enumerate q) = victim cfg tl now m q := by
  have hrank : ∀ i len, rank cfg i len = len - i := by
    intro i len; cases hfl : cfg.flavour <;> simp_all [rank]
  unfold find_arc_eviction_key
  dsimp only
  rw [enumerate_length, victim, hp, foldl_congr' (g := fun (st : F × Option K) (p : Nat × K) =>
          match lookup p.2 m with
          | some e => if A.lt (A.mul (A.ofNat e.hits) (A.ofNat (q.length - p.1))) st.1
              then (A.mul (A.ofNat e.hits) (A.ofNat (q.length - p.1)), some p.2) else st
          | none => st)]
  · simp only [hrank]
    exact (fold_eq_firstMin A.lt A.maxVal (fun (e : Entry V) i len => A.mul (A.ofNat e.hits) (A.ofNat (len - i))) m q
      (fun _ _ _ _ => hmax _ _)).trans (firstMin_arc A hord (fun i len => len - i) m q)
  · intro st p
    cases lookup p.2 m <;> rfl

/-- the TLRU score as the CURRENT source computes it (sync engines): `frequency [× weight] × rank × age factor`,
    age factor `max(1 − min(elapsed / ttl, 1), 0)`.  It is an instance of the model's `Tlru`, so every theorem of
    C08 (which quantify over all scorers) speaks about it. -/
def srcTlru (A : F64 F) (fw : Option F) : Tlru F where
  lt := A.lt
  score cfg hits elapsedMs rank :=
    A.mul (A.mul (match fw with | some w => A.mul (A.ofNat hits) w | none => A.ofNat hits) (A.ofNat rank))
      (match cfg.ttl with
       | some t => A.max (A.sub A.one (A.min (A.div (A.ofDuration elapsedMs) (A.ofNat t)) A.one)) A.zero
       | none => A.one)

/-- **TLRU (sync engines)**: `find_tlru_eviction_key` over `order.iter().enumerate()` is the model's TLRU victim for
    the scorer `srcTlru` (the documented formula), for every float structure, provided the scores stay below
    `f64::MAX` -/
theorem find_tlru_eviction_key_eq (A : F64 F) (fw : Option F) (cfg : Cfg) (now : Nat)
    (hp : cfg.policy = .tlru) (hf : cfg.flavour ≠ .async) (m : Store K V) (q : List K)
    (hmax : ∀ hits el rk, A.lt ((srcTlru A fw).score cfg hits el rk) A.maxVal = true) :
    find_tlru_eviction_key A ⟨fun b => now - b, now⟩ m (enumerate q) cfg.ttl fw = victim cfg (srcTlru A fw) now m q := by
  have hrank : ∀ i len, rank cfg i len = len - i := by
    intro i len; cases hfl : cfg.flavour <;> simp_all [rank]
  have hel : ∀ b, elapsedMs cfg now b = now - b := by
    intro b; cases hfl : cfg.flavour <;> simp_all [elapsedMs]
  unfold find_tlru_eviction_key
  dsimp only
  rw [enumerate_length]
  rw [foldl_congr' (g := fun (st : F × Option K) (p : Nat × K) =>
          match lookup p.2 m with
          | some e => if A.lt ((srcTlru A fw).score cfg e.hits (now - e.birth) (q.length - p.1)) st.1
              then ((srcTlru A fw).score cfg e.hits (now - e.birth) (q.length - p.1), some p.2) else st
          | none => st)]
  · rw [victim, hp]
    simp only [hrank, hel]
    exact fold_eq_firstMin A.lt A.maxVal (fun (e : Entry V) i len => (srcTlru A fw).score cfg e.hits (now - e.birth) (len - i))
      m q (fun _ _ _ _ => hmax _ _ _)
  · intro st p
    obtain ⟨fl, pol, lim, mm, ttl⟩ := cfg
    cases lookup p.2 m with
    | none => rfl
    | some e => cases fw <;> cases ttl <;> rfl


/-- the three scans together, as the sync engines call them: whichever of them the policy selects finds the model's
    `victim` -/
theorem find_victim_eq (A : F64 F) (fw : Option F) (cfg : Cfg) (now : Nat) (hf : cfg.flavour ≠ .async)
    (m : Store K V) (q : List K) (hhits : ∀ k e, lookup k m = some e → e.hits < u64Max)
    (hmax : ∀ a b, A.lt (A.mul (A.ofNat a) (A.ofNat b)) A.maxVal = true)
    (hord : ∀ a b c d, A.lt (A.mul (A.ofNat a) (A.ofNat b)) (A.mul (A.ofNat c) (A.ofNat d)) = decide (a * b < c * d))
    (htl : ∀ hits el rk, A.lt ((srcTlru A fw).score cfg hits el rk) A.maxVal = true) :
    (cfg.policy = .lfu → find_min_frequency_key m q = victim cfg (srcTlru A fw) now m q) ∧
    (cfg.policy = .arc → find_arc_eviction_key A m (enumerate q) = victim cfg (srcTlru A fw) now m q) ∧
    (cfg.policy = .tlru →
      find_tlru_eviction_key A ⟨fun b => now - b, now⟩ m (enumerate q) cfg.ttl fw = victim cfg (srcTlru A fw) now m q) :=
  ⟨fun hp => (find_min_frequency_key_eq m q hhits).trans (by rw [victim, hp]),
   fun hp => find_arc_eviction_key_eq A cfg _ now hp hf m q hmax hord,
   fun hp => find_tlru_eviction_key_eq A fw cfg now hp hf m q htl⟩

/-! ### non-vacuity: the two float hypotheses of the ARC theorem hold together in `natTop` -/

/-- a float structure on `Option Nat` (`none` = `f64::MAX`, above every product): exact, order-preserving -/
def natTop : F64 (Option Nat) where
  ofNat n := some n
  ofDuration ms := some (ms / 1000)
  maxVal := none
  zero := some 0
  one := some 1
  add a b := do let x ← a; let y ← b; pure (x + y)
  sub a b := do let x ← a; let y ← b; pure (x - y)
  mul a b := do let x ← a; let y ← b; pure (x * y)
  div a b := do let x ← a; let y ← b; pure (x / y)
  powf a b := do let x ← a; let y ← b; pure (x ^ y)
  min a b := match a, b with | some x, some y => some (Nat.min x y) | some x, none => some x | none, y => y
  max a b := match a, b with | some x, some y => some (Nat.max x y) | _, _ => none
  lt a b := match a, b with | some x, some y => decide (x < y) | some _, none => true | none, _ => false
  le a b := match a, b with | some x, some y => decide (x ≤ y) | _, none => true | none, some _ => false
  gt a b := match a, b with | some x, some y => decide (x > y) | none, some _ => true | _, none => false
  ge a b := match a, b with | some x, some y => decide (x ≥ y) | none, _ => true | some _, none => false

example : (∀ a b, natTop.lt (natTop.mul (natTop.ofNat a) (natTop.ofNat b)) natTop.maxVal = true) ∧
    (∀ a b c d, natTop.lt (natTop.mul (natTop.ofNat a) (natTop.ofNat b)) (natTop.mul (natTop.ofNat c) (natTop.ofNat d))
      = decide (a * b < c * d)) := by
  constructor <;> intros <;> rfl

/-- the translated ARC scan run on a concrete cache (sync orientation `len − idx`: scores a = 2·3, b = 2·2, c = 5·1) -/
example : find_arc_eviction_key natTop
    ([("a", ⟨1, 0, 2⟩), ("b", ⟨2, 0, 2⟩), ("c", ⟨3, 0, 5⟩)] : Store String Nat) (enumerate ["a", "b", "c"]) = some "b" := by
  decide

end Cachelito.T02
