/-
  T06 — TRANSLATOR TIE, async_global_cache.rs: the three victim scans of the async engine (C08; the rank orientation
  `idx + 1` that the repaired defect F2 had reversed, the power weight, whole-second ages)

  The functions named here are regenerated from /repo's CURRENT source on every check by `checklib/rust2lean.py`
  (`Generated/PureAsync.lean`); the theorems are re-proved against whatever was generated (see `Props/T01.lean`).
  `self` is the record `RustLite.AsyncCache` (the DashMap as a store, the configuration); the `f64` code is translated
  over an ARBITRARY structure of float operations.  Hypotheses: the modelling assumptions of DESIGN.md §9.
-/
import Cachelito.Generated.PureAsync
import Cachelito.Lemmas.Source


namespace Cachelito.T06
open Cachelito Cachelito.RustLite Cachelito.Generated Cachelito.SourceLemmas
open Cachelito.Generated.Async

variable {K V F : Type} [DecidableEq K]

def cfgOf (c : AsyncCache K V F) : Cfg := ⟨.async, c.policy, c.limit, c.max_memory, c.ttl⟩

/-- **LFU (async)**: the source's scan is the model's LFU victim -/
theorem find_min_frequency_key_eq (c : AsyncCache K V F) (tl : Tlru F) (now : Nat) (hp : c.policy = .lfu)
    (q : List K) (hmax : ∀ k e, lookup k c.cache = some e → e.hits < u64Max) :
    find_min_frequency_key c q = victim (cfgOf c) tl now c.cache q := by
  unfold find_min_frequency_key
  dsimp only
  rw [victim, show (cfgOf c).policy = .lfu from hp, foldl_congr' (g := fun (st : Nat × Option K) (k : K) =>
          match lookup k c.cache with
          | some e => if (decide (e.hits < st.1)) = true then (e.hits, some k) else st
          | none => st)]
  · exact fold_keys_eq_firstMin (fun a b => decide (a < b)) u64Max (fun e : Entry V => e.hits) c.cache q
      (fun k e he => decide_eq_true (hmax k e he))
  · intro st k
    cases lookup k c.cache <;> rfl

/-- **ARC (async)**: the source's scan, score `frequency as f64 * (idx + 1) as f64`, is the model's ARC victim with rank
    `idx + 1` (more recently used = higher rank) -/
theorem find_arc_eviction_key_eq (A : F64 F) (c : AsyncCache K V F) (tl : Tlru F) (now : Nat) (hp : c.policy = .arc)
    (q : List K)
    (hmax : ∀ a b, A.lt (A.mul (A.ofNat a) (A.ofNat b)) A.maxVal = true)
    (hord : ∀ a b c d, A.lt (A.mul (A.ofNat a) (A.ofNat b)) (A.mul (A.ofNat c) (A.ofNat d)) = decide (a * b < c * d)) :
    find_arc_eviction_key A c q = victim (cfgOf c) tl now c.cache q := by
  unfold find_arc_eviction_key
  dsimp only
  rw [victim, show (cfgOf c).policy = .arc from hp, foldl_congr' (g := fun (st : F × Option K) (p : Nat × K) =>
          match lookup p.2 c.cache with
          | some e => if A.lt (A.mul (A.ofNat e.hits) (A.ofNat (p.1 + 1))) st.1
              then (A.mul (A.ofNat e.hits) (A.ofNat (p.1 + 1)), some p.2) else st
          | none => st)]
  -- `rank (cfgOf c) i len` reduces to `i + 1`, the flavour of `cfgOf c` being the constructor `.async`
  · exact (fold_eq_firstMin A.lt A.maxVal (fun (e : Entry V) i _ => A.mul (A.ofNat e.hits) (A.ofNat (i + 1))) c.cache q
      (fun _ _ _ _ => hmax _ _)).trans (firstMin_arc A hord (fun i _ => i + 1) c.cache q)
  · intro st p
    cases lookup p.2 c.cache <;> rfl

/-- the TLRU score as the CURRENT source computes it in the async engine: `frequency^weight × (idx + 1) × age factor`
    with the age in WHOLE seconds (`elapsedMs` is a multiple of 1000 there) and `0` for an entry never hit -/
def srcTlruAsync (A : F64 F) (fw : Option F) : Tlru F where
  lt := A.lt
  score cfg hits elapsedMs rank :=
    A.mul (A.mul (match fw with
        | some w => if A.gt (A.ofNat hits) A.zero then A.powf (A.ofNat hits) w else A.zero
        | none => A.ofNat hits) (A.ofNat rank))
      (match cfg.ttl with
       | some t => A.max (A.sub A.one (A.min (A.div (A.ofNat (elapsedMs / 1000)) (A.ofNat t)) A.one)) A.zero
       | none => A.one)

/-- **TLRU (async)**: the source's scan is the model's TLRU victim for the scorer `srcTlruAsync` -/
theorem find_tlru_eviction_key_eq (A : F64 F) (c : AsyncCache K V F) (now : Nat) (hp : c.policy = .tlru) (q : List K)
    (hmax : ∀ hits el rk, A.lt ((srcTlruAsync A c.frequency_weight).score (cfgOf c) hits el rk) A.maxVal = true) :
    find_tlru_eviction_key A ⟨fun _ => 0, now⟩ c q = victim (cfgOf c) (srcTlruAsync A c.frequency_weight) now c.cache q := by
  unfold find_tlru_eviction_key
  dsimp only
  rw [foldl_congr' (g := fun (st : F × Option K) (p : Nat × K) =>
          match lookup p.2 c.cache with
          | some e =>
            if A.lt ((srcTlruAsync A c.frequency_weight).score (cfgOf c) e.hits ((now / 1000 - e.birth / 1000) * 1000) (p.1 + 1)) st.1
              then ((srcTlruAsync A c.frequency_weight).score (cfgOf c) e.hits ((now / 1000 - e.birth / 1000) * 1000) (p.1 + 1), some p.2)
              else st
          | none => st)]
  · rw [victim, show (cfgOf c).policy = .tlru from hp]
    exact fold_eq_firstMin A.lt A.maxVal (fun (e : Entry V) i (_ : Nat) =>
        (srcTlruAsync A c.frequency_weight).score (cfgOf c) e.hits ((now / 1000 - e.birth / 1000) * 1000) (i + 1))
      c.cache q (fun _ _ _ _ => hmax _ _ _)
  · intro st p
    cases lookup p.2 c.cache with
    | none => rfl
    | some e =>
      -- the model's age is in ms (whole seconds × 1000), the source's in whole seconds
      have hsecs : (now / 1000 - e.birth / 1000) * 1000 / 1000 = now / 1000 - e.birth / 1000 :=
        Nat.mul_div_cancel _ (by decide)
      simp only [srcTlruAsync, cfgOf, hsecs]
      cases c.frequency_weight <;> cases c.ttl <;> rfl

/-- the three scans together: whichever of them the policy selects finds the model's `victim` -/
theorem find_victim_eq (A : F64 F) (c : AsyncCache K V F) (now : Nat) (q : List K)
    (hhits : ∀ k e, lookup k c.cache = some e → e.hits < u64Max)
    (hmax : ∀ a b, A.lt (A.mul (A.ofNat a) (A.ofNat b)) A.maxVal = true)
    (hord : ∀ a b c d, A.lt (A.mul (A.ofNat a) (A.ofNat b)) (A.mul (A.ofNat c) (A.ofNat d)) = decide (a * b < c * d))
    (htl : ∀ hits el rk, A.lt ((srcTlruAsync A c.frequency_weight).score (cfgOf c) hits el rk) A.maxVal = true) :
    (c.policy = .lfu → find_min_frequency_key c q = victim (cfgOf c) (srcTlruAsync A c.frequency_weight) now c.cache q) ∧
    (c.policy = .arc → find_arc_eviction_key A c q = victim (cfgOf c) (srcTlruAsync A c.frequency_weight) now c.cache q) ∧
    (c.policy = .tlru →
      find_tlru_eviction_key A ⟨fun _ => 0, now⟩ c q = victim (cfgOf c) (srcTlruAsync A c.frequency_weight) now c.cache q) :=
  ⟨fun hp => find_min_frequency_key_eq c _ now hp q hhits,
   fun hp => find_arc_eviction_key_eq A c _ now hp q hmax hord,
   fun hp => find_tlru_eviction_key_eq A c now hp q htl⟩

end Cachelito.T06
