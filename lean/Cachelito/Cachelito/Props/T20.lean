/-
  T20 — TRANSLATOR TIE, cachelito-core/src/invalidation.rs: the invalidation registry (C12, C13)

  `checklib/rust2lean.py` translates every method of `InvalidationRegistry` — `register`, `register_callback`,
  `register_invalidation_callback`, `invalidate_caches`, `invalidate_by_tag / _event / _dependency`, `invalidate_cache`,
  `get_caches_by_tag / _event`, `get_dependent_caches`, `invalidate_with`, `invalidate_all_with`, `clear` — from /repo's CURRENT
  source into `Generated/PureRegistry.lean` (state: the six tables, `RegistrySt`).  INVOKING a callback is recorded in a log
  the translated function returns next to its own result; a conditional callback is logged together with the predicate it
  is handed.

  Theorems: each translated method IS the corresponding operation of the hand-written registry model `Registry.step`
  (`Cachelito/Registry.lean`), about which `C12r` proves the table theorems and the refinement to `System.lean`.  For the four
  methods that write (`register`, `register_callback`, `register_invalidation_callback`, `clear`): the same tables
  afterwards.  For the ten requests, which only read the tables (the translated functions return no state): the same
  count / flag / name list, the same callbacks invoked, in the same order.  The translated tables are the model's `Table`s,
  lists in insertion order standing for the source's `HashMap<String, HashSet<String>>`, and "order" is the order of
  those lists; of the source's iteration order, which Rust leaves open, only which callbacks run and how many is meant.
  Beyond what `Registry.step` records: `invalidate_with` hands the chosen cache's callback exactly the caller's predicate, and
  `invalidate_all_with` hands EVERY callback the predicate specialised to THAT cache's own name (C13: which keys go is decided
  per cache, by that cache's name).
-/
import Cachelito.Generated.PureRegistry
import Cachelito.RegistrySt
import Cachelito.Lemmas.Source


namespace Cachelito.T20
open Cachelito Cachelito.RustLite Cachelito.Generated Cachelito.Registry

/-- the tables of the translated code as the model's registry -/
def toReg (st : RegistrySt) : Reg :=
  ⟨st.tag_to_caches, st.event_to_caches, st.dependency_to_caches, st.cache_metadata, st.clear_callbacks,
   st.invalidation_check_callbacks⟩

/-! ## registration -/

theorem addAll_eq_foldl (t : Table) (ks : List String) (name : String) :
    List.foldl (fun t k => Table.add t k name) t ks = t.addAll ks name := rfl

/-- **`register` is the model's `register`**: the name is added under every declared tag / event / dependency, the metadata
    replaces what was stored for the name -/
theorem register_eq (st : RegistrySt) (name : String) (m : Meta) :
    toReg (Generated.Registry.register st name m) = (Registry.step (toReg st) (.register name m)).1 := by
  simp [Generated.Registry.register, toReg, Registry.step, Table.addAll, Meta.dependencies]

theorem register_callback_eq (st : RegistrySt) (name : String) (id : Nat) :
    toReg (Generated.Registry.register_callback st name id) = (Registry.step (toReg st) (.registerCallback name id)).1 := by
  simp [Generated.Registry.register_callback, toReg, Registry.step]

theorem register_invalidation_callback_eq (st : RegistrySt) (name : String) (id : Nat) :
    toReg (Generated.Registry.register_invalidation_callback st name id) = (Registry.step (toReg st) (.registerCond name id)).1 := by
  simp [Generated.Registry.register_invalidation_callback, toReg, Registry.step]

theorem clear_eq (st : RegistrySt) :
    toReg (Generated.Registry.clear st) = (Registry.step (toReg st) .clear).1 := by
  simp [Generated.Registry.clear, toReg, Registry.step, clearAll]

/-! ## group invalidation -/

/-- the loop of `invalidate_caches`: one callback per listed name that owns one, in order, counted -/
theorem invalidate_caches_loop (cbs : List (String × Nat)) : ∀ (names : List String) (acc : List Nat) (n : Nat),
    List.foldl (fun (x : List Nat × Nat) name =>
        match getKey cbs name with
        | some callback => (pushBack x.1 callback, x.2 + 1)
        | none => x) (acc, n) names =
      (acc ++ names.filterMap (fun nm => getKey cbs nm), n + (names.filterMap (fun nm => getKey cbs nm)).length)
  | [], acc, n => by simp
  | nm :: names, acc, n => by
      simp only [List.foldl_cons]
      cases h : getKey cbs nm with
      | none =>
        simp only []
        rw [invalidate_caches_loop cbs names acc n]
        simp [h]
      | some id =>
        simp only []
        rw [invalidate_caches_loop cbs names (pushBack acc id) (n + 1)]
        simp [h, pushBack]
        omega

theorem invalidate_caches_eq (st : RegistrySt) (names : List String) :
    Generated.Registry.invalidate_caches st names =
      ((invokeAll (toReg st) names).length, invokeAll (toReg st) names) := by
  unfold Generated.Registry.invalidate_caches invokeAll
  simp only [toReg]
  rw [SourceLemmas.foldl_congr' (g := fun (x : List Nat × Nat) name =>
        match getKey st.clear_callbacks name with
        | some callback => (pushBack x.1 callback, x.2 + 1)
        | none => x)]
  · rw [invalidate_caches_loop st.clear_callbacks names [] 0]
    simp
  · intro x name
    obtain ⟨a, b⟩ := x
    cases getKey st.clear_callbacks name <;> rfl

/-- **`invalidate_by_tag` is the model's `byTag`**: returned count and callbacks run -/
theorem invalidate_by_tag_eq (st : RegistrySt) (t : String) :
    (Registry.step (toReg st) (.byTag t)).2 =
      .count (Generated.Registry.invalidate_by_tag st t).1 (Generated.Registry.invalidate_by_tag st t).2 := by
  simp [Generated.Registry.invalidate_by_tag, invalidate_caches_eq, Registry.step, toReg]

theorem invalidate_by_event_eq (st : RegistrySt) (e : String) :
    (Registry.step (toReg st) (.byEvent e)).2 =
      .count (Generated.Registry.invalidate_by_event st e).1 (Generated.Registry.invalidate_by_event st e).2 := by
  simp [Generated.Registry.invalidate_by_event, invalidate_caches_eq, Registry.step, toReg]

theorem invalidate_by_dependency_eq (st : RegistrySt) (d : String) :
    (Registry.step (toReg st) (.byDep d)).2 =
      .count (Generated.Registry.invalidate_by_dependency st d).1 (Generated.Registry.invalidate_by_dependency st d).2 := by
  simp [Generated.Registry.invalidate_by_dependency, invalidate_caches_eq, Registry.step, toReg]

/-- **`invalidate_cache` is the model's `byName`** -/
theorem invalidate_cache_eq (st : RegistrySt) (n : String) :
    (Registry.step (toReg st) (.byName n)).2 =
      .flag (Generated.Registry.invalidate_cache st n).1 (Generated.Registry.invalidate_cache st n).2 := by
  unfold Generated.Registry.invalidate_cache
  simp only [Registry.step, toReg]
  cases getKey st.clear_callbacks n <;> simp [pushBack]

/-! ## listings -/

theorem get_caches_by_tag_eq (st : RegistrySt) (t : String) :
    (Registry.step (toReg st) (.getByTag t)).2 = .names (Generated.Registry.get_caches_by_tag st t) := by
  simp [Generated.Registry.get_caches_by_tag, Registry.step, toReg]

theorem get_caches_by_event_eq (st : RegistrySt) (e : String) :
    (Registry.step (toReg st) (.getByEvent e)).2 = .names (Generated.Registry.get_caches_by_event st e) := by
  simp [Generated.Registry.get_caches_by_event, Registry.step, toReg]

theorem get_dependent_caches_eq (st : RegistrySt) (d : String) :
    (Registry.step (toReg st) (.getDependents d)).2 = .names (Generated.Registry.get_dependent_caches st d) := by
  simp [Generated.Registry.get_dependent_caches, Registry.step, toReg]

/-! ## conditional invalidation -/

/-- **`invalidate_with` is the model's `withPred`**, and the callback of the named cache — the only one that runs — is handed
    exactly the caller's predicate -/
theorem invalidate_with_eq (st : RegistrySt) (n : String) (p : String → Bool) :
    (Registry.step (toReg st) (.withPred n)).2 =
      .flag (Generated.Registry.invalidate_with st n p).1 ((Generated.Registry.invalidate_with st n p).2.map (·.1)) ∧
    ∀ x, x ∈ (Generated.Registry.invalidate_with st n p).2 → x.2 = p := by
  unfold Generated.Registry.invalidate_with
  simp only [Registry.step, toReg]
  cases getKey st.invalidation_check_callbacks n <;> simp [pushBack]

theorem invalidate_all_with_loop (p : String → String → Bool) : ∀ (cbs : List (String × Nat))
    (acc : List (Nat × (String → Bool))) (n : Nat),
    List.foldl (fun (x : List (Nat × (String → Bool)) × Nat) (e : String × Nat) =>
        (pushBack x.1 (e.2, fun key => p e.1 key), x.2 + 1)) (acc, n) cbs =
      (acc ++ cbs.map (fun e => (e.2, fun key => p e.1 key)), n + cbs.length)
  | [], acc, n => by simp
  | e :: cbs, acc, n => by
      simp only [List.foldl_cons]
      rw [invalidate_all_with_loop p cbs]
      simp [pushBack]
      omega

/-- **`invalidate_all_with` is the model's `allWith`**: every registered conditional callback runs once, in table order, the
    count is their number — and each is handed the predicate specialised to ITS OWN cache name -/
theorem invalidate_all_with_eq (st : RegistrySt) (p : String → String → Bool) :
    Generated.Registry.invalidate_all_with st p =
      (st.invalidation_check_callbacks.length,
       st.invalidation_check_callbacks.map (fun e => (e.2, fun key => p e.1 key))) := by
  unfold Generated.Registry.invalidate_all_with
  dsimp only
  rw [SourceLemmas.foldl_congr' (g := fun (x : List (Nat × (String → Bool)) × Nat) (e : String × Nat) =>
        (pushBack x.1 (e.2, fun key => p e.1 key), x.2 + 1))]
  · rw [invalidate_all_with_loop p st.invalidation_check_callbacks [] 0]
    simp
  · intro x e
    obtain ⟨a, b⟩ := x
    obtain ⟨c, d⟩ := e
    rfl

theorem invalidate_all_with_model (st : RegistrySt) (p : String → String → Bool) :
    (Registry.step (toReg st) .allWith).2 =
      .count (Generated.Registry.invalidate_all_with st p).1 ((Generated.Registry.invalidate_all_with st p).2.map (·.1)) := by
  rw [invalidate_all_with_eq]
  simp [Registry.step, toReg, Function.comp_def]

/-- non-vacuity: the translated functions on a concrete history — two caches share a tag, one has no clear callback -/
example :
    let st0 : RegistrySt := {}
    let st1 := Generated.Registry.register st0 "users" ⟨["t"], [], []⟩
    let st2 := Generated.Registry.register_callback st1 "users" 7
    let st3 := Generated.Registry.register st2 "orders" ⟨["t"], ["e"], []⟩
    let st4 := Generated.Registry.register_invalidation_callback st3 "orders" 9
    Generated.Registry.invalidate_by_tag st4 "t" = (1, [7]) ∧
    Generated.Registry.get_caches_by_tag st4 "t" = ["users", "orders"] ∧
    (Generated.Registry.invalidate_all_with st4 (fun c k => c == "orders" && k == "1")).1 = 1 ∧
    ((Generated.Registry.invalidate_all_with st4 (fun c k => c == "orders" && k == "1")).2.map (fun x => (x.1, x.2 "1", x.2 "2"))) =
      [(9, true, false)] := by
  decide

end Cachelito.T20
