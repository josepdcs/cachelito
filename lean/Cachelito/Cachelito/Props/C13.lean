/-
  C13 — Invalidation is precise and leaves capacity bookkeeping exact.

  "Invalidation touches nothing else: caches that do not declare the tag, event, dependency or name keep
   every entry, and invalidate_with / invalidate_all_with remove exactly the entries whose key satisfies
   the predicate and keep the rest.  After any invalidation, limits, eviction order and memory totals
   behave as if the removed entries had never been stored."

  The proofs rest on `Cachelito/Lemmas/System.lean`; where the property asks for exactly what a lemma of that
  file says, the statement is repeated here under the property's name.  Stated for every list of cached
  functions `fns` (sync global, async, thread scope mixed; any metadata, policy, limit, memory bound,
  TTL per function), every TLRU algebra, size function, `Result` classifier, random draws, every
  predicate, and every system state (`SysInv sys`, which holds after every history from `Sys.init`, is
  assumed only where the order queue is described).
-/
import Cachelito.Lemmas.System
import Cachelito.Props.C04

set_option linter.unusedSectionVars false

namespace Cachelito.C13
open Cachelito Cachelito.SysLemmas
variable {K V S : Type} [DecidableEq K]

/-! ### (1) Frame: group invalidations touch nothing but their targets -/

/-- **Frame, all four requests at once.**  A tag / event / dependency / name invalidation `op` leaves
    every cache instance unchanged (full state equality: entries, values, birth stamps, hit counters,
    order queue, clock, statistics) unless it is the shared instance of a target, i.e. of a function
    that is global/async, has been called, declares metadata and matches the request.  The registration
    set and the system clock do not change either. -/
theorem group_invalidation_frame (fns : List FnSpec) (tls : Nat → Tlru S) (size : V → Nat) (isOk : V → Bool)
    (rs : List Nat) (sys : Sys K V) (op : SysOp K V) (sel : FnSpec → Bool) (hsel : groupSel op = some sel)
    (id : CacheId) (h : ¬ (id.thread = none ∧ Target fns sys op id.fn)) :
    (sysStep fns tls size isOk rs sys op).1.getCache id = sys.getCache id ∧
    (sysStep fns tls size isOk rs sys op).1.called = sys.called ∧
    (sysStep fns tls size isOk rs sys op).1.now = sys.now := by
  refine ⟨(group_getCache fns tls size isOk rs sys hsel id).2 h, ?_, ?_⟩
  · rw [sysStep_group fns tls size isOk rs sys hsel]; exact (clearAll_called_now _ _).1
  · rw [sysStep_group fns tls size isOk rs sys hsel]; exact (clearAll_called_now _ _).2

/-- every thread-scope cache instance survives every group invalidation untouched -/
theorem group_invalidation_thread_scope_untouched (fns : List FnSpec) (tls : Nat → Tlru S) (size : V → Nat)
    (isOk : V → Bool) (rs : List Nat) (sys : Sys K V) (op : SysOp K V) (sel : FnSpec → Bool)
    (hsel : groupSel op = some sel) (fn th : Nat) :
    (sysStep fns tls size isOk rs sys op).1.getCache ⟨fn, some th⟩ = sys.getCache ⟨fn, some th⟩ :=
  (group_invalidation_frame fns tls size isOk rs sys op sel hsel ⟨fn, some th⟩
    (fun hh => by cases hh.1)).1

/-- a cache whose function does not match the request keeps everything -/
theorem group_invalidation_non_matching_untouched (fns : List FnSpec) (tls : Nat → Tlru S) (size : V → Nat)
    (isOk : V → Bool) (rs : List Nat) (sys : Sys K V) (op : SysOp K V) (sel : FnSpec → Bool)
    (hsel : groupSel op = some sel) (id : CacheId)
    (h : ∀ spec, fns[id.fn]? = some spec → ¬ Matches op spec) :
    (sysStep fns tls size isOk rs sys op).1.getCache id = sys.getCache id :=
  (group_invalidation_frame fns tls size isOk rs sys op sel hsel id
    (fun ⟨_, spec, h1, _, _, _, h5⟩ => h spec h1 h5)).1

/-- a cache instance that is thread-scope, or whose function was never called or does not match the
    request, is not a target -/
theorem not_target_of {fns : List FnSpec} {sys : Sys K V} {op : SysOp K V} {id : CacheId}
    (h : id.thread ≠ none ∨ id.fn ∉ sys.called ∨ ∀ spec, fns[id.fn]? = some spec → ¬ Matches op spec) :
    ¬ (id.thread = none ∧ Target fns sys op id.fn) := by
  rintro ⟨h0, spec, h1, _, h3, _, h5⟩
  rcases h with h | h | h
  · exact h h0
  · exact h h3
  · exact h spec h1 h5

/-- `invalidate_by_tag t`: caches of functions that do not declare `t`, that were never called, and
    all thread-scope caches are unchanged -/
theorem invalidateByTag_untouched (fns : List FnSpec) (tls : Nat → Tlru S) (size : V → Nat) (isOk : V → Bool)
    (rs : List Nat) (sys : Sys K V) (t : String) (id : CacheId)
    (h : id.thread ≠ none ∨ id.fn ∉ sys.called ∨ ∀ spec, fns[id.fn]? = some spec → t ∉ spec.tags) :
    (sysStep fns tls size isOk rs sys (.invalidateByTag t)).1.getCache id = sys.getCache id :=
  (group_invalidation_frame fns tls size isOk rs sys _ _ rfl id (not_target_of (op := .invalidateByTag t) h)).1

/-- `invalidate_by_event e`: likewise -/
theorem invalidateByEvent_untouched (fns : List FnSpec) (tls : Nat → Tlru S) (size : V → Nat) (isOk : V → Bool)
    (rs : List Nat) (sys : Sys K V) (e : String) (id : CacheId)
    (h : id.thread ≠ none ∨ id.fn ∉ sys.called ∨ ∀ spec, fns[id.fn]? = some spec → e ∉ spec.events) :
    (sysStep fns tls size isOk rs sys (.invalidateByEvent e)).1.getCache id = sys.getCache id :=
  (group_invalidation_frame fns tls size isOk rs sys _ _ rfl id (not_target_of (op := .invalidateByEvent e) h)).1

/-- `invalidate_by_dependency d`: likewise -/
theorem invalidateByDependency_untouched (fns : List FnSpec) (tls : Nat → Tlru S) (size : V → Nat)
    (isOk : V → Bool) (rs : List Nat) (sys : Sys K V) (d : String) (id : CacheId)
    (h : id.thread ≠ none ∨ id.fn ∉ sys.called ∨ ∀ spec, fns[id.fn]? = some spec → d ∉ spec.deps) :
    (sysStep fns tls size isOk rs sys (.invalidateByDependency d)).1.getCache id = sys.getCache id :=
  (group_invalidation_frame fns tls size isOk rs sys _ _ rfl id (not_target_of (op := .invalidateByDependency d) h)).1

/-- `invalidate_cache name`: caches of functions with another name (and never-called, metadata-free
    and thread-scope ones) are unchanged -/
theorem invalidateCache_untouched (fns : List FnSpec) (tls : Nat → Tlru S) (size : V → Nat) (isOk : V → Bool)
    (rs : List Nat) (sys : Sys K V) (name : String) (id : CacheId)
    (h : id.thread ≠ none ∨ id.fn ∉ sys.called ∨ ∀ spec, fns[id.fn]? = some spec → spec.name ≠ name ∨ ¬ HasMeta spec) :
    (sysStep fns tls size isOk rs sys (.invalidateCache name)).1.getCache id = sys.getCache id :=
  (group_invalidation_frame fns tls size isOk rs sys _ _ rfl id (by
    rintro ⟨h0, spec, h1, _, h3, h4, h5⟩
    rcases h with h | h | h
    · exact h h0
    · exact h h3
    · rcases h spec h1 with h | h
      · exact h h5
      · exact h h4)).1

/-- with pairwise distinct names, `invalidate_cache name` changes at most the one cache of that name -/
theorem invalidateCache_only_named (fns : List FnSpec) (hnames : (fns.map (·.name)).Nodup)
    (tls : Nat → Tlru S) (size : V → Nat) (isOk : V → Bool) (rs : List Nat) (sys : Sys K V)
    (i : Nat) (spec : FnSpec) (hs : fns[i]? = some spec) (id : CacheId) (hid : id ≠ ⟨i, none⟩) :
    (sysStep fns tls size isOk rs sys (.invalidateCache spec.name)).1.getCache id = sys.getCache id :=
  (group_invalidation_frame fns tls size isOk rs sys _ _ rfl id (by
    rintro ⟨h0, spec', h1, _, _, _, h5⟩
    apply hid
    have : id.fn = i := index_unique_of_name hnames h1 hs h5
    cases id; simp only at h0 this; subst h0; subst this; rfl)).1

/-! ### (2) conditional invalidation removes exactly the matching entries -/

/-- the named, registered cache moves by the conditional-invalidation callback -/
theorem invalidateWith_getCache (fns : List FnSpec) (tls : Nat → Tlru S) (size : V → Nat) (isOk : V → Bool)
    (rs : List Nat) (sys : Sys K V) (name : String) (p : K → Bool)
    (i : Nat) (spec : FnSpec) (hs : fns[i]? = some spec) (hts : spec.threadScope = false)
    (hc : i ∈ sys.called) (hn : spec.name = name) :
    (sysStep fns tls size isOk rs sys (.invalidateWith name p)).1.getCache ⟨i, none⟩ =
      invalidateWith p (sys.getCache ⟨i, none⟩) := by
  rw [sysStep_invalidateWith]
  exact (getCache_regTargets fns sys _ (invalidateWith_fresh p) _ ⟨i, none⟩).1
    ⟨rfl, spec, hs, hts, hc, by simpa using hn⟩

/-- **`invalidate_with name p`, the named cache.**  For a registered (called, global/async) function
    of that name, in a consistent system: the store afterwards is the old store with the entries whose
    key satisfies `p` filtered out — as a list, so survivors keep their relative order, values, birth
    stamps and hit counters — and the order queue is the old queue with those keys filtered out;
    clock and statistics are untouched. -/
theorem invalidateWith_exact (fns : List FnSpec) (tls : Nat → Tlru S) (size : V → Nat) (isOk : V → Bool)
    (rs : List Nat) (sys : Sys K V) (hinv : SysInv sys) (name : String) (p : K → Bool)
    (i : Nat) (spec : FnSpec) (hs : fns[i]? = some spec) (hts : spec.threadScope = false)
    (hc : i ∈ sys.called) (hn : spec.name = name) :
    (sysStep fns tls size isOk rs sys (.invalidateWith name p)).1.getCache ⟨i, none⟩ =
      { sys.getCache ⟨i, none⟩ with
          store := (sys.getCache ⟨i, none⟩).store.filter (fun e => !p e.1),
          queue := (sys.getCache ⟨i, none⟩).queue.filter (fun k => !p k) } := by
  rw [invalidateWith_getCache fns tls size isOk rs sys name p i spec hs hts hc hn]
  exact invalidateWith_eq p _ (hinv _)

/-- per key (no consistency assumption): a key satisfying `p` is absent afterwards; any other key has
    exactly the entry (value, birth stamp, hit counter) it had before -/
theorem invalidateWith_lookup (fns : List FnSpec) (tls : Nat → Tlru S) (size : V → Nat) (isOk : V → Bool)
    (rs : List Nat) (sys : Sys K V) (name : String) (p : K → Bool)
    (i : Nat) (spec : FnSpec) (hs : fns[i]? = some spec) (hts : spec.threadScope = false)
    (hc : i ∈ sys.called) (hn : spec.name = name) (k : K) :
    lookup k ((sysStep fns tls size isOk rs sys (.invalidateWith name p)).1.getCache ⟨i, none⟩).store =
      if p k then none else lookup k (sys.getCache ⟨i, none⟩).store := by
  rw [invalidateWith_getCache fns tls size isOk rs sys name p i spec hs hts hc hn, invalidateWith_store,
    lookup_filter_key (fun k => !p k)]
  cases p k <;> rfl

/-- `invalidate_with name p` leaves every cache of a function with another name, every never-called
    function's cache and every thread-scope cache unchanged -/
theorem invalidateWith_untouched (fns : List FnSpec) (tls : Nat → Tlru S) (size : V → Nat) (isOk : V → Bool)
    (rs : List Nat) (sys : Sys K V) (name : String) (p : K → Bool) (id : CacheId)
    (h : id.thread ≠ none ∨ id.fn ∉ sys.called ∨ ∀ spec, fns[id.fn]? = some spec → spec.name ≠ name) :
    (sysStep fns tls size isOk rs sys (.invalidateWith name p)).1.getCache id = sys.getCache id :=
  sysStep_frame fns tls size isOk rs sys (.invalidateWith name p) id (by
    rintro ⟨h0, spec, h1, _, h3, h5⟩
    rcases h with h | h | h
    · exact h h0
    · exact h h3
    · exact h spec h1 (by simpa using h5))

/-- with pairwise distinct names, `invalidate_with name p` changes only the cache of that name -/
theorem invalidateWith_only_named (fns : List FnSpec) (hnames : (fns.map (·.name)).Nodup)
    (tls : Nat → Tlru S) (size : V → Nat) (isOk : V → Bool) (rs : List Nat) (sys : Sys K V) (p : K → Bool)
    (i : Nat) (spec : FnSpec) (hs : fns[i]? = some spec) (id : CacheId) (hid : id ≠ ⟨i, none⟩) :
    (sysStep fns tls size isOk rs sys (.invalidateWith spec.name p)).1.getCache id = sys.getCache id :=
  sysStep_frame fns tls size isOk rs sys (.invalidateWith spec.name p) id (by
    rintro ⟨h0, spec', h1, _, _, h5⟩
    apply hid
    have : id.fn = i := index_unique_of_name hnames h1 hs (by simpa using h5)
    cases id; simp only at h0 this; subst h0; subst this; rfl)

/-- `invalidate_with` returns `true` exactly when a registered (called, global/async) function has
    that name — whether or not it declares tags, events or dependencies -/
theorem invalidateWith_flag (fns : List FnSpec) (tls : Nat → Tlru S) (size : V → Nat) (isOk : V → Bool)
    (rs : List Nat) (sys : Sys K V) (name : String) (p : K → Bool) :
    ∃ b, (sysStep fns tls size isOk rs sys (.invalidateWith name p)).2 = .flag b ∧
      (b = true ↔ ∃ i spec, fns[i]? = some spec ∧ spec.threadScope = false ∧ i ∈ sys.called ∧ spec.name = name) := by
  refine ⟨_, by rw [sysStep_invalidateWith], ?_⟩
  rw [not_isEmpty_iff_exists_mem]
  constructor
  · rintro ⟨i, hi⟩
    obtain ⟨spec, h1, h2, h3, h4⟩ := (mem_regTargets _ _ _ _).mp hi
    exact ⟨i, spec, h1, h2, h3, by simpa using h4⟩
  · rintro ⟨i, spec, h1, h2, h3, h4⟩
    exact ⟨i, (mem_regTargets _ _ _ _).mpr ⟨spec, h1, h2, h3, by simpa using h4⟩⟩

/-- a name nobody registered: `false`, and the whole system state is unchanged -/
theorem invalidateWith_unknown (fns : List FnSpec) (tls : Nat → Tlru S) (size : V → Nat) (isOk : V → Bool)
    (rs : List Nat) (sys : Sys K V) (name : String) (p : K → Bool)
    (hno : ∀ i spec, fns[i]? = some spec → spec.threadScope = false → i ∈ sys.called → spec.name ≠ name) :
    sysStep fns tls size isOk rs sys (.invalidateWith name p) = (sys, .flag false) := by
  have hnil : regTargets fns sys (fun spec => spec.name = name) = [] :=
    List.eq_nil_iff_forall_not_mem.mpr fun i hi => by
      obtain ⟨spec, h1, h2, h3, h4⟩ := (mem_regTargets fns sys _ i).mp hi
      exact hno i spec h1 h2 h3 (by simpa using h4)
  rw [sysStep_invalidateWith, hnil]; rfl

/-- **`invalidate_all_with p`, every registered cache.**  For each registered function, in a consistent
    system, the store and the queue afterwards are the old ones with the keys satisfying
    `p spec.name` filtered out (order, values, birth stamps, hit counters of survivors kept). -/
theorem invalidateAllWith_exact (fns : List FnSpec) (tls : Nat → Tlru S) (size : V → Nat) (isOk : V → Bool)
    (rs : List Nat) (sys : Sys K V) (hinv : SysInv sys) (p : String → K → Bool)
    (i : Nat) (spec : FnSpec) (hs : fns[i]? = some spec) (hts : spec.threadScope = false) (hc : i ∈ sys.called) :
    (sysStep fns tls size isOk rs sys (.invalidateAllWith p)).1.getCache ⟨i, none⟩ =
      { sys.getCache ⟨i, none⟩ with
          store := (sys.getCache ⟨i, none⟩).store.filter (fun e => !p spec.name e.1),
          queue := (sys.getCache ⟨i, none⟩).queue.filter (fun k => !p spec.name k) } := by
  rw [sysStep_invalidateAllWith, (getCache_regAll fns sys p ⟨i, none⟩).1 ⟨rfl, spec, hs, hts, hc⟩]
  unfold allWith; simp only [hs]
  exact invalidateWith_eq (p spec.name) _ (hinv _)

/-- `invalidate_all_with` leaves never-called functions' caches and all thread-scope caches unchanged -/
theorem invalidateAllWith_untouched (fns : List FnSpec) (tls : Nat → Tlru S) (size : V → Nat) (isOk : V → Bool)
    (rs : List Nat) (sys : Sys K V) (p : String → K → Bool) (id : CacheId)
    (h : id.thread ≠ none ∨ id.fn ∉ sys.called) :
    (sysStep fns tls size isOk rs sys (.invalidateAllWith p)).1.getCache id = sys.getCache id :=
  sysStep_frame fns tls size isOk rs sys (.invalidateAllWith p) id (by
    rintro ⟨h0, spec, h1, _, h3⟩
    rcases h with h | h
    · exact h h0
    · exact h h3)

/-- `invalidate_all_with` returns the number of registered functions: the length of a duplicate-free
    list containing exactly the existing global/async functions that have been called -/
theorem invalidateAllWith_count (fns : List FnSpec) (tls : Nat → Tlru S) (size : V → Nat) (isOk : V → Bool)
    (rs : List Nat) (sys : Sys K V) (p : String → K → Bool) :
    ∃ l : List Nat, l.Nodup ∧
      (∀ i, i ∈ l ↔ ∃ spec, fns[i]? = some spec ∧ spec.threadScope = false ∧ i ∈ sys.called) ∧
      (sysStep fns tls size isOk rs sys (.invalidateAllWith p)).2 = .count l.length :=
  ⟨regAll fns sys, regAll_nodup fns sys, mem_regAll fns sys, by rw [sysStep_invalidateAllWith]⟩

/-! ### (3) the bookkeeping invariant survives every system operation -/

/-- the generated function keeps its cache consistent (lookup followed by at most one store) -/
theorem callFn_preserves_inv (spec : FnSpec) (tl : Tlru S) (size : V → Nat) (isOk : V → Bool) (rs : List Nat)
    (s : State K V) (c : CallIn K V) (h : Inv s) : Inv (callFn spec tl size isOk rs s c).1 :=
  Wrap.callFn_inv spec tl size isOk rs s c h

/-- **Every system operation keeps every cache instance consistent** (store keys distinct, queue
    duplicate-free, queue and store tracking the same keys): calls, ticks, all six invalidation entry
    points, statistics operations. -/
theorem sysStep_preserves_inv (fns : List FnSpec) (tls : Nat → Tlru S) (size : V → Nat) (isOk : V → Bool)
    (rs : List Nat) (sys : Sys K V) (op : SysOp K V) (h : SysInv sys) :
    SysInv (sysStep fns tls size isOk rs sys op).1 :=
  sysStep_inv fns tls size isOk rs sys op h

/-- every cache instance is consistent after every history from the initial system -/
theorem inv_reachable (fns : List FnSpec) (tls : Nat → Tlru S) (size : V → Nat) (isOk : V → Bool)
    (ops : List (SysOp K V × List Nat)) (id : CacheId) :
    Inv ((sysRun fns tls size isOk (Sys.init : Sys K V) ops).1.getCache id) :=
  sysRun_inv fns tls size isOk _ ops sysInv_init id

/-! ### (4) afterwards the cache behaves as if the removed entries had never been stored -/

/-- **The post-invalidation state is the survivors' state.**  On a consistent cache the callback's
    result is exactly the state with the matching keys deleted from store and queue (survivors in
    their original relative order), and that state is again consistent — so every later operation is
    `step` on a consistent state that contains the survivors and nothing else. -/
theorem invalidateWith_is_deletion (p : K → Bool) (s : State K V) (h : Inv s) :
    invalidateWith p s =
      { s with store := s.store.filter (fun e => !p e.1), queue := s.queue.filter (fun k => !p k) } ∧
    Inv (invalidateWith p s) :=
  ⟨invalidateWith_eq p s h, invalidateWith_inv p s h⟩

/-- no leftover queue slot: afterwards the queue has exactly as many keys as the store has entries, and
    both equal the number of survivors -/
theorem invalidateWith_counts (p : K → Bool) (s : State K V) (h : Inv s) :
    (invalidateWith p s).store.length = (s.store.filter (fun e => !p e.1)).length ∧
    (invalidateWith p s).queue.length = (s.store.filter (fun e => !p e.1)).length :=
  ⟨rfl, (invalidateWith_inv p s h).length_eq⟩

/-- entries before = survivors + removed -/
theorem invalidateWith_length_split (p : K → Bool) (s : State K V) :
    (invalidateWith p s).store.length + (s.store.filter (fun e => p e.1)).length = s.store.length := by
  show (s.store.filter (fun e => !p e.1)).length + _ = _
  have hnot : (fun e : K × Entry V => decide ¬(p e.1 = true)) = fun e : K × Entry V => !p e.1 := by
    funext e; cases p e.1 <;> rfl
  rw [← List.countP_eq_length_filter, ← List.countP_eq_length_filter, Nat.add_comm, ← hnot]
  exact (List.length_eq_countP_add_countP (fun e : K × Entry V => p e.1)).symm

/-- **Memory total.**  The memory total after the invalidation is the sum over the survivors, and the
    total before is that plus the sizes of the removed entries. -/
theorem invalidateWith_memory (size : V → Nat) (p : K → Bool) (s : State K V) :
    totalMem size (invalidateWith p s).store = totalMem size (s.store.filter (fun e => !p e.1)) ∧
    totalMem size (invalidateWith p s).store + totalMem size (s.store.filter (fun e => p e.1)) =
      totalMem size s.store := by
  refine ⟨rfl, ?_⟩
  have := totalMem_filter_add size (fun e : K × Entry V => !p e.1) s.store
  rw [invalidateWith_store]
  simpa using this

/-- **Entry limit.**  C04's exactness applies to the invalidated cache with the survivors' count: a plain
    store after the invalidation leaves `min limit (survivors + [key is new])` entries (`C04.sizeWith k m` is
    `m.length`, plus one iff `k` is not held in `m`) — slots of removed entries are free again, and nothing
    is evicted while survivors + 1 ≤ limit. -/
theorem insert_after_invalidation_exact (cfg : Cfg) (tl : Tlru S) (r : Nat) (p : K → Bool) (s : State K V)
    (k : K) (v : V) (n : Nat) (hl : cfg.limit = some n) (hn : 1 ≤ n) (hi : Inv s) (hb : s.store.length ≤ n) :
    (insert cfg tl r (invalidateWith p s) k v).store.length =
      min n (C04.sizeWith k (s.store.filter (fun e => !p e.1))) :=
  C04.insert_exact cfg tl r (invalidateWith p s) k v n hl hn (invalidateWith_inv p s hi)
    (Nat.le_trans (C04.invalidateWith_length_le p s) hb)

/-- **Eviction order.**  Under FIFO/LRU, if the survivors fill the cache (`limit` of them) and the oldest
    survivor — the head of the filtered queue — is `a`, then storing a fresh key evicts exactly `a`:
    the queue becomes the remaining survivors followed by the new key.  The removed entries play no role.
    All flavours. -/
theorem overflow_after_invalidation_evicts_oldest_survivor {cfg : Cfg}
    (hp : cfg.policy = .fifo ∨ cfg.policy = .lru) (tl : Tlru S) (r : Nat) (p : K → Bool) (s : State K V)
    (hi : Inv s) {a : K} {rest : List K} (hq : s.queue.filter (fun k => !p k) = a :: rest)
    {k : K} (hk : k ∉ keys (invalidateWith p s).store) {n : Nat} (hl : cfg.limit = some n)
    (hfull : (s.store.filter (fun e => !p e.1)).length = n) (v : V) :
    (insert cfg tl r (invalidateWith p s) k v).queue = rest ++ [k] ∧
    keys (insert cfg tl r (invalidateWith p s) k v).store =
      (keys (s.store.filter (fun e => !p e.1))).filter (fun x => x ≠ a) ++ [k] := by
  have hinv := invalidateWith_inv p s hi
  have hq' : (invalidateWith p s).queue = a :: rest := by rw [invalidateWith_eq p s hi]; exact hq
  exact insert_full_head hp tl r hinv hq' hk hl hfull v

/-- **Commutation ("never stored").**  Start from a consistent cache, perform plain stores and time steps
    that cannot overflow (no entry limit, or room for all of them), then invalidate the keys satisfying
    `p`.  The result is *equal* — entries with values, birth stamps and hit counters, order queue, clock,
    statistics — to invalidating first and then performing only the stores of keys not satisfying `p`.
    Every flavour and policy. -/
theorem invalidateWith_commutes_with_stores (cfg : Cfg) (tl : Tlru S) (size : V → Nat) (p : K → Bool)
    (ops : List (Op K V × List Nat)) (s : State K V) (h : Inv s) (hso : StoresOnly ops)
    (hroom : ∀ n, cfg.limit = some n → s.store.length + storeCount ops ≤ n) :
    invalidateWith p (run cfg tl size s ops).1 =
      (run cfg tl size (invalidateWith p s) (withoutKeys p ops)).1 := by
  rw [invalidateWith_eq_dropKeys p _ (run_inv cfg tl size s ops h), invalidateWith_eq_dropKeys p s h]
  exact dropKeys_run_commute cfg tl size p ops s h hso hroom

/-- in particular from the empty cache: storing a set of keys and invalidating a subset is the same as
    storing only the survivors, in the same order -/
theorem store_then_invalidate_eq_store_survivors (cfg : Cfg) (tl : Tlru S) (size : V → Nat) (p : K → Bool)
    (ops : List (Op K V × List Nat)) (hso : StoresOnly ops)
    (hroom : ∀ n, cfg.limit = some n → storeCount ops ≤ n) :
    invalidateWith p (run cfg tl size (State.init : State K V) ops).1 =
      (run cfg tl size (State.init : State K V) (withoutKeys p ops)).1 := by
  have := invalidateWith_commutes_with_stores cfg tl size p ops (State.init : State K V) inv_init hso
    (by intro n hl; have := hroom n hl; simp [State.init]; omega)
  rw [this]; rfl

/-! ### Non-vacuity (K = V = Nat)

  `f` (sync global, FIFO, limit 3, tag "a"), `g` (async, LRU, limit 3, tag "b"), `h` (thread scope, tag "a").
  After calls `f 1, f 2, f 3, g 1, g 2, h 7`:
  * `invalidate_by_tag "a"` empties `f` only — `g` and the thread-scope `h` keep entries and queue;
  * `invalidate_with "f" (· = 1)` keeps `[2, 3]` (store and queue), returns `true`, leaves `g` alone;
    the freed slot is usable: `f 4` evicts nothing (`[2, 3, 4]`), and the next overflow `f 5` evicts `2`,
    the oldest survivor (`[3, 4, 5]`);
  * `invalidate_all_with (name = "g" ∧ key = 2)` returns 2 and removes only `g`'s key 2. -/

def exTl : Nat → Tlru Nat := fun _ => ⟨fun a b => decide (a < b), fun _ h _ r => h * r⟩
def exSpec (name : String) (isAsync threadScope : Bool) (fl : Flavour) (pol : Policy) (tags : List String) : FnSpec :=
  { name := name, isAsync := isAsync, threadScope := threadScope, cfg := ⟨fl, pol, some 3, none, none⟩,
    useMem := false, isResult := false, hasCacheIf := false, hasInvalidateOn := false,
    tags := tags, events := [], deps := [] }
def exFns : List FnSpec :=
  [exSpec "f" false false .global .fifo ["a"], exSpec "g" true false .async .lru ["b"],
   exSpec "h" false true .threadLocal .fifo ["a"]]
def exCall (k v : Nat) : CallIn Nat Nat := ⟨k, v, fun _ _ => true, fun _ _ => false⟩
def exHist : List (SysOp Nat Nat × List Nat) :=
  [(.call 0 0 (exCall 1 10), []), (.call 0 0 (exCall 2 20), []), (.call 0 1 (exCall 3 30), []),
   (.call 1 0 (exCall 1 11), []), (.call 1 0 (exCall 2 21), []), (.call 2 0 (exCall 7 70), [])]
def exRun (sys : Sys Nat Nat) (ops : List (SysOp Nat Nat × List Nat)) : Sys Nat Nat × List (SysOut Nat Nat) :=
  sysRun exFns exTl (fun _ => 0) (fun _ => true) sys ops
def exSys : Sys Nat Nat := (exRun Sys.init exHist).1
def exStep (sys : Sys Nat Nat) (op : SysOp Nat Nat) : Sys Nat Nat × SysOut Nat Nat :=
  sysStep exFns exTl (fun _ => 0) (fun _ => true) [] sys op
/-- keys of the store and the order queue of one cache instance -/
def view (sys : Sys Nat Nat) (id : CacheId) : List Nat × List Nat :=
  (keys (sys.getCache id).store, (sys.getCache id).queue)
def isCount : SysOut Nat Nat → Option Nat
  | .count n => some n
  | _ => none
def isFlag : SysOut Nat Nat → Option Bool
  | .flag b => some b
  | _ => none

example : (exFns.map (·.name)).Nodup := by decide
example : view exSys ⟨0, none⟩ = ([1, 2, 3], [1, 2, 3]) ∧ view exSys ⟨1, none⟩ = ([1, 2], [1, 2]) ∧
    view exSys ⟨2, some 0⟩ = ([7], [7]) := by decide +kernel
-- (1) frame of a group invalidation
example : let s := (exStep exSys (.invalidateByTag "a")).1
    view s ⟨0, none⟩ = ([], []) ∧ view s ⟨1, none⟩ = ([1, 2], [1, 2]) ∧ view s ⟨2, some 0⟩ = ([7], [7]) := by
  decide +kernel
-- (2) conditional invalidation: exactly key 1 goes, order of the survivors kept, `g` untouched
def exAfter : Sys Nat Nat := (exStep exSys (.invalidateWith "f" (fun k => k == 1))).1
example : isFlag (exStep exSys (.invalidateWith "f" (fun k => k == 1))).2 = some true := by decide +kernel
example : view exAfter ⟨0, none⟩ = ([2, 3], [2, 3]) ∧ view exAfter ⟨1, none⟩ = ([1, 2], [1, 2]) := by decide +kernel
example : (lookup 2 (exAfter.getCache ⟨0, none⟩).store).map (·.val) = some 20 ∧
    (lookup 1 (exAfter.getCache ⟨0, none⟩).store).map (·.val) = none := by decide +kernel
-- (4) the freed slot is free: the next store evicts nothing …
example : view (exStep exAfter (.call 0 0 (exCall 4 40))).1 ⟨0, none⟩ = ([2, 3, 4], [2, 3, 4]) := by decide +kernel
-- … and the following overflow evicts the oldest survivor, key 2
example : view (exRun exAfter [(.call 0 0 (exCall 4 40), []), (.call 0 0 (exCall 5 50), [])]).1 ⟨0, none⟩
    = ([3, 4, 5], [3, 4, 5]) := by decide +kernel
-- removing a middle key: survivors [1, 3]; overflow then evicts 1
example : view (exRun exSys [(.invalidateWith "f" (fun k => k == 2), []), (.call 0 0 (exCall 4 40), []),
    (.call 0 0 (exCall 5 50), [])]).1 ⟨0, none⟩ = ([3, 4, 5], [3, 4, 5]) := by decide +kernel
-- invalidate_all_with: per-name predicate, count = number of registered functions
example : isCount (exStep exSys (.invalidateAllWith (fun name k => name == "g" && k == 2))).2 = some 2 := by decide +kernel
example : let s := (exStep exSys (.invalidateAllWith (fun name k => name == "g" && k == 2))).1
    view s ⟨0, none⟩ = ([1, 2, 3], [1, 2, 3]) ∧ view s ⟨1, none⟩ = ([1], [1]) ∧ view s ⟨2, some 0⟩ = ([7], [7]) := by
  decide +kernel
-- thread-scope and unknown names: false, nothing changes
example : isFlag (exStep exSys (.invalidateWith "h" (fun _ => true))).2 = some false := by decide +kernel
example : isFlag (exStep exSys (.invalidateWith "nobody" (fun _ => true))).2 = some false := by decide +kernel
example : view (exStep exSys (.invalidateWith "h" (fun _ => true))).1 ⟨2, some 0⟩ = ([7], [7]) := by decide +kernel
-- commutation on one cache: store 1..4, invalidate the even keys = store 1 and 3
def exCfg : Cfg := ⟨.async, .fifo, some 4, none, none⟩
def exOps : List (Op Nat Nat × List Nat) :=
  [(.insert 1 10, []), (.insert 2 20, []), (.tick 1500, []), (.insert 3 30, []), (.insert 4 40, [])]
example : StoresOnly exOps ∧ (∀ n, exCfg.limit = some n → (State.init : State Nat Nat).store.length + storeCount exOps ≤ n) := by
  refine ⟨trivial, ?_⟩
  intro n h; cases h; decide
example :
    let a := invalidateWith (fun k => k % 2 == 0) (run exCfg (exTl 0) (fun _ => 0) (State.init : State Nat Nat) exOps).1
    let b := (run exCfg (exTl 0) (fun _ => 0) (State.init : State Nat Nat) (withoutKeys (fun k => k % 2 == 0) exOps)).1
    keys a.store = [1, 3] ∧ a.queue = [1, 3] ∧ keys b.store = [1, 3] ∧ b.queue = [1, 3] ∧
    a.store.map (·.2.birth) = [0, 1000] ∧ b.store.map (·.2.birth) = [0, 1000] ∧ a.now = b.now := by decide +kernel

end Cachelito.C13
