/-
  T17 — TRANSLATOR TIE, cachelito-macros/src/lib.rs: the wrapper `#[cache]` generates (C01, C03, C09, C10, C11, C19)

  `checklib/rust2lean.py` EVALUATES the macro's small generator functions (`generate_insert_call`,
  `generate_cache_condition`, `generate_invalidation_check`) for each of the 16 configurations (max_memory present x Result
  return type x invalidate_on present x cache_if present), splices their token streams into the tail of the branch template
  of `generate_thread_local_branch` / `generate_global_branch`, and translates the resulting Rust block
  (`Generated/PureWrap.lean`, 32 definitions, regenerated from /repo's CURRENT source on every check).

  Part (a) below: in EVERY configuration and both scopes the generated wrapper is the one generic wrapper `wrapGen` —
  look the key up; on a hit return the cached value, unless `invalidate_on` is configured and calls it stale; on a miss or a
  stale hit take the body's value, hand it to the store variant that (max_memory, Result) select — only if `cache_if` is
  absent or accepts it — and return it.  Part (b): consequences for the properties (C09: with a Result return type an
  `Err` is never stored; C10: a rejected result is not stored, `cache_if` is consulted exactly on executions; C11: a
  stale hit is recomputed and refreshed).  Parts (c)–(e): the model's `callFn` is `wrapGen` over the model's own lookup and
  store, and `wrapGen` over the translated thread-local / global engine (T08–T13) simulates it; so without `max_memory` the
  generated wrapper is `callFn` (with `max_memory`: T17m; async: T18).
-/
import Cachelito.Generated.PureWrap
import Cachelito.Props.T13
import Cachelito.Props.T12
import Cachelito.Props.T09
import Cachelito.Wrapper
import Cachelito.Lemmas.Hist


namespace Cachelito.T17
open Cachelito Cachelito.RustLite Cachelito.Generated Cachelito.Generated.Wrap

variable {K V F E T C : Type} [DecidableEq K]

/-- what the wrapper needs of an engine: the lookup and the store variant the configuration selects -/
structure EngineOps (C K V : Type) where
  get : C → K → Option V × C
  store : C → K → V → C

def wrapGen (ops : EngineOps C K V) (hasInv hasCi : Bool) (io ci : K → V → Bool) (c : C) (key : K) (body : V) : V × C :=
  let r := ops.get c key
  let miss (c : C) : V × C :=
    (body, if hasCi then (if ci key body then ops.store c key body else c) else ops.store c key body)
  match r.1 with
  | some cached => if hasInv then (if !(io key cached) then (cached, r.2) else miss r.2) else (cached, r.2)
  | none => miss r.2

/-! ## (a) every configuration is `wrapGen`

Not by `rfl` alone: the generated `| _ =>` branch is compiled to a default case that is handed the scrutinee, `wrapGen`'s
`| none =>` is not, so the two sides meet only after the case split on the looked-up value. -/

section
variable (A : F64 F) (clock : Clock) (size : V → Nat) (fuel : Nat) (rs : List Nat) (io ci : K → V → Bool)
  (c : ThreadCache K V F) (key : K) (body : V)

theorem wrapThread_0000_eq :
    wrapThread_0000 A clock size fuel rs io ci c key body =
      wrapGen ⟨Thread.get clock, Thread.insert A clock (headRand rs)⟩ false false io ci c key body := by
  dsimp only [wrapThread_0000, wrapGen]
  cases (Thread.get clock c key).1 <;> rfl

theorem wrapThread_0001_eq :
    wrapThread_0001 A clock size fuel rs io ci c key body =
      wrapGen ⟨Thread.get clock, Thread.insert A clock (headRand rs)⟩ false true io ci c key body := by
  dsimp only [wrapThread_0001, wrapGen]
  cases (Thread.get clock c key).1 <;> rfl

theorem wrapThread_0010_eq :
    wrapThread_0010 A clock size fuel rs io ci c key body =
      wrapGen ⟨Thread.get clock, Thread.insert A clock (headRand rs)⟩ true false io ci c key body := by
  dsimp only [wrapThread_0010, wrapGen]
  cases (Thread.get clock c key).1 <;> rfl

theorem wrapThread_0011_eq :
    wrapThread_0011 A clock size fuel rs io ci c key body =
      wrapGen ⟨Thread.get clock, Thread.insert A clock (headRand rs)⟩ true true io ci c key body := by
  dsimp only [wrapThread_0011, wrapGen]
  cases (Thread.get clock c key).1 <;> rfl

theorem wrapThread_1000_eq :
    wrapThread_1000 A clock size fuel rs io ci c key body =
      wrapGen ⟨Thread.get clock, Thread.insert_with_memory A clock size fuel rs⟩ false false io ci c key body := by
  dsimp only [wrapThread_1000, wrapGen]
  cases (Thread.get clock c key).1 <;> rfl

theorem wrapThread_1001_eq :
    wrapThread_1001 A clock size fuel rs io ci c key body =
      wrapGen ⟨Thread.get clock, Thread.insert_with_memory A clock size fuel rs⟩ false true io ci c key body := by
  dsimp only [wrapThread_1001, wrapGen]
  cases (Thread.get clock c key).1 <;> rfl

theorem wrapThread_1010_eq :
    wrapThread_1010 A clock size fuel rs io ci c key body =
      wrapGen ⟨Thread.get clock, Thread.insert_with_memory A clock size fuel rs⟩ true false io ci c key body := by
  dsimp only [wrapThread_1010, wrapGen]
  cases (Thread.get clock c key).1 <;> rfl

theorem wrapThread_1011_eq :
    wrapThread_1011 A clock size fuel rs io ci c key body =
      wrapGen ⟨Thread.get clock, Thread.insert_with_memory A clock size fuel rs⟩ true true io ci c key body := by
  dsimp only [wrapThread_1011, wrapGen]
  cases (Thread.get clock c key).1 <;> rfl

end

section
variable (A : F64 F) (clock : Clock) (size : Except E T → Nat) (fuel : Nat) (rs : List Nat) (io ci : K → Except E T → Bool)
  (c : ThreadCache K (Except E T) F) (key : K) (body : Except E T)

theorem wrapThread_0100_eq :
    wrapThread_0100 A clock size fuel rs io ci c key body =
      wrapGen ⟨Thread.get clock, Thread.insert_result A clock (headRand rs)⟩ false false io ci c key body := by
  dsimp only [wrapThread_0100, wrapGen]
  cases (Thread.get clock c key).1 <;> rfl

theorem wrapThread_0101_eq :
    wrapThread_0101 A clock size fuel rs io ci c key body =
      wrapGen ⟨Thread.get clock, Thread.insert_result A clock (headRand rs)⟩ false true io ci c key body := by
  dsimp only [wrapThread_0101, wrapGen]
  cases (Thread.get clock c key).1 <;> rfl

theorem wrapThread_0110_eq :
    wrapThread_0110 A clock size fuel rs io ci c key body =
      wrapGen ⟨Thread.get clock, Thread.insert_result A clock (headRand rs)⟩ true false io ci c key body := by
  dsimp only [wrapThread_0110, wrapGen]
  cases (Thread.get clock c key).1 <;> rfl

theorem wrapThread_0111_eq :
    wrapThread_0111 A clock size fuel rs io ci c key body =
      wrapGen ⟨Thread.get clock, Thread.insert_result A clock (headRand rs)⟩ true true io ci c key body := by
  dsimp only [wrapThread_0111, wrapGen]
  cases (Thread.get clock c key).1 <;> rfl

theorem wrapThread_1100_eq :
    wrapThread_1100 A clock size fuel rs io ci c key body =
      wrapGen ⟨Thread.get clock, Thread.insert_result_with_memory A clock size fuel rs⟩ false false io ci c key body := by
  dsimp only [wrapThread_1100, wrapGen]
  cases (Thread.get clock c key).1 <;> rfl

theorem wrapThread_1101_eq :
    wrapThread_1101 A clock size fuel rs io ci c key body =
      wrapGen ⟨Thread.get clock, Thread.insert_result_with_memory A clock size fuel rs⟩ false true io ci c key body := by
  dsimp only [wrapThread_1101, wrapGen]
  cases (Thread.get clock c key).1 <;> rfl

theorem wrapThread_1110_eq :
    wrapThread_1110 A clock size fuel rs io ci c key body =
      wrapGen ⟨Thread.get clock, Thread.insert_result_with_memory A clock size fuel rs⟩ true false io ci c key body := by
  dsimp only [wrapThread_1110, wrapGen]
  cases (Thread.get clock c key).1 <;> rfl

theorem wrapThread_1111_eq :
    wrapThread_1111 A clock size fuel rs io ci c key body =
      wrapGen ⟨Thread.get clock, Thread.insert_result_with_memory A clock size fuel rs⟩ true true io ci c key body := by
  dsimp only [wrapThread_1111, wrapGen]
  cases (Thread.get clock c key).1 <;> rfl

end

section
variable (A : F64 F) (clock : Clock) (size : V → Nat) (fuel : Nat) (rs : List Nat) (io ci : K → V → Bool)
  (c : GlobalCache K V F) (key : K) (body : V)

theorem wrapGlobal_0000_eq :
    wrapGlobal_0000 A clock size fuel rs io ci c key body =
      wrapGen ⟨Global.get clock, Global.insert A clock (headRand rs)⟩ false false io ci c key body := by
  dsimp only [wrapGlobal_0000, wrapGen]
  cases (Global.get clock c key).1 <;> rfl

theorem wrapGlobal_0001_eq :
    wrapGlobal_0001 A clock size fuel rs io ci c key body =
      wrapGen ⟨Global.get clock, Global.insert A clock (headRand rs)⟩ false true io ci c key body := by
  dsimp only [wrapGlobal_0001, wrapGen]
  cases (Global.get clock c key).1 <;> rfl

theorem wrapGlobal_0010_eq :
    wrapGlobal_0010 A clock size fuel rs io ci c key body =
      wrapGen ⟨Global.get clock, Global.insert A clock (headRand rs)⟩ true false io ci c key body := by
  dsimp only [wrapGlobal_0010, wrapGen]
  cases (Global.get clock c key).1 <;> rfl

theorem wrapGlobal_0011_eq :
    wrapGlobal_0011 A clock size fuel rs io ci c key body =
      wrapGen ⟨Global.get clock, Global.insert A clock (headRand rs)⟩ true true io ci c key body := by
  dsimp only [wrapGlobal_0011, wrapGen]
  cases (Global.get clock c key).1 <;> rfl

theorem wrapGlobal_1000_eq :
    wrapGlobal_1000 A clock size fuel rs io ci c key body =
      wrapGen ⟨Global.get clock, Global.insert_with_memory A clock size fuel rs⟩ false false io ci c key body := by
  dsimp only [wrapGlobal_1000, wrapGen]
  cases (Global.get clock c key).1 <;> rfl

theorem wrapGlobal_1001_eq :
    wrapGlobal_1001 A clock size fuel rs io ci c key body =
      wrapGen ⟨Global.get clock, Global.insert_with_memory A clock size fuel rs⟩ false true io ci c key body := by
  dsimp only [wrapGlobal_1001, wrapGen]
  cases (Global.get clock c key).1 <;> rfl

theorem wrapGlobal_1010_eq :
    wrapGlobal_1010 A clock size fuel rs io ci c key body =
      wrapGen ⟨Global.get clock, Global.insert_with_memory A clock size fuel rs⟩ true false io ci c key body := by
  dsimp only [wrapGlobal_1010, wrapGen]
  cases (Global.get clock c key).1 <;> rfl

theorem wrapGlobal_1011_eq :
    wrapGlobal_1011 A clock size fuel rs io ci c key body =
      wrapGen ⟨Global.get clock, Global.insert_with_memory A clock size fuel rs⟩ true true io ci c key body := by
  dsimp only [wrapGlobal_1011, wrapGen]
  cases (Global.get clock c key).1 <;> rfl

end

section
variable (A : F64 F) (clock : Clock) (size : Except E T → Nat) (fuel : Nat) (rs : List Nat) (io ci : K → Except E T → Bool)
  (c : GlobalCache K (Except E T) F) (key : K) (body : Except E T)

theorem wrapGlobal_0100_eq :
    wrapGlobal_0100 A clock size fuel rs io ci c key body =
      wrapGen ⟨Global.get clock, Global.insert_result A clock (headRand rs)⟩ false false io ci c key body := by
  dsimp only [wrapGlobal_0100, wrapGen]
  cases (Global.get clock c key).1 <;> rfl

theorem wrapGlobal_0101_eq :
    wrapGlobal_0101 A clock size fuel rs io ci c key body =
      wrapGen ⟨Global.get clock, Global.insert_result A clock (headRand rs)⟩ false true io ci c key body := by
  dsimp only [wrapGlobal_0101, wrapGen]
  cases (Global.get clock c key).1 <;> rfl

theorem wrapGlobal_0110_eq :
    wrapGlobal_0110 A clock size fuel rs io ci c key body =
      wrapGen ⟨Global.get clock, Global.insert_result A clock (headRand rs)⟩ true false io ci c key body := by
  dsimp only [wrapGlobal_0110, wrapGen]
  cases (Global.get clock c key).1 <;> rfl

theorem wrapGlobal_0111_eq :
    wrapGlobal_0111 A clock size fuel rs io ci c key body =
      wrapGen ⟨Global.get clock, Global.insert_result A clock (headRand rs)⟩ true true io ci c key body := by
  dsimp only [wrapGlobal_0111, wrapGen]
  cases (Global.get clock c key).1 <;> rfl

theorem wrapGlobal_1100_eq :
    wrapGlobal_1100 A clock size fuel rs io ci c key body =
      wrapGen ⟨Global.get clock, Global.insert_result_with_memory A clock size fuel rs⟩ false false io ci c key body := by
  dsimp only [wrapGlobal_1100, wrapGen]
  cases (Global.get clock c key).1 <;> rfl

theorem wrapGlobal_1101_eq :
    wrapGlobal_1101 A clock size fuel rs io ci c key body =
      wrapGen ⟨Global.get clock, Global.insert_result_with_memory A clock size fuel rs⟩ false true io ci c key body := by
  dsimp only [wrapGlobal_1101, wrapGen]
  cases (Global.get clock c key).1 <;> rfl

theorem wrapGlobal_1110_eq :
    wrapGlobal_1110 A clock size fuel rs io ci c key body =
      wrapGen ⟨Global.get clock, Global.insert_result_with_memory A clock size fuel rs⟩ true false io ci c key body := by
  dsimp only [wrapGlobal_1110, wrapGen]
  cases (Global.get clock c key).1 <;> rfl

theorem wrapGlobal_1111_eq :
    wrapGlobal_1111 A clock size fuel rs io ci c key body =
      wrapGen ⟨Global.get clock, Global.insert_result_with_memory A clock size fuel rs⟩ true true io ci c key body := by
  dsimp only [wrapGlobal_1111, wrapGen]
  cases (Global.get clock c key).1 <;> rfl

end

/-! ## (b) what the generic wrapper does -/

section Generic
variable {S : Type}
-- the statements of this section carry the file's `[DecidableEq K]` without needing it
set_option linter.unusedSectionVars false

/-- a hit that is not called stale is served: the cached value is returned, the body's value is not used, nothing is
    stored (C01 / C03) -/
theorem wrapGen_hit (ops : EngineOps C K V) (hasInv hasCi : Bool) (io ci : K → V → Bool) (c : C) (key : K) (body cached : V)
    (hget : (ops.get c key).1 = some cached) (hfresh : hasInv = false ∨ io key cached = false) :
    wrapGen ops hasInv hasCi io ci c key body = (cached, (ops.get c key).2) := by
  unfold wrapGen
  rcases hfresh with h | h <;> simp [hget, h]

/-- a miss, or a hit that `invalidate_on` calls stale: returned value and final cache in one equation -/
theorem wrapGen_miss (ops : EngineOps C K V) (hasInv hasCi : Bool) (io ci : K → V → Bool) (c : C) (key : K) (body : V)
    (h : (ops.get c key).1 = none ∨ ∃ cached, (ops.get c key).1 = some cached ∧ hasInv = true ∧ io key cached = true) :
    wrapGen ops hasInv hasCi io ci c key body =
      (body, if hasCi then (if ci key body then ops.store (ops.get c key).2 key body else (ops.get c key).2)
             else ops.store (ops.get c key).2 key body) := by
  unfold wrapGen
  rcases h with h | ⟨cached, h1, h2, h3⟩
  · simp only [h]
  · simp [h1, h2, h3]

/-- a miss, or a hit that `invalidate_on` calls stale (C11), takes the body's value and returns it -/
theorem wrapGen_runs_body (ops : EngineOps C K V) (hasInv hasCi : Bool) (io ci : K → V → Bool) (c : C) (key : K) (body : V)
    (h : (ops.get c key).1 = none ∨ ∃ cached, (ops.get c key).1 = some cached ∧ hasInv = true ∧ io key cached = true) :
    (wrapGen ops hasInv hasCi io ci c key body).1 = body := by
  rw [wrapGen_miss ops hasInv hasCi io ci c key body h]

/-- … and stores it through the selected variant exactly when `cache_if` is absent or accepts it (C10) -/
theorem wrapGen_store_iff (ops : EngineOps C K V) (hasInv hasCi : Bool) (io ci : K → V → Bool) (c : C) (key : K) (body : V)
    (h : (ops.get c key).1 = none ∨ ∃ cached, (ops.get c key).1 = some cached ∧ hasInv = true ∧ io key cached = true) :
    (wrapGen ops hasInv hasCi io ci c key body).2 =
      (if hasCi = false ∨ ci key body = true then ops.store (ops.get c key).2 key body else (ops.get c key).2) := by
  rw [wrapGen_miss ops hasInv hasCi io ci c key body h]
  cases hasCi <;> cases ci key body <;> rfl

/-- every call is a served hit (the hypotheses of `wrapGen_hit`) or runs the body (those of `wrapGen_miss`) -/
theorem wrapGen_cases (ops : EngineOps C K V) (hasInv : Bool) (io : K → V → Bool) (c : C) (key : K) :
    (∃ cached, (ops.get c key).1 = some cached ∧ (hasInv = false ∨ io key cached = false)) ∨
    ((ops.get c key).1 = none ∨ ∃ cached, (ops.get c key).1 = some cached ∧ hasInv = true ∧ io key cached = true) := by
  cases h : (ops.get c key).1 with
  | none => exact Or.inr (Or.inl rfl)
  | some cached =>
    cases hi : hasInv
    · exact Or.inl ⟨cached, rfl, Or.inl rfl⟩
    · cases hs : io key cached
      · exact Or.inl ⟨cached, rfl, Or.inr hs⟩
      · exact Or.inr (Or.inr ⟨cached, rfl, rfl, hs⟩)

/-- a store variant that does nothing for this value (the `insert_result*` variants on an `Err`, C09) leaves the cache
    exactly as the lookup left it, whatever the predicates say -/
theorem wrapGen_no_store (ops : EngineOps C K V) (hasInv hasCi : Bool) (io ci : K → V → Bool) (c : C) (key : K) (body : V)
    (hno : ∀ c', ops.store c' key body = c') :
    (wrapGen ops hasInv hasCi io ci c key body).2 = (ops.get c key).2 := by
  rcases wrapGen_cases ops hasInv io c key with ⟨cached, h1, h2⟩ | h
  · rw [wrapGen_hit ops hasInv hasCi io ci c key body cached h1 h2]
  · rw [wrapGen_miss ops hasInv hasCi io ci c key body h, hno]
    cases hasCi <;> cases ci key body <;> rfl

/-- simulation at ONE pair of states: if the two lookups return the same value and leave `R`-related caches, and the two
    stores after those lookups are `R`-related, the wrappers return the same value and end `R`-related.  The engines' ties
    to the model hold under hypotheses on the state at hand (`Inv`, bounded hit counters), so this form, not `wrapGen_sim`
    with its hypotheses for all states, is what the theorems of (d), (e) and of `T17m`, `T18` are proved with. -/
theorem wrapGen_sim_at (R : C → S → Prop) (ops : EngineOps C K V) (mops : EngineOps S K V)
    (hasInv hasCi : Bool) (io ci : K → V → Bool) (key : K) (body : V) (c : C) (s : S)
    (hv : (ops.get c key).1 = (mops.get s key).1) (hr : R (ops.get c key).2 (mops.get s key).2)
    (hstore : R (ops.store (ops.get c key).2 key body) (mops.store (mops.get s key).2 key body)) :
    (wrapGen ops hasInv hasCi io ci c key body).1 = (wrapGen mops hasInv hasCi io ci s key body).1 ∧
    R (wrapGen ops hasInv hasCi io ci c key body).2 (wrapGen mops hasInv hasCi io ci s key body).2 := by
  rcases wrapGen_cases mops hasInv io s key with ⟨cached, h1, h2⟩ | h
  · rw [wrapGen_hit ops hasInv hasCi io ci c key body cached (hv.trans h1) h2,
      wrapGen_hit mops hasInv hasCi io ci s key body cached h1 h2]
    exact ⟨rfl, hr⟩
  · rw [wrapGen_miss ops hasInv hasCi io ci c key body (hv ▸ h), wrapGen_miss mops hasInv hasCi io ci s key body h]
    refine ⟨rfl, ?_⟩
    cases hasCi <;> cases ci key body <;> assumption

/-- simulation: if lookup and store of two engines correspond (relation `R1` before the lookup, `R2` after it, `R3` at the
    end), so do the wrappers built on them -/
theorem wrapGen_sim (R1 R2 R3 : C → S → Prop) (ops : EngineOps C K V) (mops : EngineOps S K V)
    (hasInv hasCi : Bool) (io ci : K → V → Bool) (key : K) (body : V)
    (hget : ∀ c s, R1 c s → (ops.get c key).1 = (mops.get s key).1 ∧ R2 (ops.get c key).2 (mops.get s key).2)
    (hstore : ∀ c s, R2 c s → R3 (ops.store c key body) (mops.store s key body))
    (hweak : ∀ c s, R2 c s → R3 c s) (c : C) (s : S) (h : R1 c s) :
    (wrapGen ops hasInv hasCi io ci c key body).1 = (wrapGen mops hasInv hasCi io ci s key body).1 ∧
    R3 (wrapGen ops hasInv hasCi io ci c key body).2 (wrapGen mops hasInv hasCi io ci s key body).2 :=
  wrapGen_sim_at R3 ops mops hasInv hasCi io ci key body c s (hget c s h).1 (hweak _ _ (hget c s h).2)
    (hstore _ _ (hget c s h).2)

end Generic

/-! ## (c) down to the model: `callFn` -/

/-- the model's engine operations for a SYNC function specification: `Cachelito.get`, and the store the wrapper's variant
    performs (`insert` / `insertMem`; the `insert_result*` variants store only an `Ok`) -/
def modelOps (spec : FnSpec) (tl : Tlru F) (size : V → Nat) (isOk : V → Bool) (rs : List Nat) :
    EngineOps (State K V) K V where
  get s k := ((Cachelito.get spec.cfg s k).2, (Cachelito.get spec.cfg s k).1)
  store s k v :=
    if (if spec.isResult then isOk v else true) then
      (if spec.useMem then insertMem spec.cfg tl size rs s k v else insert spec.cfg tl (rs.headD 0) s k v)
    else s

/-- `callFn` is `wrapGen` over any model operations `mops` that look up with the model's `get` and, under the guard
    `wrapGen` puts around the store, store exactly when `shouldStore` says so; the sync and the async store rule
    (`modelOps`, `T18.modelOpsA`) are the two instances -/
theorem callFn_eq_wrapGen_of (spec : FnSpec) (tl : Tlru F) (size : V → Nat) (isOk : V → Bool) (rs : List Nat)
    (mops : EngineOps (State K V) K V)
    (hget : ∀ s k, mops.get s k = ((Cachelito.get spec.cfg s k).2, (Cachelito.get spec.cfg s k).1))
    (hstore : ∀ s k v accept, (if spec.hasCacheIf then (if accept then mops.store s k v else s) else mops.store s k v) =
      if shouldStore spec isOk accept v then
        (if spec.useMem then insertMem spec.cfg tl size rs s k v else insert spec.cfg tl (rs.headD 0) s k v)
      else s)
    (s : State K V) (c : CallIn K V) :
    ((callFn spec tl size isOk rs s c).2.1, (callFn spec tl size isOk rs s c).1) =
      wrapGen mops spec.hasInvalidateOn spec.hasCacheIf c.invalidateOn c.cacheIf s c.key c.bodyVal := by
  unfold callFn wrapGen
  simp only [hget, hstore]
  have hmiss : ∀ (b : Bool) (s1 s2 : State K V) (r : V) (t t' : List (TraceEv K V)),
      ((if b then (s2, r, t) else (s1, r, t')).2.1, (if b then (s2, r, t) else (s1, r, t')).1) =
        (r, if b then s2 else s1) := by
    intro b; cases b <;> intros <;> rfl
  cases (Cachelito.get spec.cfg s c.key).2 with
  | none => exact hmiss ..
  | some cached =>
    dsimp only
    cases spec.hasInvalidateOn
    · rfl
    · cases c.invalidateOn c.key cached
      · rfl
      · exact hmiss ..

/-- **the model's `callFn` (sync functions) is the generic wrapper over the model's engine**: same returned value, same
    final state, for every specification, state, key, body value and pair of predicates -/
theorem callFn_eq_wrapGen (spec : FnSpec) (hs : spec.isAsync = false) (tl : Tlru F) (size : V → Nat) (isOk : V → Bool)
    (rs : List Nat) (s : State K V) (c : CallIn K V) :
    ((callFn spec tl size isOk rs s c).2.1, (callFn spec tl size isOk rs s c).1) =
      wrapGen (modelOps spec tl size isOk rs) spec.hasInvalidateOn spec.hasCacheIf c.invalidateOn c.cacheIf s c.key c.bodyVal :=
  callFn_eq_wrapGen_of spec tl size isOk rs _ (fun _ _ => rfl)
    (fun s k v accept => by
      simp only [modelOps, shouldStore, hs]
      cases spec.hasCacheIf <;> cases accept <;> cases (if spec.isResult then isOk v else true) <;> rfl) s c

/-- `wrapGen_sim_at` against model operations `mops` for which `callFn` is `wrapGen` (`hm`: `callFn_eq_wrapGen` for the
    sync store rule, `T18.callFn_eq_wrapGen_async` for the async one): the wrapper over `ops` returns `callFn`'s value and
    ends `R`-related to `callFn`'s state.  Every `*_is_callFn` theorem is this with `ops`, `R` and the engine's three ties
    (`hv`, `hr`, `hstore`) put in. -/
theorem wrapGen_is_callFn (R : C → State K V → Prop) {ops : EngineOps C K V} {mops : EngineOps (State K V) K V}
    {spec : FnSpec} {tl : Tlru F} {size : V → Nat} {isOk : V → Bool} {rs : List Nat} {io cif : K → V → Bool}
    {c : C} {s : State K V} {key : K} {body : V}
    (hm : ((callFn spec tl size isOk rs s ⟨key, body, cif, io⟩).2.1, (callFn spec tl size isOk rs s ⟨key, body, cif, io⟩).1) =
      wrapGen mops spec.hasInvalidateOn spec.hasCacheIf io cif s key body)
    (hv : (ops.get c key).1 = (mops.get s key).1) (hr : R (ops.get c key).2 (mops.get s key).2)
    (hstore : R (ops.store (ops.get c key).2 key body) (mops.store (mops.get s key).2 key body)) :
    (wrapGen ops spec.hasInvalidateOn spec.hasCacheIf io cif c key body).1 =
      (callFn spec tl size isOk rs s ⟨key, body, cif, io⟩).2.1 ∧
    R (wrapGen ops spec.hasInvalidateOn spec.hasCacheIf io cif c key body).2
      (callFn spec tl size isOk rs s ⟨key, body, cif, io⟩).1 := by
  have h := wrapGen_sim_at R ops mops spec.hasInvalidateOn spec.hasCacheIf io cif key body c s hv hr hstore
  rw [← hm] at h
  exact h

/-! ## (d) the generated wrapper of a thread-scope function IS `callFn` (no `max_memory`) -/

/-- what relates a `ThreadLocalCache` of the calling thread to a model state -/
def RelT (cfg : Cfg) (fw : Option F) (now : Nat) (c : ThreadCache K V F) (s : State K V) : Prop :=
  T11.cfgOf c = cfg ∧ c.frequency_weight = fw ∧ c.cache = s.store ∧ c.order = s.queue ∧ s.now = now ∧
  c.stats.hits = s.hitStat ∧ c.stats.misses = s.missStat

omit [DecidableEq K] in
theorem RelT.state {cfg : Cfg} {fw : Option F} {now : Nat} {c : ThreadCache K V F} {s : State K V}
    (h : RelT cfg fw now c s) :
    cfg = T11.cfgOf c ∧ fw = c.frequency_weight ∧ s = ⟨c.cache, c.order, now, c.stats.hits, c.stats.misses⟩ := by
  obtain ⟨store, queue, now', hits, misses⟩ := s
  obtain ⟨rfl, rfl, rfl, rfl, rfl, rfl, rfl⟩ := h
  exact ⟨rfl, rfl, rfl⟩

theorem thread_get_sim (cfg : Cfg) (fw : Option F) (now : Nat) (k : K) (c : ThreadCache K V F) (s : State K V)
    (hr : RelT cfg fw now c s) (hh : ∀ p, p ∈ c.cache → p.2.hits + 1 < u64Max) :
    (Thread.get ⟨fun b => now - b, now⟩ c k).1 = (Cachelito.get cfg s k).2 ∧
    RelT cfg fw now (Thread.get ⟨fun b => now - b, now⟩ c k).2 (Cachelito.get cfg s k).1 ∧
    ∀ p, p ∈ (Thread.get ⟨fun b => now - b, now⟩ c k).2.cache → p.2.hits < u64Max := by
  obtain ⟨rfl, rfl, rfl⟩ := hr.state
  rw [T12.get_eq c now k (fun p hp => Nat.lt_of_succ_lt (hh p hp))]
  exact ⟨rfl, ⟨rfl, rfl, rfl, rfl, Hist.get_now .., rfl, rfl⟩, SourceLemmas.get_hits_lt _ _ k hh⟩

/-- the assumptions on the float structure (DESIGN.md §9) for a configuration -/
structure FloatOK (A : F64 F) (cfg : Cfg) (fw : Option F) : Prop where
  arcBelowMax : ∀ a b, A.lt (A.mul (A.ofNat a) (A.ofNat b)) A.maxVal = true
  arcOrder : ∀ a b c d, A.lt (A.mul (A.ofNat a) (A.ofNat b)) (A.mul (A.ofNat c) (A.ofNat d)) = decide (a * b < c * d)
  tlruBelowMax : ∀ hits el rk, A.lt ((T02.srcTlru A fw).score cfg hits el rk) A.maxVal = true

theorem thread_insert_sim (A : F64 F) (cfg : Cfg) (fw : Option F) (now r : Nat) (k : K) (v : V)
    (c : ThreadCache K V F) (s : State K V) (hr : RelT cfg fw now c s) (hh : ∀ p, p ∈ c.cache → p.2.hits < u64Max)
    (fok : FloatOK A cfg fw) :
    RelT cfg fw now (Thread.insert A ⟨fun b => now - b, now⟩ r c k v) (Cachelito.insert cfg (T02.srcTlru A fw) r s k v) := by
  obtain ⟨rfl, rfl, rfl⟩ := hr.state
  rw [T11.insert_eq A c now r c.stats.hits c.stats.misses k v ⟨hh, fok.arcBelowMax, fok.arcOrder, fok.tlruBelowMax⟩]
  obtain ⟨f1, f2, f3⟩ := Hist.insert_frame (T11.cfgOf c) (T02.srcTlru A c.frequency_weight) r
    ⟨c.cache, c.order, now, c.stats.hits, c.stats.misses⟩ k v
  exact ⟨rfl, rfl, rfl, rfl, f1, f2.symm, f3.symm⟩

/-- **The wrapper `#[cache(scope = "thread")]` generates for a plain function without `max_memory` is the model's
    `callFn`**: for every policy / limit / ttl, with or without `invalidate_on` and `cache_if`, for every cache content,
    key, body value and predicate verdicts, the generic wrapper over the TRANSLATED thread-local engine returns what
    `callFn` returns and leaves the cache in the state `callFn` leaves.  (By part (a) the generated wrapper of each such
    configuration is that generic wrapper; by T11 / T12 the translated engine is the model's engine.) -/
theorem thread_plain_wrapper_is_callFn (A : F64 F) (cfg : Cfg) (fw : Option F) (now : Nat) (rs : List Nat)
    (inv ci : Bool) (io cif : K → V → Bool) (size : V → Nat) (isOk : V → Bool)
    (c : ThreadCache K V F) (s : State K V) (key : K) (body : V)
    (hr : RelT cfg fw now c s) (hh : ∀ p, p ∈ c.cache → p.2.hits + 1 < u64Max) (fok : FloatOK A cfg fw) :
    (wrapGen ⟨fun c k => Thread.get ⟨fun b => now - b, now⟩ c k,
              fun c k v => Thread.insert A ⟨fun b => now - b, now⟩ (headRand rs) c k v⟩ inv ci io cif c key body).1 =
      (callFn ⟨"f", false, true, cfg, false, false, ci, inv, [], [], []⟩ (T02.srcTlru A fw) size isOk rs s ⟨key, body, cif, io⟩).2.1 ∧
    RelT cfg fw now
      (wrapGen ⟨fun c k => Thread.get ⟨fun b => now - b, now⟩ c k,
                fun c k v => Thread.insert A ⟨fun b => now - b, now⟩ (headRand rs) c k v⟩ inv ci io cif c key body).2
      (callFn ⟨"f", false, true, cfg, false, false, ci, inv, [], [], []⟩ (T02.srcTlru A fw) size isOk rs s ⟨key, body, cif, io⟩).1 := by
  obtain ⟨hv, hw, h0⟩ := thread_get_sim cfg fw now key c s hr hh
  refine wrapGen_is_callFn (RelT cfg fw now) (spec := ⟨"f", false, true, cfg, false, false, ci, inv, [], [], []⟩)
    (callFn_eq_wrapGen _ rfl ..) hv hw ?_
  simp only [modelOps, if_true, if_false, Bool.false_eq_true]
  exact thread_insert_sim A cfg fw now _ key body _ _ hw h0 fok

/-- `Result::is_ok` -/
def isOkE : Except E T → Bool
  | .ok _ => true
  | .error _ => false

/-- **The same for a thread-scope function returning `Result`** (store variant `insert_result`): the generated wrapper is
    `callFn` with `isResult := true` — in particular an `Err` is returned but never stored, whatever `cache_if` says (C09) -/
theorem thread_result_wrapper_is_callFn (A : F64 F) (cfg : Cfg) (fw : Option F) (now : Nat) (rs : List Nat)
    (inv ci : Bool) (io cif : K → Except E T → Bool) (size : Except E T → Nat)
    (c : ThreadCache K (Except E T) F) (s : State K (Except E T)) (key : K) (body : Except E T)
    (hr : RelT cfg fw now c s) (hh : ∀ p, p ∈ c.cache → p.2.hits + 1 < u64Max) (fok : FloatOK A cfg fw) :
    (wrapGen ⟨fun c k => Thread.get ⟨fun b => now - b, now⟩ c k,
              fun c k v => Thread.insert_result A ⟨fun b => now - b, now⟩ (headRand rs) c k v⟩ inv ci io cif c key body).1 =
      (callFn ⟨"f", false, true, cfg, false, true, ci, inv, [], [], []⟩ (T02.srcTlru A fw) size isOkE rs s ⟨key, body, cif, io⟩).2.1 ∧
    RelT cfg fw now
      (wrapGen ⟨fun c k => Thread.get ⟨fun b => now - b, now⟩ c k,
                fun c k v => Thread.insert_result A ⟨fun b => now - b, now⟩ (headRand rs) c k v⟩ inv ci io cif c key body).2
      (callFn ⟨"f", false, true, cfg, false, true, ci, inv, [], [], []⟩ (T02.srcTlru A fw) size isOkE rs s ⟨key, body, cif, io⟩).1 := by
  obtain ⟨hv, hw, h0⟩ := thread_get_sim cfg fw now key c s hr hh
  refine wrapGen_is_callFn (RelT cfg fw now) (spec := ⟨"f", false, true, cfg, false, true, ci, inv, [], [], []⟩)
    (callFn_eq_wrapGen _ rfl ..) hv hw ?_
  cases body with
  | error e =>
    simp only [modelOps, isOkE, T13.thread_insert_result_err, if_true, if_false, Bool.false_eq_true]
    exact hw
  | ok x =>
    simp only [modelOps, isOkE, T13.thread_insert_result_ok, if_true, if_false, Bool.false_eq_true]
    exact thread_insert_sim A cfg fw now _ key _ _ _ hw h0 fok

/-! ## (e) the same for global scope (sequential reading of the engine, see T08 / T09) -/

/-- what relates a `GlobalCache` to a model state -/
def RelG (cfg : Cfg) (fw : Option F) (now : Nat) (c : GlobalCache K V F) (s : State K V) : Prop :=
  T08.cfgOf c = cfg ∧ c.frequency_weight = fw ∧ c.map = s.store ∧ c.order = s.queue ∧ s.now = now ∧
  c.stats.hits = s.hitStat ∧ c.stats.misses = s.missStat

omit [DecidableEq K] in
theorem RelG.state {cfg : Cfg} {fw : Option F} {now : Nat} {c : GlobalCache K V F} {s : State K V}
    (h : RelG cfg fw now c s) :
    cfg = T08.cfgOf c ∧ fw = c.frequency_weight ∧ s = ⟨c.map, c.order, now, c.stats.hits, c.stats.misses⟩ := by
  obtain ⟨store, queue, now', hits, misses⟩ := s
  obtain ⟨rfl, rfl, rfl, rfl, rfl, rfl, rfl⟩ := h
  exact ⟨rfl, rfl, rfl⟩

theorem global_get_sim (cfg : Cfg) (fw : Option F) (now : Nat) (k : K) (c : GlobalCache K V F) (s : State K V)
    (hr : RelG cfg fw now c s) (hh : ∀ p, p ∈ c.map → p.2.hits + 1 < u64Max) :
    (Global.get ⟨fun b => now - b, now⟩ c k).1 = (Cachelito.get cfg s k).2 ∧
    RelG cfg fw now (Global.get ⟨fun b => now - b, now⟩ c k).2 (Cachelito.get cfg s k).1 ∧
    ∀ p, p ∈ (Global.get ⟨fun b => now - b, now⟩ c k).2.map → p.2.hits < u64Max := by
  obtain ⟨rfl, rfl, rfl⟩ := hr.state
  rw [T09.get_eq c now k (fun p hp => Nat.lt_of_succ_lt (hh p hp))]
  exact ⟨rfl, ⟨rfl, rfl, rfl, rfl, Hist.get_now .., rfl, rfl⟩, SourceLemmas.get_hits_lt _ _ k hh⟩

theorem global_insert_sim (A : F64 F) (cfg : Cfg) (fw : Option F) (now r : Nat) (k : K) (v : V)
    (c : GlobalCache K V F) (s : State K V) (hr : RelG cfg fw now c s) (hh : ∀ p, p ∈ c.map → p.2.hits < u64Max)
    (fok : FloatOK A cfg fw) :
    RelG cfg fw now (Global.insert A ⟨fun b => now - b, now⟩ r c k v) (Cachelito.insert cfg (T02.srcTlru A fw) r s k v) := by
  obtain ⟨rfl, rfl, rfl⟩ := hr.state
  rw [T08.insert_eq A c now r c.stats.hits c.stats.misses k v ⟨hh, fok.arcBelowMax, fok.arcOrder, fok.tlruBelowMax⟩]
  obtain ⟨f1, f2, f3⟩ := Hist.insert_frame (T08.cfgOf c) (T02.srcTlru A c.frequency_weight) r
    ⟨c.map, c.order, now, c.stats.hits, c.stats.misses⟩ k v
  exact ⟨rfl, rfl, rfl, rfl, f1, f2.symm, f3.symm⟩

/-- **The same for `#[cache]` in global scope** (sequential reading of the sync global engine, T08 / T09) -/
theorem global_plain_wrapper_is_callFn (A : F64 F) {cfg : Cfg} {fw : Option F} {now : Nat} {rs : List Nat}
    {inv ci : Bool} {io cif : K → V → Bool} {size : V → Nat} {isOk : V → Bool}
    {c : GlobalCache K (V) F} {s : State K (V)} {key : K} {body : V}
    (hr : RelG cfg fw now c s) (hh : ∀ p, p ∈ c.map → p.2.hits + 1 < u64Max) (fok : FloatOK A cfg fw) :
    (wrapGen ⟨Global.get ⟨fun b => now - b, now⟩, Global.insert A ⟨fun b => now - b, now⟩ (headRand rs)⟩ inv ci io cif c key body).1 =
      (callFn ⟨"f", false, false, cfg, false, false, ci, inv, [], [], []⟩ (T02.srcTlru A fw) size isOk rs s ⟨key, body, cif, io⟩).2.1 ∧
    RelG cfg fw now
      (wrapGen ⟨Global.get ⟨fun b => now - b, now⟩, Global.insert A ⟨fun b => now - b, now⟩ (headRand rs)⟩ inv ci io cif c key body).2
      (callFn ⟨"f", false, false, cfg, false, false, ci, inv, [], [], []⟩ (T02.srcTlru A fw) size isOk rs s ⟨key, body, cif, io⟩).1 := by
  obtain ⟨hv, hw, h0⟩ := global_get_sim cfg fw now key c s hr hh
  refine wrapGen_is_callFn (RelG cfg fw now) (spec := ⟨"f", false, false, cfg, false, false, ci, inv, [], [], []⟩)
    (callFn_eq_wrapGen _ rfl ..) hv hw ?_
  simp only [modelOps, if_true, if_false, Bool.false_eq_true]
  exact global_insert_sim A cfg fw now _ key body _ _ hw h0 fok

/-- **The same for a global-scope function returning `Result`** (store variant `insert_result`) -/
theorem global_result_wrapper_is_callFn (A : F64 F) {cfg : Cfg} {fw : Option F} {now : Nat} {rs : List Nat}
    {inv ci : Bool} {io cif : K → Except E T → Bool} {size : Except E T → Nat}
    {c : GlobalCache K (Except E T) F} {s : State K (Except E T)} {key : K} {body : Except E T}
    (hr : RelG cfg fw now c s) (hh : ∀ p, p ∈ c.map → p.2.hits + 1 < u64Max) (fok : FloatOK A cfg fw) :
    (wrapGen ⟨Global.get ⟨fun b => now - b, now⟩, Global.insert_result A ⟨fun b => now - b, now⟩ (headRand rs)⟩ inv ci io cif c key body).1 =
      (callFn ⟨"f", false, false, cfg, false, true, ci, inv, [], [], []⟩ (T02.srcTlru A fw) size isOkE rs s ⟨key, body, cif, io⟩).2.1 ∧
    RelG cfg fw now
      (wrapGen ⟨Global.get ⟨fun b => now - b, now⟩, Global.insert_result A ⟨fun b => now - b, now⟩ (headRand rs)⟩ inv ci io cif c key body).2
      (callFn ⟨"f", false, false, cfg, false, true, ci, inv, [], [], []⟩ (T02.srcTlru A fw) size isOkE rs s ⟨key, body, cif, io⟩).1 := by
  obtain ⟨hv, hw, h0⟩ := global_get_sim cfg fw now key c s hr hh
  refine wrapGen_is_callFn (RelG cfg fw now) (spec := ⟨"f", false, false, cfg, false, true, ci, inv, [], [], []⟩)
    (callFn_eq_wrapGen _ rfl ..) hv hw ?_
  cases body with
  | error e =>
    simp only [modelOps, isOkE, T13.global_insert_result_err, if_true, if_false, Bool.false_eq_true]
    exact hw
  | ok x =>
    simp only [modelOps, isOkE, T13.global_insert_result_ok, if_true, if_false, Bool.false_eq_true]
    exact global_insert_sim A cfg fw now _ key _ _ _ hw h0 fok

end Cachelito.T17
