/-
  C15 — Hit/miss statistics are exact, per cache name (sequential part).

  Setting: any list of cached functions with arbitrary configurations, any history of calls (any function,
  any thread), ticks, registry invalidations and statistics operations.  Statistics exist for global-scope
  and async functions (`threadScope = false`); they live in the shared instance `⟨i, none⟩` and are
  registered under the cache name on the function's first call.  Thread-scope functions have none.

  What a lookup is and when it is a hit (`Lemmas/Calls.lean`):
    * `found cfg s k`    — the store of `s` holds an entry for `k` that is not expired at `s.now`;
    * `lookupHit tr`     — the trace of a call shows that its lookup returned a value (an `invalidate_on`
                           check was made on it, or it was returned from the cache).  A hit whose entry is then
                           judged stale by `invalidate_on` is still a hit: the counters count LOOKUPS;
    * `statsSince i name (0,0) ops outs` — (hits, misses) computed from the history and its outputs alone:
                           one count per call of `i` since the last `statsReset name`, a hit iff `lookupHit`;
    * `callsSince i name 0 ops` — number of calls of `i` since the last `statsReset name`.

  The concurrent part (atomic `fetch_add` per lookup, any schedule) is proved elsewhere.
-/
import Cachelito.Lemmas.Calls

namespace Cachelito.C15b
open Cachelito Cachelito.Calls
variable {K V S : Type} [DecidableEq K]

section
variable (fns : List FnSpec) (tls : Nat → Tlru S) (size : V → Nat) (isOk : V → Bool)

/-- **One lookup, one count; a hit exactly when an unexpired entry was found.**  A call of the shared
    function `i`, from any state, adds exactly one to `hits + misses` of `i`'s cache: to `hits` if the
    lookup found an entry that is not expired, to `misses` otherwise (absent or expired) — and the trace
    shows a returned lookup (`lookupHit`) in exactly the first case. -/
theorem lookup_counted_once {i : Nat} {spec : FnSpec} (hspec : fns[i]? = some spec) (hts : spec.threadScope = false)
    (rs : List Nat) (sys : Sys K V) (th : Nat) (c : CallIn K V) :
    let s := sys.getCache ⟨i, none⟩
    let s' := (sysStep fns tls size isOk rs sys (.call i th c)).1.getCache ⟨i, none⟩
    s'.hitStat = s.hitStat + (if found spec.cfg s c.key then 1 else 0) ∧
    s'.missStat = s.missStat + (if found spec.cfg s c.key then 0 else 1) ∧
    (found spec.cfg s c.key = true ↔ ∃ e, lookup c.key s.store = some e ∧ expired spec.cfg s.now e = false) ∧
    (∀ v tr, (sysStep fns tls size isOk rs sys (.call i th c)).2 = .ret v tr →
      lookupHit tr = found spec.cfg s c.key) := by
  intro s s'
  have hs' : s' = (callFn spec (tls i) size isOk rs s c).1 := by
    show (sysStep fns tls size isOk rs sys (.call i th c)).1.getCache ⟨i, none⟩ = _
    rw [getCache_call fns tls size isOk rs sys th c hspec, cacheIdOf_shared hts, if_pos rfl]
  obtain ⟨g1, g2, _, g4⟩ := callFn_stats spec (tls i) size isOk rs s c
  refine ⟨by rw [hs']; exact g1, by rw [hs']; exact g2, found_iff _ _ _, ?_⟩
  intro v tr hout
  rw [out_call fns tls size isOk rs sys th c hspec, cacheIdOf_shared hts] at hout
  cases hout
  exact g4

/-- **The counters are exact after every history.**  For a shared function `i` with cache name
    `spec.name`, the counters of its cache equal `statsSince`: one count per call of `i` since the last reset
    of its name, counted as a hit iff that call's lookup returned a value; and
    `hits + misses = number of calls of i since the last reset`. -/
theorem counters_exact {i : Nat} {spec : FnSpec} (hspec : fns[i]? = some spec) (hts : spec.threadScope = false)
    (ops : List (SysOp K V × List Nat)) :
    let s := (sysRun fns tls size isOk (Sys.init : Sys K V) ops).1.getCache ⟨i, none⟩
    (s.hitStat, s.missStat) =
      statsSince i spec.name (0, 0) ops (sysRun fns tls size isOk (Sys.init : Sys K V) ops).2 ∧
    s.hitStat + s.missStat = callsSince i spec.name 0 ops := by
  intro s
  have h1 := (stats_run fns tls size isOk hspec hts ops Sys.init (fun _ => rfl)).1
  have h1' : (s.hitStat, s.missStat) =
      statsSince i spec.name (0, 0) ops (sysRun fns tls size isOk (Sys.init : Sys K V) ops).2 := h1
  refine ⟨h1', ?_⟩
  have h2 := statsSince_total fns tls size isOk hspec ops (Sys.init : Sys K V) (0, 0) 0 rfl
  rw [← h1'] at h2
  exact h2

/-- **`statsGet name` finds the counters under the cache name.**  With pairwise distinct names of the
    shared functions: once function `i` has been called, `statsGet` of its name leaves the system unchanged
    and returns `some (hits, misses)` with exactly the counters of `counters_exact`. -/
theorem statsGet_returns_counters (hd : DistinctNames fns) {i : Nat} {spec : FnSpec} (hspec : fns[i]? = some spec)
    (hts : spec.threadScope = false) (pre : List (SysOp K V × List Nat)) (hcalled : calledIn i pre) (rs : List Nat) :
    sysStep fns tls size isOk rs (sysRun fns tls size isOk (Sys.init : Sys K V) pre).1 (.statsGet spec.name) =
      ((sysRun fns tls size isOk (Sys.init : Sys K V) pre).1,
       .stats (some (statsSince i spec.name (0, 0) pre (sysRun fns tls size isOk (Sys.init : Sys K V) pre).2))) := by
  have hcon : (sysRun fns tls size isOk (Sys.init : Sys K V) pre).1.called.contains i = true :=
    (called_run fns tls size isOk i pre Sys.init).mpr (Or.inr ⟨spec, hspec, hts, hcalled⟩)
  rw [sysStep_statsGet, statTargets_registered hd _ hspec hts hcon]
  have h1 := (stats_run fns tls size isOk hspec hts pre Sys.init (fun _ => rfl)).1
  simp only
  rw [← (show ctr ((Sys.init : Sys K V).getCache ⟨i, none⟩) = (0, 0) from rfl), ← h1]
  rfl

/-- **`statsGet name` answers `some …` iff a registered function has that name** — a global-scope or
    async function of that name that has been called at least once (thread-scope functions and functions
    never called have no statistics entry). -/
theorem statsGet_some_iff (pre : List (SysOp K V × List Nat)) (name : String) (rs : List Nat) :
    (∃ hm, (sysStep fns tls size isOk rs (sysRun fns tls size isOk (Sys.init : Sys K V) pre).1 (.statsGet name)).2 =
        .stats (some hm)) ↔
      ∃ j spec, fns[j]? = some spec ∧ spec.threadScope = false ∧ spec.name = name ∧ calledIn j pre := by
  rw [sysStep_statsGet]
  have hreg : ∀ j, (sysRun fns tls size isOk (Sys.init : Sys K V) pre).1.called.contains j = true ↔
      ∃ spec, fns[j]? = some spec ∧ spec.threadScope = false ∧ calledIn j pre := by
    intro j
    rw [called_run fns tls size isOk j pre Sys.init]
    simp [Sys.init]
  cases hl : statTargets fns (sysRun fns tls size isOk (Sys.init : Sys K V) pre).1 name with
  | nil =>
    refine ⟨fun ⟨_, hout⟩ => (by cases hout), fun ⟨j, spec, h1, h2, h3, h4⟩ => ?_⟩
    have hj := (mem_statTargets fns _ name j).mpr ⟨spec, h1, h2, (hreg j).mpr ⟨spec, h1, h2, h4⟩, h3⟩
    rw [hl] at hj; cases hj
  | cons a t =>
    refine ⟨fun _ => ?_, fun _ => ⟨_, rfl⟩⟩
    obtain ⟨spec, h1, h2, h3, h4⟩ := (mem_statTargets fns _ name a).mp (by rw [hl]; exact List.mem_cons_self)
    obtain ⟨_, _, _, h3'⟩ := (hreg a).mp h3
    exact ⟨a, spec, h1, h2, h4, h3'⟩

/-- **Resetting one cache's statistics leaves all others unchanged.**  `statsReset name`, from any state:
    (a) changes no store, no order queue and no clock of any instance; (b) leaves every instance that is
    not the shared instance of a registered function named `name` completely unchanged — in particular the
    counters of every cache with another name and every thread-scope instance; (c) zeroes both counters of
    a registered function with that name. -/
theorem statsReset_effect (rs : List Nat) (sys : Sys K V) (name : String) :
    (∀ id : CacheId,
      ((sysStep fns tls size isOk rs sys (.statsReset name)).1.getCache id).store = (sys.getCache id).store ∧
      ((sysStep fns tls size isOk rs sys (.statsReset name)).1.getCache id).queue = (sys.getCache id).queue ∧
      ((sysStep fns tls size isOk rs sys (.statsReset name)).1.getCache id).now = (sys.getCache id).now) ∧
    (∀ id : CacheId, (id.thread ≠ none ∨ ∀ spec, fns[id.fn]? = some spec → spec.name ≠ name) →
      (sysStep fns tls size isOk rs sys (.statsReset name)).1.getCache id = sys.getCache id) ∧
    (∀ i spec, fns[i]? = some spec → spec.threadScope = false → spec.name = name →
      sys.called.contains i = true →
      ((sysStep fns tls size isOk rs sys (.statsReset name)).1.getCache ⟨i, none⟩).hitStat = 0 ∧
      ((sysStep fns tls size isOk rs sys (.statsReset name)).1.getCache ⟨i, none⟩).missStat = 0) := by
  refine ⟨fun id => ?_, fun id hid => ?_, fun i spec h1 h2 h3 h4 => ?_⟩
  · rw [getCache_statsReset]; split <;> exact ⟨rfl, rfl, rfl⟩
  · rw [getCache_statsReset]
    rw [if_neg]
    rintro ⟨ht, hm⟩
    obtain ⟨spec, g1, _, _, g4⟩ := (mem_statTargets fns sys name id.fn).mp hm
    rcases hid with hid | hid
    · exact hid ht
    · exact hid spec g1 g4
  · rw [getCache_statsReset, if_pos ⟨rfl, (mem_statTargets fns sys name i).mpr ⟨spec, h1, h2, h4, h3⟩⟩]
    exact ⟨rfl, rfl⟩

/-- **Calls of one function never change another function's counters** (nor anything else of its
    instances): a call of `fn` leaves every instance of every other function `i ≠ fn` unchanged. -/
theorem call_keeps_other_counters {fn i : Nat} (hne : fn ≠ i) (rs : List Nat) (sys : Sys K V) (th : Nat)
    (c : CallIn K V) (thread : Option Nat) :
    (sysStep fns tls size isOk rs sys (.call fn th c)).1.getCache ⟨i, thread⟩ = sys.getCache ⟨i, thread⟩ := by
  exact step_off_call fns tls size isOk rs sys (callOn_of_fn_ne (id := ⟨i, thread⟩) hne)

/-- **Ticks and registry invalidations never change a counter**: expiry and invalidation show up in the
    statistics only through the later lookups that miss. -/
theorem ticks_and_invalidations_keep_counters (rs : List Nat) (sys : Sys K V) (op : SysOp K V)
    (hop : isInvalidation op = true ∨ ∃ ms, op = .tick ms) (id : CacheId) :
    ((sysStep fns tls size isOk rs sys op).1.getCache id).hitStat = (sys.getCache id).hitStat ∧
    ((sysStep fns tls size isOk rs sys op).1.getCache id).missStat = (sys.getCache id).missStat := by
  rcases hop with hop | ⟨ms, rfl⟩
  · exact stats_invalidation fns tls size isOk rs sys op hop id
  · rw [getCache_tick]; exact ⟨rfl, rfl⟩

end

/-! ### Non-vacuity

`s0` global LRU named "alpha" with TTL 2 s, `s1` async LFU named "beta" with `invalidate_on`, `s2`
thread-scope named "gamma" (no statistics).  The history has hits, an expired lookup (miss), a stale hit
(counted as a hit), an invalidation, a reset of "alpha" and calls after it. -/

def exTl : Tlru Nat := ⟨fun a b => decide (a < b), fun _ h _ r => h * r⟩
def s0 : FnSpec := ⟨"alpha", false, false, ⟨.global, .lru, none, none, some 2⟩, false, false, false, false, ["t"], [], []⟩
def s1 : FnSpec := ⟨"beta", true, false, ⟨.async, .lfu, some 2, none, none⟩, false, false, false, true, [], [], []⟩
def s2 : FnSpec := ⟨"gamma", false, true, ⟨.threadLocal, .fifo, none, none, none⟩, false, false, false, false, [], [], []⟩
def exFns : List FnSpec := [s0, s1, s2]
/-- `invalidate_on` calls key 9 stale -/
def mk (k v : Nat) : CallIn Nat Nat := ⟨k, v, fun _ _ => true, fun k _ => k == 9⟩
def exOps : List (SysOp Nat Nat × List Nat) :=
  [(.statsGet "alpha", []),                                   -- 0: not registered yet
   (.call 0 0 (mk 1 10), []), (.call 0 1 (mk 1 10), []),      -- miss, hit
   (.tick 3000, []), (.call 0 0 (mk 1 10), []),               -- expired: miss
   (.call 1 0 (mk 9 90), []), (.call 1 1 (mk 9 90), []),      -- beta: miss, stale hit (counts as hit)
   (.call 2 0 (mk 1 10), []),                                 -- gamma: thread scope, no statistics
   (.statsGet "alpha", []), (.statsGet "beta", []), (.statsGet "gamma", []),   -- 8, 9, 10
   (.invalidateByTag "t", []), (.call 0 1 (mk 1 10), []),     -- invalidated: miss
   (.statsGet "alpha", []),                                   -- 13
   (.statsReset "alpha", []), (.statsGet "alpha", []), (.statsGet "beta", []), -- 15, 16
   (.call 0 0 (mk 1 10), []), (.statsGet "alpha", [])]        -- hit; 18
def exRun := sysRun exFns (fun _ => exTl) (fun _ => 0) (fun _ => true) (Sys.init : Sys Nat Nat) exOps
def statOf (o : Option (SysOut Nat Nat)) : Option (Nat × Nat) :=
  match o with | some (.stats r) => r | _ => none

example : DistinctNames exFns := distinctNames_of_nodup (by decide)
example : [0, 8, 9, 10, 13, 15, 16, 18].map (fun j => statOf exRun.2[j]?) =
    [none, some (1, 2), some (1, 1), none, some (1, 3), some (0, 0), some (1, 1), some (1, 0)] := by decide +kernel
/-- the counters of "alpha" computed from the history alone agree: 1 hit, 0 misses since the reset,
    and one call since the reset -/
example : statsSince 0 "alpha" (0, 0) exOps exRun.2 = (1, 0) ∧ callsSince 0 "alpha" 0 exOps = 1 := by decide +kernel
example : statsSince 1 "beta" (0, 0) exOps exRun.2 = (1, 1) ∧ callsSince 1 "beta" 0 exOps = 2 := by decide +kernel

end Cachelito.C15b
