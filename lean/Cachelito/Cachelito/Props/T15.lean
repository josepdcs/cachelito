/-
  T15 — TRANSLATOR TIE, thread_local_cache.rs: `insert_with_memory` of the thread-local engine (C05, C04, C07, C08, C16)

  `Generated/PureThread.lean` is regenerated from /repo's CURRENT source on every check; the theorems are re-proved against
  whatever was generated.  `value.estimate_memory()` is the parameter `size`; the `loop { … }` of the source gets a fuel
  bound; `fastrand::usize(..n)` takes the next draw of the stream `rs`.

  Step 1 (`insert_with_memory_eq`): every iteration of the source's memory loop is the reference
  iteration `memBody` — stop when the total fits, otherwise ONE eviction by the model's `evictMem`, stop when nothing
  could be evicted — and the whole function is: fresh entry stored and re-queued at the back; an oversize value removed
  again (map entry and LAST queue slot); otherwise the loop, then the entry-limit step `limitStep`.
  Step 2 (`insert_with_memory_model`): `memBody` acts on (store, queue, draws) as `SourceLemmas.memIter` does
  (`memBody_memIter`), and the loop of `memIter` followed by the entry-limit step is the model's `memLoop` followed by
  `limitStep` (`SourceLemmas.limitStep_memIter_loop`); so the translated function leaves exactly the store and queue of
  `Cachelito.insertMem` (thread-local flavour).  `refLoop_eq_memLoop` states the loop's part of this on its own.
-/
import Cachelito.Props.T11
import Cachelito.Props.T14


namespace Cachelito.T15
open Cachelito Cachelito.RustLite Cachelito.Generated Cachelito.SourceLemmas Cachelito.T11
open Cachelito.Generated.Thread

variable {K V F : Type} [DecidableEq K]

/-- the state the source's loop carries: the cache, the guarded queue, the remaining draws -/
abbrev LoopSt (K V F : Type) := ThreadCache K V F × List K × List Nat

/-- one iteration of the memory loop, written with the model's primitives -/
def memBody (cfg : Cfg) (tl : Tlru F) (size : V → Nat) (now maxM : Nat) (st : LoopSt K V F) : Bool × LoopSt K V F :=
  if totalMem size st.1.cache ≤ maxM then (true, st)
  else
    let res := evictMem cfg tl now (st.2.2.headD 0) st.1.cache st.2.1
    let rs' := if cfg.policy = .random ∧ st.2.1 ≠ [] then st.2.2.tail else st.2.2
    (!res.2.2, ({ st.1 with cache := res.1 }, res.2.1, rs'))

theorem loopFuel_congr {σ : Type} {f g : σ → Bool × σ} (h : ∀ s, f s = g s) :
    ∀ (n : Nat) (st : σ), loopFuel n st f = loopFuel n st g :=
  T14.loopFuel_congr h

/-- what an eviction leaves in the store was there before -/
theorem mem_popStored : ∀ (q : List K) (m : Store K V) (p : K × Entry V), p ∈ (popStored m q).1 → p ∈ m :=
  Cachelito.mem_popStored

/-- the whole function, written with the model's primitives and the reference loop -/
def refInsertMem (A : F64 F) (size : V → Nat) (fuel : Nat) (rs : List Nat) (c : ThreadCache K V F) (now : Nat)
    (k : K) (v : V) : ThreadCache K V F :=
  let tl := T02.srcTlru A c.frequency_weight
  let m0 := put k ⟨v, now, 0⟩ c.cache
  let q0 := erasePush k c.order
  match c.max_memory with
  | some maxM =>
    if size v > maxM then { c with cache := eraseKey k m0, order := q0.dropLast }
    else
      let st := loopFuel fuel (({ c with cache := m0 } : ThreadCache K V F), q0, rs) (memBody (cfgOf c) tl size now maxM)
      let r := limitStep (cfgOf c) tl now (st.2.2.headD 0) st.1.cache st.2.1
      { st.1 with cache := r.1, order := r.2 }
  | none =>
    let r := limitStep (cfgOf c) tl now (rs.headD 0) m0 q0
    { c with cache := r.1, order := r.2 }

/-- what stays fixed along the loop: the configuration, the weight, the counters; and hit counters stay below `u64::MAX` -/
def LoopInv (c : ThreadCache K V F) (st : LoopSt K V F) : Prop :=
  cfgOf st.1 = cfgOf c ∧ st.1.frequency_weight = c.frequency_weight ∧ st.1.stats = c.stats ∧
    ∀ p, p ∈ st.1.cache → p.2.hits < u64Max

theorem memBody_inv (cfg : Cfg) (tl : Tlru F) (size : V → Nat) (now maxM : Nat) (c : ThreadCache K V F) (s : LoopSt K V F)
    (hs : LoopInv c s) : LoopInv c (memBody cfg tl size now maxM s).2 := by
  unfold memBody
  split
  · exact hs
  · exact ⟨hs.1, hs.2.1, hs.2.2.1, fun p hp => hs.2.2.2 p (mem_evictMem cfg _ now _ _ _ p hp)⟩

/-- **`insert_with_memory` of the thread-local engine, read off the source**: the fresh entry is stored and its key
    re-queued at the back; a value larger than `max_memory` is removed again (its map entry and the LAST queue slot);
    otherwise the memory loop — each iteration the reference iteration `memBody` — and then the entry-limit step. -/
theorem insert_with_memory_eq (A : F64 F) (c : ThreadCache K V F) (size : V → Nat) (now fuel : Nat) (rs : List Nat)
    (k : K) (v : V) (ok : ScoresOK A c) :
    Thread.insert_with_memory A ⟨fun b => now - b, now⟩ size fuel rs c k v = refInsertMem A size fuel rs c now k v := by
  obtain ⟨map, order, limit, mm, policy, ttl, fw, st⟩ := c
  unfold Thread.insert_with_memory refInsertMem
  -- the leading `let`s of the translated text: the draw stream, then the ten of `insert` (see `T11.insert_eq`)
  extract_lets +onlyGivenNames rs0 key0 entry c0 c1 self0 self1 o1 o2 o3 o4
  rw [show o4 = erasePush k order from requeue_eq k order]
  have ok' : ScoresOK A (ThreadCache.mk (put k ⟨v, now, 0⟩ map) order limit mm policy ttl fw st) :=
    ok.congr rfl rfl (hits_put ok.hitsBelowMax k v now)
  cases mm with
  | none =>
    simp (config := noEta) only [self1, self0, c1, c0, entry, key0, rs0, mapInsert, newEntry, headRand]
    rw [handle_entry_limit_eviction_eq A _ now _ _ ok']
    rfl
  | some maxM =>
    simp (config := noEta) only [self1, self0, c1, c0, entry, key0, rs0, mapInsert, newEntry, headRand, lookup_put_self, Option.map, Option.getD]
    by_cases hov : size v > maxM
    · rw [if_pos (decide_eq_true hov), if_pos hov]
      rfl
    · rw [if_neg (mt of_decide_eq_true hov), if_neg hov]
      rw [loopFuel_congr_inv (LoopInv (ThreadCache.mk map order limit (some maxM) policy ttl fw st))
        (g := memBody (cfgOf (ThreadCache.mk map order limit (some maxM) policy ttl fw st)) (T02.srcTlru A fw) size now maxM)
        ?body (fun s hs => memBody_inv _ _ size now maxM _ s hs) fuel _ ⟨rfl, rfl, rfl, ok'.hitsBelowMax⟩]
      case body =>
        -- every iteration of the source's loop is the reference iteration
        rintro ⟨⟨map2, order2, _, _, _, _, _, st2⟩, o, rs2⟩ ⟨hc, hw, -, hh⟩
        cases hc
        cases hw
        unfold memBody
        simp (config := noEta) only [sum_values_eq_totalMem, cfgOf]
        refine ite_congr decide_eq_true_eq (fun _ => rfl) (fun _ => ?_)
        · obtain ⟨hlfu, harc, htlru⟩ := T02.find_victim_eq A fw ⟨.threadLocal, policy, limit, some maxM, ttl⟩ now
            Flavour.noConfusion map2 o (hits_lookup hh) ok.arcBelowMax ok.arcOrder ok.tlruBelowMax
          cases policy with
          | lfu | arc | tlru =>
            simp (config := noEta) only [hlfu, harc, htlru, evictMem, evictScored]
            cases victim _ _ now map2 o with
            | none => rfl
            | some key => simp (config := noEta) only [remove_key_with_order_eq, removeBoth]; rfl
          | random =>
            simp (config := noEta) only [evictMem, evictRandom, randBelow, nextRand, dequeRemove, mapRemove]
            cases o with
            | nil => rfl
            | cons x xs =>
              obtain ⟨y, hy⟩ := random_slot (rs2.headD 0) (List.cons_ne_nil x xs)
              simp (config := noEta) only [hy, List.isEmpty_cons, Bool.not_false, if_true]
              rfl
          | fifo | lru =>
            simp (config := noEta) only [evictMem]
            cases o with
            | nil => rfl
            | cons x xs => rfl
      -- after the loop: the entry-limit step on whatever the loop left
      generalize hloop : loopFuel fuel _ _ = R
      have hR : LoopInv (ThreadCache.mk map order limit (some maxM) policy ttl fw st) R :=
        hloop ▸ loopFuel_inv _ (fun s hs => memBody_inv _ _ size now maxM _ s hs) fuel _ ⟨rfl, rfl, rfl, ok'.hitsBelowMax⟩
      obtain ⟨c2, o2, rs2⟩ := R
      simp (config := noEta) only []
      rw [handle_entry_limit_eviction_eq A c2 now _ _ (ok.congr hR.1 hR.2.1 hR.2.2.2), hR.1, hR.2.1]

/-- `insert_with_memory` leaves the configuration, the weight and the counters alone -/
theorem insert_with_memory_frame (A : F64 F) (size : V → Nat) (fuel : Nat) (rs : List Nat) (c : ThreadCache K V F)
    (now : Nat) (k : K) (v : V) (ok : ScoresOK A c) :
    cfgOf (Thread.insert_with_memory A ⟨fun b => now - b, now⟩ size fuel rs c k v) = cfgOf c ∧
    (Thread.insert_with_memory A ⟨fun b => now - b, now⟩ size fuel rs c k v).frequency_weight = c.frequency_weight ∧
    (Thread.insert_with_memory A ⟨fun b => now - b, now⟩ size fuel rs c k v).stats = c.stats := by
  rw [insert_with_memory_eq A c size now fuel rs k v ok]
  unfold refInsertMem
  split
  · dsimp only
    split
    · exact ⟨rfl, rfl, rfl⟩
    · -- the loop invariant, without its part about the hit counters
      exact And.imp_right (And.imp_right And.left) (loopFuel_inv (LoopInv c)
        (fun s hs => memBody_inv _ _ size now _ c s hs) fuel _ ⟨rfl, rfl, rfl, hits_put ok.hitsBelowMax k v now⟩)
  · exact ⟨rfl, rfl, rfl⟩

/-! ### Step 2: the reference loop is the model's `memLoop` -/

/-- `memBody` acts on the store, the queue and the draws as `memIter` does -/
theorem memBody_memIter (cfg : Cfg) (tl : Tlru F) (size : V → Nat) (now maxM : Nat) (s : LoopSt K V F) :
    (memBody cfg tl size now maxM s).1 = (memIter cfg tl size now maxM 0 (s.1.cache, s.2)).1 ∧
    ((memBody cfg tl size now maxM s).2.1.cache, (memBody cfg tl size now maxM s).2.2) =
      (memIter cfg tl size now maxM 0 (s.1.cache, s.2)).2 := by
  unfold memBody memIter
  dsimp only [Nat.add_zero]
  split <;> exact ⟨rfl, rfl⟩

/-- **The loop of `memBody` leaves the store and queue of the model's `memLoop`**: `memIter_loop_eq_memLoop` read through
    `memBody_memIter`.  (`insert_with_memory_model` needs the entry-limit step after the loop as well and takes both from
    `limitStep_memIter_loop`.) -/
theorem refLoop_eq_memLoop (cfg : Cfg) (tl : Tlru F) (size : V → Nat) (now maxM : Nat) :
    ∀ (fuel : Nat) (c : ThreadCache K V F) (q : List K) (rs rs' : List Nat), (cfg.policy = .random → rs = rs') →
      (loopFuel fuel (c, q, rs) (memBody cfg tl size now maxM)).1.cache = (memLoop cfg tl size now maxM 0 fuel rs' c.cache q).1 ∧
      (loopFuel fuel (c, q, rs) (memBody cfg tl size now maxM)).2.1 = (memLoop cfg tl size now maxM 0 fuel rs' c.cache q).2.1 ∧
      (cfg.policy = .random →
        (loopFuel fuel (c, q, rs) (memBody cfg tl size now maxM)).2.2 = (memLoop cfg tl size now maxM 0 fuel rs' c.cache q).2.2 ∨
        (loopFuel fuel (c, q, rs) (memBody cfg tl size now maxM)).2.1 = []) := by
  intro fuel c q rs rs' hr
  have h := memIter_loop_eq_memLoop cfg tl size now maxM 0 fuel c.cache q rs rs' hr
  rw [← loopFuel_map (fun s : LoopSt K V F => (s.1.cache, s.2)) (memBody_memIter cfg tl size now maxM) fuel (c, q, rs)] at h
  exact h

/-- **The thread-local engine's `insert_with_memory` is the model's `insertMem`.**  With as much fuel as the model's loop
    uses (one more than the queue length after the re-queue — every successful eviction shortens the queue): for every
    cache content, configuration, key, value, size function, clock and stream of draws, the translated function leaves
    exactly the store and the queue of `Cachelito.insertMem` for the thread-local flavour. -/
theorem insert_with_memory_model (A : F64 F) (c : ThreadCache K V F) (size : V → Nat) (now hs ms : Nat) (rs : List Nat)
    (k : K) (v : V) (ok : ScoresOK A c) :
    (Thread.insert_with_memory A ⟨fun b => now - b, now⟩ size ((erasePush k c.order).length + 1) rs c k v).cache =
      (Cachelito.insertMem (cfgOf c) (T02.srcTlru A c.frequency_weight) size rs ⟨c.cache, c.order, now, hs, ms⟩ k v).store ∧
    (Thread.insert_with_memory A ⟨fun b => now - b, now⟩ size ((erasePush k c.order).length + 1) rs c k v).order =
      (Cachelito.insertMem (cfgOf c) (T02.srcTlru A c.frequency_weight) size rs ⟨c.cache, c.order, now, hs, ms⟩ k v).queue := by
  rw [insert_with_memory_eq A c size now _ rs k v ok]
  unfold refInsertMem Cachelito.insertMem
  have hfl : (cfgOf c).flavour = .threadLocal := rfl
  have hmm : (cfgOf c).maxMem = c.max_memory := rfl
  have hst : stamp (cfgOf c) now = now := rfl
  simp only [hfl, hmm, hst]
  cases c.max_memory with
  | none => exact ⟨rfl, rfl⟩
  | some maxM =>
    dsimp only
    split
    · exact ⟨rfl, rfl⟩
    · rw [limitStep_memIter_loop _ _ size now maxM _ (fun s : LoopSt K V F => (s.1.cache, s.2)) (memBody_memIter _ _ size now maxM)]
      generalize memLoop (K := K) (cfgOf c) (T02.srcTlru A c.frequency_weight) size now maxM 0 _ rs _ _ = M
      obtain ⟨m1, q1, rs1⟩ := M
      exact ⟨rfl, rfl⟩

end Cachelito.T15
