/-
  C17s — the lock hierarchy checked against the CURRENT SOURCE (translator tie).

  `Cachelito/Generated/LockNesting.lean` is regenerated from /repo's source by `checklib/static_scopes.py` on every
  check of C17: `nesting` lists every statically possible nesting of lock acquisitions — lexical guard scopes,
  calls of functions that acquire locks while the caller's guards are alive, and the registered callbacks the
  registry runs while holding its callback table.  The theorems below are re-checked by the kernel against
  whatever the translator produced from the code as it is now:

    * `static_nesting_rank_increasing` — every nesting in the source strictly increases the rank of `Conc.Table`;
    * `static_nesting_in_table` — every nesting in the source is a nesting of some skeleton of THE TABLE
      (`Conc.Table.opTable`), i.e. the hand-written skeletons do not miss a nesting the code can perform;
    * `wf_of_pairs_rank_increasing` / `wf_of_source_nestings` — ANY skeleton (whatever the true control
      flow of an operation is) all of whose nestings are among the extracted ones is rank-disciplined, which is
      the hypothesis of `C17.deadlock_free`.  The extracted pairs are per engine, written with the locks of
      cache 0 (sync engine) and cache 2 (async engine), so this applies to skeletons on those two caches; that
      the cache number does not matter is `Conc.Table.opTableOf_wf`;
    * `shard_guards_never_held` — no DashMap shard guard is alive across a lock acquisition, another DashMap
      access or an await: the obligation under which the lock model may treat DashMap operations as atomic;
    * `translator_classified_everything`, `translator_saw_sites` — the translator met nothing it could not
      classify, and what it produced is not the empty list.

  A change of the code that takes the store lock before the queue mutex, re-enters a lock it holds, or holds a
  cache lock while taking a registry lock changes `nesting` and these proofs no longer check.
-/
import Cachelito.Generated.LockNesting

namespace Cachelito.C17s
open Cachelito.Conc Cachelito.Conc.Skel Cachelito.Conc.Table Cachelito.Generated

/-- the nestings (lock held, its mode, lock acquired, its mode) a skeleton can perform under `held`: the
    recursion of `Skel.wf` with "collect the pairs" in place of "check the ranks" -/
def pairs (held : List (Lock × Mode)) : Skel → List (Lock × Mode × Lock × Mode)
  | .done => []
  | .crit l m b => held.map (fun h => (h.1, h.2, l, m)) ++ pairs ((l, m) :: held) b
  | .seq a b => pairs held a ++ pairs held b
  | .alt a b => pairs held a ++ pairs held b
  | .star b => pairs held b

/-- all nestings of THE TABLE (two sync caches 0 and 1, one async cache 2) -/
def tablePairs : List (Lock × Mode × Lock × Mode) := opTable.flatMap (fun p => pairs [] p.2)

/-- The translator classified every acquisition it met (no unknown receiver). -/
theorem translator_classified_everything : lockProblems = [] := by decide

/-- The translator saw the lock acquisition sites (non-vacuity of the two theorems below). -/
theorem translator_saw_sites : 0 < lockSites ∧ 0 < nesting.length := by decide

/-- **Every nesting of lock acquisitions in the current source strictly increases the rank**
    (registry < queue mutex < store lock). -/
theorem static_nesting_rank_increasing : ∀ e ∈ nesting, e.1.rank < e.2.2.1.rank := by decide

/-- **Every nesting in the current source is a nesting of some skeleton of THE TABLE.** -/
theorem static_nesting_in_table : ∀ e ∈ nesting, e ∈ tablePairs := by decide +kernel

/-- A skeleton all of whose nestings increase the rank is rank-disciplined (`Skel.wf`). -/
theorem wf_of_pairs_rank_increasing (s : Skel) (held : List (Lock × Mode))
    (h : ∀ e ∈ pairs held s, e.1.rank < e.2.2.1.rank) : s.wf (held.map (·.1)) = true := by
  induction s generalizing held with
  | done => rfl
  | crit l m b ih =>
    simp only [pairs, List.mem_append, or_imp, forall_and, List.mem_map, forall_exists_index, and_imp,
      forall_apply_eq_imp_iff₂] at h
    simp only [Skel.wf, Bool.and_eq_true, List.all_eq_true, decide_eq_true_eq, List.mem_map, forall_exists_index,
      and_imp, forall_apply_eq_imp_iff₂]
    exact ⟨h.1, ih _ h.2⟩
  | seq a b iha ihb | alt a b iha ihb =>
    simp only [pairs, List.mem_append, or_imp, forall_and] at h
    simp only [Skel.wf, Bool.and_eq_true]
    exact ⟨iha held h.1, ihb held h.2⟩
  | star b ih => exact ih held h

/-- **Whatever the control flow of an operation is, if its nestings are among those extracted from the source it is
    rank-disciplined** — the hypothesis under which `C17.deadlock_free` holds for any number of threads. -/
theorem wf_of_source_nestings (s : Skel) (h : ∀ e ∈ pairs [] s, e ∈ nesting) : s.wf [] = true := by
  have := wf_of_pairs_rank_increasing s [] (fun e he => static_nesting_rank_increasing e (h e he))
  simpa using this

/-- non-vacuity: the skeleton of `GlobalCache::insert` performs only extracted nestings -/
example : ∀ e ∈ pairs [] (syncInsert 0), e ∈ nesting := by decide

/-- and the pre-fix conditional-invalidation callback (store lock first, then the queue mutex) does not -/
example : ¬ (∀ e ∈ pairs [] (legacyCondCb 0), e ∈ nesting) := by decide

/-- **No DashMap shard guard is alive where the current source acquires a lock, touches the DashMap again, calls a function that
    does, or awaits.**  The lock model treats every DashMap operation as an atomic step (a shard lock is taken and released inside
    it); this is the obligation that makes that sound: a `Ref` / `RefMut` / iterator kept alive across a queue-mutex acquisition
    would add a lock of rank ABOVE the queue mutex that is taken BEFORE it (the inverse of every insert / eviction / invalidation
    path, which touch the DashMap under the queue mutex), and one kept across an `.await` blocks the shard while the call is
    suspended (C20).  The list is extracted by `checklib/static_scopes.py` from the current source on every run. -/
theorem shard_guards_never_held : shardHeld = [] := by decide

end Cachelito.C17s
