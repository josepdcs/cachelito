/-
  T11 — TRANSLATOR TIE, thread_local_cache.rs: the STORE PATH of the thread-local engine
  (`insert`, `handle_entry_limit_eviction`, `remove_key`, `remove_key_with_order`, `move_to_end`,
  `increment_frequency`) — C01, C04, C07, C08, C14, C16

  `Generated/PureThread.lean` is regenerated from /repo's CURRENT source on every check; the theorems are re-proved
  against whatever was generated.  `self` is the record `RustLite.ThreadCache`: the two `thread_local!` `RefCell`s OF
  THE CALLING THREAD and the configuration; `self.cache.with(|c| …)` is a block in which `c` stands for the cell, and
  `c.borrow()` / `c.borrow_mut()` are guards on it (that no conflicting borrow is alive is C16s's theorem, from the
  other translator).  The helpers called are the translated `utils.rs` functions of `Props/T02.lean`.

  Main theorem `insert_eq`: the translated `ThreadLocalCache::insert` leaves exactly the store and queue of the model's
  `Cachelito.insert` (thread-local flavour).
-/
import Cachelito.Generated.PureThread
import Cachelito.Props.T02
-- not used below: a change to what is tied there re-checks this module as well
import Cachelito.Props.T03
import Cachelito.Props.T07


namespace Cachelito.T11
open Cachelito Cachelito.RustLite Cachelito.Generated Cachelito.SourceLemmas
open Cachelito.Generated.Thread

variable {K V F : Type} [DecidableEq K]

def cfgOf (c : ThreadCache K V F) : Cfg := ⟨.threadLocal, c.policy, c.limit, c.max_memory, c.ttl⟩

/-- the assumptions under which the float scores order like the documented score (DESIGN.md §9) -/
structure ScoresOK (A : F64 F) (c : ThreadCache K V F) : Prop where
  hitsBelowMax : ∀ p, p ∈ c.cache → p.2.hits < u64Max
  arcBelowMax : ∀ a b, A.lt (A.mul (A.ofNat a) (A.ofNat b)) A.maxVal = true
  arcOrder : ∀ a b c d, A.lt (A.mul (A.ofNat a) (A.ofNat b)) (A.mul (A.ofNat c) (A.ofNat d)) = decide (a * b < c * d)
  tlruBelowMax : ∀ hits el rk, A.lt ((T02.srcTlru A c.frequency_weight).score (cfgOf c) hits el rk) A.maxVal = true

theorem move_to_end_eq (c : ThreadCache K V F) (k : K) :
    Thread.move_to_end c k = { c with order := moveToEnd k c.order } := by
  simp [Thread.move_to_end, T02.move_key_to_end_eq]

/-- `remove_key` / `remove_key_with_order` remove the key from the thread's map and (first slot) queue -/
theorem remove_key_eq (c : ThreadCache K V F) (k : K) :
    Thread.remove_key c k = { c with cache := eraseKey k c.cache, order := c.order.erase k } := by
  simp [Thread.remove_key, (T02.remove_key_eq _ _ _).2]

theorem remove_key_with_order_eq (c : ThreadCache K V F) (q : List K) (k : K) :
    Thread.remove_key_with_order c q k = ({ c with cache := eraseKey k c.cache }, q.erase k) := by
  simp [Thread.remove_key_with_order, (T02.remove_key_eq _ _ _).2]

theorem increment_frequency_eq (c : ThreadCache K V F) (k : K) (h : ∀ p, p ∈ c.cache → p.2.hits < u64Max) :
    Thread.increment_frequency c k = { c with cache := bumpHits k c.cache } := by
  unfold Thread.increment_frequency
  dsimp only
  cases hl : lookup k c.cache with
  | none => rw [bumpHits_of_lookup_none hl]
  | some e => exact congrArg (fun m => { c with cache := m }) (mapSet_bump k c.cache e hl (hits_lookup h k e hl))

omit [DecidableEq K] in
theorem ScoresOK.congr {A : F64 F} {c c' : ThreadCache K V F} (ok : ScoresOK A c) (hc : cfgOf c' = cfgOf c)
    (hw : c'.frequency_weight = c.frequency_weight) (hh : ∀ p, p ∈ c'.cache → p.2.hits < u64Max) : ScoresOK A c' :=
  ⟨hh, ok.arcBelowMax, ok.arcOrder, by rw [hc, hw]; exact ok.tlruBelowMax⟩

/-- **The entry-limit step of the thread-local engine** is the model's `limitStep` -/
theorem handle_entry_limit_eviction_eq (A : F64 F) (c : ThreadCache K V F) (now r : Nat) (q : List K)
    (ok : ScoresOK A c) :
    Thread.handle_entry_limit_eviction A ⟨fun b => now - b, now⟩ r c q =
      ({ c with cache := (limitStep (cfgOf c) (T02.srcTlru A c.frequency_weight) now r c.cache q).1 },
       (limitStep (cfgOf c) (T02.srcTlru A c.frequency_weight) now r c.cache q).2) := by
  obtain ⟨cache, order, limit, mm, policy, ttl, fw, st⟩ := c
  unfold Thread.handle_entry_limit_eviction limitStep
  dsimp only [cfgOf] at ok ⊢
  cases limit with
  | none => rfl
  | some n =>
    by_cases hfull : q.length > n
    · simp only [overLimit, hfull, decide_true, if_true]
      obtain ⟨hlfu, harc, htlru⟩ := T02.find_victim_eq A fw ⟨.threadLocal, policy, some n, mm, ttl⟩ now Flavour.noConfusion cache q
        (hits_lookup ok.hitsBelowMax) ok.arcBelowMax ok.arcOrder ok.tlruBelowMax
      cases policy with
      | lfu | arc | tlru =>
        simp only [hlfu, harc, htlru, evictLimit, evictScored]
        cases victim _ _ now cache q with
        | none => rfl
        | some key => simp only [remove_key_with_order_eq, removeBoth]
      | random =>
        simp only [evictLimit, evictRandom, randBelow, dequeRemove, mapRemove]
        cases q with
        | nil => rfl
        | cons x xs =>
          obtain ⟨y, hy⟩ := random_slot r (List.cons_ne_nil x xs)
          simp only [hy, List.isEmpty_cons, Bool.not_false, if_true]
      | fifo | lru =>
        simp only [evictLimit]
        rw [whilePop_eq_popStored' (fun c : ThreadCache K V F => c.cache) (fun c m => { c with cache := m }) (fun _ => rfl)]
        intro a s; by_cases h : hasKey a s.cache = true <;> simp only [h, mapRemove, if_true, if_false, Bool.false_eq_true]
    · simp only [overLimit, hfull, decide_false, if_false, Bool.false_eq_true]

/-- **The thread-local engine's `insert` is the model's `insert`** -/
theorem insert_eq (A : F64 F) (c : ThreadCache K V F) (now r hs ms : Nat) (k : K) (v : V) (ok : ScoresOK A c) :
    Thread.insert A ⟨fun b => now - b, now⟩ r c k v =
      { c with
        cache := (Cachelito.insert (cfgOf c) (T02.srcTlru A c.frequency_weight) r ⟨c.cache, c.order, now, hs, ms⟩ k v).store,
        order := (Cachelito.insert (cfgOf c) (T02.srcTlru A c.frequency_weight) r ⟨c.cache, c.order, now, hs, ms⟩ k v).queue } := by
  obtain ⟨cache, order, limit, mm, policy, ttl, fw, st⟩ := c
  unfold Thread.insert
  -- the leading `let`s of the translated text, nested ones included: the key, the fresh entry; the borrowed map and the map
  -- with the entry stored (`c0`, `c1`), the cache with it written back and its rebinding (`self0`, `self1`); the borrowed
  -- queue, its second name `order`, with the key's slot removed, with the key pushed back (`o1` … `o4`)
  extract_lets +onlyGivenNames key0 entry c0 c1 self0 self1 o1 o2 o3 o4
  rw [show o4 = erasePush k order from requeue_eq k order]
  have ok' : ScoresOK A (ThreadCache.mk (put k ⟨v, now, 0⟩ cache) order limit mm policy ttl fw st) :=
    ok.congr rfl rfl (hits_put ok.hitsBelowMax k v now)
  simp only [self1, self0, c1, c0, entry, key0, mapInsert, newEntry]
  rw [handle_entry_limit_eviction_eq A _ now r _ ok']
  rfl

end Cachelito.T11
