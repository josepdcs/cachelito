/-
  C05 (engine part) — Memory limit: cached values never exceed `max_memory`, no needless eviction.

  The lemmas about `totalMem`, `memLoop`, `iterEvict` and the normal form of the store operations are in
  `Lemmas/Mem.lean` and `Lemmas/Score.lean`.  All statements quantify over every flavour (sync global,
  thread-local, async), every policy, every TLRU score algebra `tl`, every size function `size : V → Nat`
  (so in particular the built-in estimator of part (a) and any user `MemoryEstimator`), every stream of
  random draws and every state satisfying the bookkeeping invariant `Inv` (which holds in every reachable
  state, `C04.inv_reachable`).

  Reading guide (numbers as in the statement of C05):
    (1) termination / fuel adequacy   : `eviction_shortens_queue`, `eviction_fails_only_on_empty_queue`,
                                         `memLoop_never_out_of_fuel`, `memLoop_exits_fitting`,
                                         `memLoop_fuel_independent`
    (2) the bound                      : one step, in `Lemmas/Score.lean` under this namespace:
                                         `insertMem_bound_of_fits`, `insertMem_oversize_le`, `insertMem_bound`,
                                         `step_nonstore_totalMem_le`, `step_bound`; here: `step_nonstore_le`,
                                         `memory_never_exceeded(_from, _prefix)`, `async_fitting_value_is_cached`
    (3) oversize values                : `oversize_state`, `oversize_not_cached`, `oversize_others_untouched`,
                                         `oversize_queue_order`, `oversize_absent_noop`, `oversize_restore_drops_only_own_entry`
    (4) no needless eviction           : `fits_eq_plain_insert`,
                                         `fits_removes_at_most_one`, `fits_no_limit_removes_nothing`
    (5) only until the total fits      : `victim_sequence_step`, `memLoop_shortest_prefix(_general)`,
                                         `insertMem_sync_shortest_prefix`, `insertMem_async_shortest_prefix`
    lifts to reachable states          : `…_reachable`

  Scope: the model is sequential (one operation at a time).  Interleavings of two `insert_with_memory`
  calls on the sync global cache are NOT covered here (in the real `GlobalCache` the value is put
  into the map before the queue lock is taken and before the oversize check, so a pending oversize
  store is visible to concurrent lookups and memory loops).
-/
import Cachelito.Lemmas.Score

namespace Cachelito.C05
open Cachelito
variable {K V S : Type} [DecidableEq K]

/-! ## (1) No infinite eviction loop -/

/-- Every successful iteration of the memory loop (`evictMem` reporting `true`) removes exactly one
    key from the order queue, whatever the flavour and policy: the queue length is a strictly
    decreasing measure of the loop. -/
theorem eviction_shortens_queue (cfg : Cfg) (tl : Tlru S) (now r : Nat) {m : Store K V} {q : List K}
    (h : InvMQ m q) (hev : (evictMem cfg tl now r m q).2.2 = true) :
    (evictMem cfg tl now r m q).2.1.length + 1 = q.length :=
  (evictMem_spec h cfg tl now r).queue_length h hev

/-- An iteration reports "nothing evicted" only when the queue (hence the store) is empty, and then it
    changes nothing: the loop cannot stop early while there is still something to evict. -/
theorem eviction_fails_only_on_empty_queue (cfg : Cfg) (tl : Tlru S) (now r : Nat) {m : Store K V} {q : List K}
    (h : InvMQ m q) (hev : (evictMem cfg tl now r m q).2.2 = false) :
    q = [] ∧ m = [] ∧ (evictMem cfg tl now r m q).1 = m ∧ (evictMem cfg tl now r m q).2.1 = q := by
  rcases evictMem_spec h cfg tl now r with ⟨hb, _⟩ | ⟨_, h0, h1, h2⟩
  · rw [hb] at hev; cases hev
  · subst h0; exact ⟨rfl, h.store_nil, h1, h2⟩

/-- **Fuel adequacy.**  Called with `fuel = q.length + 1` (what `insertMem` passes), the memory loop
    never stops because the fuel ran out: on exit the total fits, or the queue is empty (nothing left
    to evict).  Together with `eviction_shortens_queue` this is the model-side proof that the
    eviction loop of `insert_with_memory` terminates after at most `q.length + 1` iterations. -/
theorem memLoop_never_out_of_fuel (cfg : Cfg) (tl : Tlru S) (size : V → Nat) (now maxM extra : Nat)
    (rs : List Nat) {m : Store K V} {q : List K} (h : InvMQ m q) :
    totalMem size (memLoop cfg tl size now maxM extra (q.length + 1) rs m q).1 + extra ≤ maxM ∨
      (memLoop cfg tl size now maxM extra (q.length + 1) rs m q).2.1 = [] :=
  memLoop_fuel cfg tl size now maxM extra rs h

/-- When the value to be stored fits on its own (`extra ≤ maxM`, always true where `insertMem` runs the
    loop) the loop exits with the total fitting — never with "nothing left to evict but still too big". -/
theorem memLoop_exits_fitting (cfg : Cfg) (tl : Tlru S) (size : V → Nat) (now maxM extra : Nat)
    (rs : List Nat) {m : Store K V} {q : List K} (h : InvMQ m q) (hx : extra ≤ maxM) :
    totalMem size (memLoop cfg tl size now maxM extra (q.length + 1) rs m q).1 + extra ≤ maxM :=
  memLoop_fits cfg tl size now maxM extra rs h hx

/-- The fuel is only a device for structural recursion: any amount `≥ q.length + 1` gives the same
    result, i.e. the loop is the unbounded `loop { … }` of the source. -/
theorem memLoop_fuel_independent (cfg : Cfg) (tl : Tlru S) (size : V → Nat) (now maxM extra : Nat)
    (d : Nat) (rs : List Nat) {m : Store K V} {q : List K} (h : InvMQ m q) :
    memLoop cfg tl size now maxM extra (q.length + 1 + d) rs m q =
      memLoop cfg tl size now maxM extra (q.length + 1) rs m q :=
  memLoop_fuel_irrelevant cfg tl size now maxM extra _ rs h (Nat.le_add_right _ d)

/-! ## (2) The bound -/

/-- Operations that are not stores (lookup incl. hit-counter bump, recency refresh and expiry purge;
    clear; conditional invalidation; passage of time) never increase the footprint. -/
theorem step_nonstore_le (cfg : Cfg) (tl : Tlru S) (size : V → Nat) (rs : List Nat) (s : State K V) (op : Op K V)
    (hop : ∀ k v, op ≠ .insert k v ∧ op ≠ .insertMem k v) :
    totalMem size (step cfg tl size rs s op).1.store ≤ totalMem size s.store :=
  step_nonstore_totalMem_le cfg tl size rs s op hop

/-- The bound along any history started in any consistent state within the bound. -/
theorem memory_never_exceeded_from (cfg : Cfg) (tl : Tlru S) (size : V → Nat) (M : Nat)
    (hM : cfg.maxMem = some M) (ops : List (Op K V × List Nat)) (hops : AllViaMem ops)
    (s : State K V) (hi : Inv s) (hb : totalMem size s.store ≤ M) :
    totalMem size (run cfg tl size s ops).1.store ≤ M := by
  induction ops generalizing s with
  | nil => exact hb
  | cons a ops ih =>
    have hhead := hops.head
    have htail := hops.tail
    obtain ⟨op, rs⟩ := a
    simp only [run]
    exact ih htail _ (step_inv cfg tl size rs s op hi) (step_bound cfg tl size rs s op M hM hhead hi hb)

/-- **C05, bound for every history**: on a cache configured with `max_memory = M`, whose stores all go
    through `insert_with_memory` (as in the generated code), interleaved arbitrarily with lookups,
    clears, conditional invalidations and time steps, the total size of the cached values is at
    most `M` after every completed operation — under every policy and flavour. -/
theorem memory_never_exceeded (cfg : Cfg) (tl : Tlru S) (size : V → Nat) (M : Nat)
    (hM : cfg.maxMem = some M) (ops : List (Op K V × List Nat)) (hops : AllViaMem ops) :
    totalMem size (run cfg tl size (State.init : State K V) ops).1.store ≤ M :=
  memory_never_exceeded_from cfg tl size M hM ops hops _ inv_init (Nat.zero_le _)

/-- the bound also holds after every prefix of the history (every intermediate completed operation) -/
theorem memory_never_exceeded_prefix (cfg : Cfg) (tl : Tlru S) (size : V → Nat) (M : Nat)
    (hM : cfg.maxMem = some M) (ops : List (Op K V × List Nat)) (hops : AllViaMem ops) (i : Nat) :
    totalMem size (run cfg tl size (State.init : State K V) (ops.take i)).1.store ≤ M :=
  memory_never_exceeded cfg tl size M hM _ (hops.take i)

section
set_option linter.unusedVariables false

/-- On the async engine a value that fits on its own is always cached by the store (the bound is not
    obtained by dropping the newcomer).  On the sync engines the newcomer is stored *before* the loop
    and takes part in victim selection, so it may itself be the policy's victim. -/
theorem async_fitting_value_is_cached (cfg : Cfg) (tl : Tlru S) (size : V → Nat) (rs : List Nat) (s : State K V)
    (k : K) (v : V) (M : Nat) (hf : cfg.flavour = .async) (hM : cfg.maxMem = some M) (hi : Inv s)
    (hv : size v ≤ M) :
    lookup k (insertMem cfg tl size rs s k v).store = some ⟨v, stamp cfg s.now, 0⟩ := by
  rw [insertMem_eq (oversize_of_le hM hv), finishStore_async hf]
  exact lookup_put_self k _ _

end

/-! ## (3) Oversize values -/

/-- **Oversize, exact effect** (every flavour): storing a value with `size v > M` leaves the state as
    it was except that `k` itself is no longer cached: the store is the old store without `k`, the
    queue the old queue without `k`; clock and statistics are untouched. -/
theorem oversize_state (cfg : Cfg) (tl : Tlru S) (size : V → Nat) (rs : List Nat) (s : State K V)
    (k : K) (v : V) (M : Nat) (hM : cfg.maxMem = some M) (hi : Inv s) (hv : M < size v) :
    insertMem cfg tl size rs s k v =
      { s with store := eraseKey k s.store, queue := s.queue.filter (fun x => x ≠ k) } :=
  insertMem_oversize (oversize_of_lt hM hv) tl rs hi k

/-- An oversize value is not cached. -/
theorem oversize_not_cached (cfg : Cfg) (tl : Tlru S) (size : V → Nat) (rs : List Nat) (s : State K V)
    (k : K) (v : V) (M : Nat) (hM : cfg.maxMem = some M) (hi : Inv s) (hv : M < size v) :
    lookup k (insertMem cfg tl size rs s k v).store = none := by
  rw [oversize_state cfg tl size rs s k v M hM hi hv]
  exact lookup_eraseKey_self k s.store

/-- An oversize value displaces nothing else: the entry (value, birth stamp, hit counter) of every
    other key is exactly what it was. -/
theorem oversize_others_untouched (cfg : Cfg) (tl : Tlru S) (size : V → Nat) (rs : List Nat) (s : State K V)
    (k : K) (v : V) (M : Nat) (hM : cfg.maxMem = some M) (hi : Inv s) (hv : M < size v)
    (k' : K) (hk : k' ≠ k) :
    lookup k' (insertMem cfg tl size rs s k v).store = lookup k' s.store := by
  rw [oversize_state cfg tl size rs s k v M hM hi hv]
  exact lookup_eraseKey_ne hk s.store

/-- … and the eviction order of the others is unchanged: the new queue is the old one with `k`
    filtered out (an order-preserving sub-list containing every other key). -/
theorem oversize_queue_order (cfg : Cfg) (tl : Tlru S) (size : V → Nat) (rs : List Nat) (s : State K V)
    (k : K) (v : V) (M : Nat) (hM : cfg.maxMem = some M) (hi : Inv s) (hv : M < size v) :
    (insertMem cfg tl size rs s k v).queue = s.queue.filter (fun x => x ≠ k) ∧
    (insertMem cfg tl size rs s k v).queue.Sublist s.queue ∧
    ∀ k', k' ≠ k → (k' ∈ (insertMem cfg tl size rs s k v).queue ↔ k' ∈ s.queue) := by
  rw [oversize_state cfg tl size rs s k v M hM hi hv]
  refine ⟨rfl, List.filter_sublist, ?_⟩
  intro k' hk
  simp [List.mem_filter, hk]

/-- If `k` was not cached, an oversize store is a no-op on the whole state. -/
theorem oversize_absent_noop (cfg : Cfg) (tl : Tlru S) (size : V → Nat) (rs : List Nat) (s : State K V)
    (k : K) (v : V) (M : Nat) (hM : cfg.maxMem = some M) (hi : Inv s) (hv : M < size v)
    (hk : k ∉ keys s.store) :
    insertMem cfg tl size rs s k v = s := by
  rw [oversize_state cfg tl size rs s k v M hM hi hv]
  -- the queue holds stored keys only, so the filter drops nothing
  have hq : ∀ x ∈ s.queue, decide (x ≠ k) = true := fun x hx =>
    decide_eq_true fun hxk => hk ((hi.2.2 k).mp (hxk ▸ hx))
  rw [eraseKey_of_not_mem hk, List.filter_eq_self.mpr hq]

/-- **The re-store subtlety, stated precisely.**  If `k` *was* cached and is re-stored with an oversize
    value, the one entry that disappears is the OLD entry of `k` itself (all three engines: the sync
    engines overwrite it before the size check and then remove the key; the async engine drops it in
    its "replace" prologue).  Exactly one entry is gone and it is `k`'s. -/
theorem oversize_restore_drops_only_own_entry (cfg : Cfg) (tl : Tlru S) (size : V → Nat) (rs : List Nat)
    (s : State K V) (k : K) (v : V) (M : Nat) (hM : cfg.maxMem = some M) (hi : Inv s) (hv : M < size v)
    (hk : k ∈ keys s.store) :
    (insertMem cfg tl size rs s k v).store.length + 1 = s.store.length ∧
    keys (insertMem cfg tl size rs s k v).store = (keys s.store).filter (fun x => x ≠ k) := by
  rw [oversize_state cfg tl size rs s k v M hM hi hv]
  exact ⟨length_eraseKey_of_mem hi.1 hk, keys_eraseKey k s.store⟩

/-! ## (4) No needless eviction -/

/-- **No needless eviction** (every flavour): if the other entries plus the new value fit in `M`
    (for the sync engines this is `totalMem (put k … s.store) ≤ M`, see `totalMem_put`), the memory
    machinery does nothing at all: `insert_with_memory` behaves exactly like the plain `insert`, so the
    only thing that can remove an entry is the entry-limit step of C04. -/
theorem fits_eq_plain_insert (cfg : Cfg) (tl : Tlru S) (size : V → Nat) (rs : List Nat) (s : State K V)
    (k : K) (v : V) (M : Nat) (hM : cfg.maxMem = some M) (hi : Inv s)
    (hfit : totalMem size (eraseKey k s.store) + size v ≤ M) :
    insertMem cfg tl size rs s k v = insert cfg tl (rs.headD 0) s k v := by
  rw [insertMem_eq (oversize_of_le hM (Nat.le_trans (Nat.le_add_left _ _) hfit)),
    evictPhase_some hM, memLoop_of_fits (by rw [totalMem_preEvict cfg size hi]; exact hfit), insert_eq]

/-- a plain store removes at most one entry -/
theorem insert_length_ge (cfg : Cfg) (tl : Tlru S) (r : Nat) {s : State K V} (hi : Inv s) (k : K) (v : V) :
    (put k ⟨v, stamp cfg s.now, 0⟩ s.store).length ≤ (insert cfg tl r s k v).store.length + 1 := by
  rw [insert_eq]
  by_cases hf : cfg.flavour = .async
  · rw [finishStore_async hf, preEvict_async hf hi]
    have h0 : InvMQ (eraseKey k s.store) (s.queue.filter (fun x => x ≠ k)) := InvMQ.remove hi k
    rw [length_put_fresh (fun hh => not_mem_keys_eraseKey k s.store (limitStep_keys_sub h0 cfg tl s.now _ k hh)),
      length_put_eq]
    exact Nat.succ_le_succ (limitStep_length_ge h0 cfg tl s.now r)
  · rw [finishStore_sync hf, preEvict_sync hf]
    exact limitStep_length_ge (InvMQ.put_erasePush hi k _) cfg tl s.now r

/-- When the total fits, at most one entry disappears (the entry-limit victim, if the limit is hit). -/
theorem fits_removes_at_most_one (cfg : Cfg) (tl : Tlru S) (size : V → Nat) (rs : List Nat) (s : State K V)
    (k : K) (v : V) (M : Nat) (hM : cfg.maxMem = some M) (hi : Inv s)
    (hfit : totalMem size (eraseKey k s.store) + size v ≤ M) :
    (put k ⟨v, stamp cfg s.now, 0⟩ s.store).length ≤ (insertMem cfg tl size rs s k v).store.length + 1 := by
  rw [fits_eq_plain_insert cfg tl size rs s k v M hM hi hfit]
  exact insert_length_ge cfg tl _ hi k v

/-- When the total fits and no entry limit is configured, nothing is removed: the result is the old
    state with `k ↦ v` stored and `k` moved to the back of the queue; every other entry is untouched. -/
theorem fits_no_limit_removes_nothing (cfg : Cfg) (tl : Tlru S) (size : V → Nat) (rs : List Nat) (s : State K V)
    (k : K) (v : V) (M : Nat) (hM : cfg.maxMem = some M) (hl : cfg.limit = none) (hi : Inv s)
    (hfit : totalMem size (eraseKey k s.store) + size v ≤ M) :
    insertMem cfg tl size rs s k v =
      { s with store := put k ⟨v, stamp cfg s.now, 0⟩ s.store,
               queue := s.queue.filter (fun x => x ≠ k) ++ [k] } ∧
    ∀ k', k' ≠ k → lookup k' (insertMem cfg tl size rs s k v).store = lookup k' s.store := by
  have main : insertMem cfg tl size rs s k v =
      { s with store := put k ⟨v, stamp cfg s.now, 0⟩ s.store,
               queue := s.queue.filter (fun x => x ≠ k) ++ [k] } := by
    rw [fits_eq_plain_insert cfg tl size rs s k v M hM hi hfit, insert_eq, limitStep_none hl]
    by_cases hf : cfg.flavour = .async
    · rw [finishStore_async hf, finishQueue_async hf, preEvict_async hf hi, put_eraseKey]
    · rw [finishStore_sync hf, finishQueue_sync hf, preEvict_sync hf]
      simp only [erasePush, erase_eq_filter_of_nodup hi.2.1]
  refine ⟨main, ?_⟩
  intro k' hk
  rw [main]
  exact lookup_put_ne hk _ _

/-! ## (5) Evicted only until the total fits -/

/-- The victim sequence: `iterEvict … (i+1)` is `iterEvict … i` after one eviction in policy order
    (one queue key removed from store and queue, or nothing if the queue is empty). -/
theorem victim_sequence_step (cfg : Cfg) (tl : Tlru S) (now i : Nat) (rs : List Nat) {m : Store K V} {q : List K}
    (h : InvMQ m q) :
    ∃ ev, Evicted (iterEvict cfg tl now i rs m q).1 (iterEvict cfg tl now i rs m q).2.1
      ((iterEvict cfg tl now (i + 1) rs m q).1, (iterEvict cfg tl now (i + 1) rs m q).2.1, ev) :=
  iterEvict_evicted cfg tl now i rs h

/-- **Minimality of the memory loop.**  If the value to be stored fits on its own, the loop removes
    exactly the first `j` members of the policy's victim sequence, where `j` is the LEAST number of
    evictions after which the total fits: the total did not fit after `0, 1, …, j-1` evictions and fits
    after `j`; all `j` iterations are genuine evictions (the queue lost exactly `j` keys) and `j` random
    draws were consumed. -/
theorem memLoop_shortest_prefix (cfg : Cfg) (tl : Tlru S) (size : V → Nat) (now maxM extra : Nat)
    (rs : List Nat) {m : Store K V} {q : List K} (h : InvMQ m q) (hx : extra ≤ maxM) :
    ∃ j, j ≤ q.length ∧
      memLoop cfg tl size now maxM extra (q.length + 1) rs m q = iterEvict cfg tl now j rs m q ∧
      (∀ i, i < j → maxM < totalMem size (iterEvict cfg tl now i rs m q).1 + extra) ∧
      totalMem size (iterEvict cfg tl now j rs m q).1 + extra ≤ maxM ∧
      (∀ i, i ≤ j → (iterEvict cfg tl now i rs m q).2.1.length + i = q.length) ∧
      (iterEvict cfg tl now j rs m q).2.2 = rs.drop j := by
  obtain ⟨j, hj, heq, hbefore, hafter⟩ := memLoop_char cfg tl size now maxM extra _ rs h (Nat.le_refl _)
  -- with an empty queue the store is empty, so the total fits
  have hnil : ∀ i, (iterEvict cfg tl now i rs m q).2.1 = [] →
      totalMem size (iterEvict cfg tl now i rs m q).1 + extra ≤ maxM := by
    intro i h0
    have hinv := iterEvict_inv cfg tl now i rs h
    rw [h0] at hinv
    rw [hinv.totalMem_nil size, Nat.zero_add]; exact hx
  -- so the queue was not empty before any of the `j` iterations: each was a genuine eviction
  have hlen : ∀ i, i ≤ j → (iterEvict cfg tl now i rs m q).2.1.length + i = q.length := fun i hi =>
    iterEvict_queue_length cfg tl now rs h i
      (fun i' hi' h0 => Nat.not_le_of_gt (hbefore i' (Nat.lt_of_lt_of_le hi' hi)) (hnil i' h0))
  exact ⟨j, hlen j (Nat.le_refl _) ▸ Nat.le_add_left _ _, heq, hbefore, hafter.elim id (hnil j), hlen,
    iterEvict_draws cfg tl now j rs m q⟩

/-- Minimality without the assumption `extra ≤ maxM`: the loop still stops at the first point where
    the total fits; the only other way out is an empty queue. -/
theorem memLoop_shortest_prefix_general (cfg : Cfg) (tl : Tlru S) (size : V → Nat) (now maxM extra : Nat)
    (rs : List Nat) {m : Store K V} {q : List K} (h : InvMQ m q) :
    ∃ j, j ≤ q.length + 1 ∧
      memLoop cfg tl size now maxM extra (q.length + 1) rs m q = iterEvict cfg tl now j rs m q ∧
      (∀ i, i < j → maxM < totalMem size (iterEvict cfg tl now i rs m q).1 + extra) ∧
      (totalMem size (iterEvict cfg tl now j rs m q).1 + extra ≤ maxM ∨
        (iterEvict cfg tl now j rs m q).2.1 = []) :=
  memLoop_char cfg tl size now maxM extra _ rs h (Nat.le_refl _)

/-- **Sync `insert_with_memory`, whole operation.**  For a value that fits on its own the result is:
    store `k`, remove the shortest prefix of the victim sequence after which the total is `≤ M`
    (`j` least), then run the entry-limit step once. -/
theorem insertMem_sync_shortest_prefix (cfg : Cfg) (tl : Tlru S) (size : V → Nat) (rs : List Nat) (s : State K V)
    (k : K) (v : V) (M : Nat) (hf : cfg.flavour ≠ .async) (hM : cfg.maxMem = some M) (hi : Inv s)
    (hv : size v ≤ M) :
    ∃ j, j ≤ (erasePush k s.queue).length ∧
      (∀ i, i < j → M < totalMem size
        (iterEvict cfg tl s.now i rs (put k ⟨v, stamp cfg s.now, 0⟩ s.store) (erasePush k s.queue)).1) ∧
      totalMem size
        (iterEvict cfg tl s.now j rs (put k ⟨v, stamp cfg s.now, 0⟩ s.store) (erasePush k s.queue)).1 ≤ M ∧
      insertMem cfg tl size rs s k v =
        { s with
          store := (limitStep cfg tl s.now ((rs.drop j).headD 0)
            (iterEvict cfg tl s.now j rs (put k ⟨v, stamp cfg s.now, 0⟩ s.store) (erasePush k s.queue)).1
            (iterEvict cfg tl s.now j rs (put k ⟨v, stamp cfg s.now, 0⟩ s.store) (erasePush k s.queue)).2.1).1
          queue := (limitStep cfg tl s.now ((rs.drop j).headD 0)
            (iterEvict cfg tl s.now j rs (put k ⟨v, stamp cfg s.now, 0⟩ s.store) (erasePush k s.queue)).1
            (iterEvict cfg tl s.now j rs (put k ⟨v, stamp cfg s.now, 0⟩ s.store) (erasePush k s.queue)).2.1).2 } := by
  have h0 := InvMQ.put_erasePush hi k (⟨v, stamp cfg s.now, 0⟩ : Entry V)
  obtain ⟨j, h1, h2, h3, h4, _, h6⟩ :=
    memLoop_shortest_prefix cfg tl size s.now M 0 rs h0 (Nat.zero_le _)
  refine ⟨j, h1, ?_, ?_, ?_⟩
  · exact h3
  · exact h4
  · rw [insertMem_eq (oversize_of_le hM hv), finishStore_sync hf, finishQueue_sync hf, preEvict_sync hf,
      memExtra_sync hf, evictPhase_some hM, h2, h6]

/-- **Async `insert_with_memory`, whole operation.**  For a value that fits on its own the result is:
    drop any previous entry of `k`, remove the shortest prefix of the victim sequence after which the
    others plus the newcomer are `≤ M` (`j` least), run the entry-limit step once, store `k`. -/
theorem insertMem_async_shortest_prefix (cfg : Cfg) (tl : Tlru S) (size : V → Nat) (rs : List Nat) (s : State K V)
    (k : K) (v : V) (M : Nat) (hf : cfg.flavour = .async) (hM : cfg.maxMem = some M) (hi : Inv s)
    (hv : size v ≤ M) :
    ∃ j, j ≤ (s.queue.filter (fun x => x ≠ k)).length ∧
      (∀ i, i < j → M < totalMem size
        (iterEvict cfg tl s.now i rs (eraseKey k s.store) (s.queue.filter (fun x => x ≠ k))).1 + size v) ∧
      totalMem size
        (iterEvict cfg tl s.now j rs (eraseKey k s.store) (s.queue.filter (fun x => x ≠ k))).1 + size v ≤ M ∧
      insertMem cfg tl size rs s k v =
        { s with
          store := put k ⟨v, stamp cfg s.now, 0⟩ (limitStep cfg tl s.now ((rs.drop j).headD 0)
            (iterEvict cfg tl s.now j rs (eraseKey k s.store) (s.queue.filter (fun x => x ≠ k))).1
            (iterEvict cfg tl s.now j rs (eraseKey k s.store) (s.queue.filter (fun x => x ≠ k))).2.1).1
          queue := (limitStep cfg tl s.now ((rs.drop j).headD 0)
            (iterEvict cfg tl s.now j rs (eraseKey k s.store) (s.queue.filter (fun x => x ≠ k))).1
            (iterEvict cfg tl s.now j rs (eraseKey k s.store) (s.queue.filter (fun x => x ≠ k))).2.1).2 ++ [k] } := by
  have h0 : InvMQ (eraseKey k s.store) (s.queue.filter (fun x => x ≠ k)) := InvMQ.remove hi k
  obtain ⟨j, h1, h2, h3, h4, _, h6⟩ :=
    memLoop_shortest_prefix cfg tl size s.now M (size v) rs h0 hv
  refine ⟨j, h1, h3, h4, ?_⟩
  rw [insertMem_eq (oversize_of_le hM hv), finishStore_async hf, finishQueue_async hf, preEvict_async hf hi,
    memExtra_async hf, evictPhase_some hM, h2, h6]

/-! ## Lifting to reachable states

Every theorem above assumes only `Inv s`.  Every state reachable from the empty cache by ANY history
(plain stores included) satisfies `Inv` (`run_inv`), so all of (1), (3), (4), (5) hold in every
reachable state; the corollaries below spell this out for the headline statements. -/

/-- (3) in every reachable state: an oversize store only un-caches `k` itself. -/
theorem oversize_state_reachable (cfg : Cfg) (tl : Tlru S) (size : V → Nat) (ops : List (Op K V × List Nat))
    (rs : List Nat) (k : K) (v : V) (M : Nat) (hM : cfg.maxMem = some M) (hv : M < size v) :
    insertMem cfg tl size rs (run cfg tl size (State.init : State K V) ops).1 k v =
      { (run cfg tl size (State.init : State K V) ops).1 with
        store := eraseKey k (run cfg tl size (State.init : State K V) ops).1.store,
        queue := (run cfg tl size (State.init : State K V) ops).1.queue.filter (fun x => x ≠ k) } :=
  oversize_state cfg tl size rs _ k v M hM (run_inv cfg tl size _ ops inv_init) hv

/-- (4) in every reachable state: when the total fits, `insert_with_memory` is the plain `insert`. -/
theorem fits_eq_plain_insert_reachable (cfg : Cfg) (tl : Tlru S) (size : V → Nat) (ops : List (Op K V × List Nat))
    (rs : List Nat) (k : K) (v : V) (M : Nat) (hM : cfg.maxMem = some M)
    (hfit : totalMem size (eraseKey k (run cfg tl size (State.init : State K V) ops).1.store) + size v ≤ M) :
    insertMem cfg tl size rs (run cfg tl size (State.init : State K V) ops).1 k v =
      insert cfg tl (rs.headD 0) (run cfg tl size (State.init : State K V) ops).1 k v :=
  fits_eq_plain_insert cfg tl size rs _ k v M hM (run_inv cfg tl size _ ops inv_init) hfit

/-- (2) in every reachable state, even one reached through plain stores that overshot `M`: a
    memory-aware store of a value that fits on its own re-establishes the bound. -/
theorem insertMem_bound_of_fits_reachable (cfg : Cfg) (tl : Tlru S) (size : V → Nat)
    (ops : List (Op K V × List Nat)) (rs : List Nat) (k : K) (v : V) (M : Nat) (hM : cfg.maxMem = some M)
    (hv : size v ≤ M) :
    totalMem size (insertMem cfg tl size rs (run cfg tl size (State.init : State K V) ops).1 k v).store ≤ M :=
  insertMem_bound_of_fits cfg tl size rs _ k v M hM (run_inv cfg tl size _ ops inv_init) hv

section
set_option linter.unusedVariables false

/-- (1)+(5) in every reachable state, sync engines: the loop run by `insert_with_memory` exits with the
    total fitting after the least possible number of evictions. -/
theorem sync_loop_minimal_reachable (cfg : Cfg) (tl : Tlru S) (size : V → Nat) (ops : List (Op K V × List Nat))
    (rs : List Nat) (k : K) (v : V) (M : Nat) (hf : cfg.flavour ≠ .async) (hM : cfg.maxMem = some M)
    (hv : size v ≤ M) :
    ∃ j, (∀ i, i < j → M < totalMem size (iterEvict cfg tl (run cfg tl size (State.init : State K V) ops).1.now i rs
            (put k ⟨v, stamp cfg (run cfg tl size (State.init : State K V) ops).1.now, 0⟩
              (run cfg tl size (State.init : State K V) ops).1.store)
            (erasePush k (run cfg tl size (State.init : State K V) ops).1.queue)).1) ∧
      syncLoop cfg tl size M rs (run cfg tl size (State.init : State K V) ops).1 k v =
        iterEvict cfg tl (run cfg tl size (State.init : State K V) ops).1.now j rs
            (put k ⟨v, stamp cfg (run cfg tl size (State.init : State K V) ops).1.now, 0⟩
              (run cfg tl size (State.init : State K V) ops).1.store)
            (erasePush k (run cfg tl size (State.init : State K V) ops).1.queue) ∧
      totalMem size (syncLoop cfg tl size M rs (run cfg tl size (State.init : State K V) ops).1 k v).1 ≤ M := by
  have hi : Inv (run cfg tl size (State.init : State K V) ops).1 := run_inv cfg tl size _ ops inv_init
  generalize (run cfg tl size (State.init : State K V) ops).1 = s at hi
  have h0 := InvMQ.put_erasePush hi k (⟨v, stamp cfg s.now, 0⟩ : Entry V)
  obtain ⟨j, _, h2, h3, h4, _, _⟩ := memLoop_shortest_prefix cfg tl size s.now M 0 rs h0 (Nat.zero_le _)
  refine ⟨j, ?_, h2, ?_⟩
  · exact h3
  · unfold syncLoop; rw [h2]; exact h4

/-- (1)+(5) in every reachable state, async engine. -/
theorem async_loop_minimal_reachable (cfg : Cfg) (tl : Tlru S) (size : V → Nat) (ops : List (Op K V × List Nat))
    (rs : List Nat) (k : K) (v : V) (M : Nat) (hM : cfg.maxMem = some M) (hv : size v ≤ M) :
    ∃ j, (∀ i, i < j → M < totalMem size (iterEvict cfg tl (run cfg tl size (State.init : State K V) ops).1.now i rs
            (eraseKey k (run cfg tl size (State.init : State K V) ops).1.store)
            ((run cfg tl size (State.init : State K V) ops).1.queue.filter (fun x => x ≠ k))).1 + size v) ∧
      asyncLoop cfg tl size M rs (run cfg tl size (State.init : State K V) ops).1 k v =
        iterEvict cfg tl (run cfg tl size (State.init : State K V) ops).1.now j rs
            (eraseKey k (run cfg tl size (State.init : State K V) ops).1.store)
            ((run cfg tl size (State.init : State K V) ops).1.queue.filter (fun x => x ≠ k)) ∧
      totalMem size (asyncLoop cfg tl size M rs (run cfg tl size (State.init : State K V) ops).1 k v).1
        + size v ≤ M := by
  have hi : Inv (run cfg tl size (State.init : State K V) ops).1 := run_inv cfg tl size _ ops inv_init
  generalize (run cfg tl size (State.init : State K V) ops).1 = s at hi
  have h0 : InvMQ (eraseKey k s.store) (s.queue.filter (fun x => x ≠ k)) := InvMQ.remove hi k
  obtain ⟨j, _, h2, h3, h4, _, _⟩ := memLoop_shortest_prefix cfg tl size s.now M (size v) rs h0 hv
  refine ⟨j, h3, h2, ?_⟩
  unfold asyncLoop; rw [h2]; exact h4

end

/-! ## Non-vacuity: concrete histories (`K = V = Nat`, `size := id`, `max_memory = 10`) -/

def exTl : Tlru Nat := ⟨fun a b => decide (a < b), fun _ h _ r => h * r⟩
def cfgG : Cfg := ⟨.global, .fifo, none, some 10, none⟩
def cfgT : Cfg := ⟨.threadLocal, .lru, none, some 10, none⟩
def cfgA : Cfg := ⟨.async, .lfu, none, some 10, none⟩

/-- two victims needed: 4 + 4 + 8 = 16 > 10, after one eviction 12 > 10, after two 8 ≤ 10 -/
def opsTwo : List (Op Nat Nat × List Nat) :=
  [(.insertMem 1 4, []), (.insertMem 2 4, []), (.get 1, []), (.insertMem 3 8, [])]
/-- exact fit: 4 + 6 = 10 evicts nothing -/
def opsExact : List (Op Nat Nat × List Nat) :=
  [(.insertMem 1 4, []), (.tick 5, []), (.insertMem 2 6, [])]
/-- oversize newcomer (11 > 10) for a fresh key, then for an already cached key -/
def opsOver : List (Op Nat Nat × List Nat) :=
  [(.insertMem 1 4, []), (.insertMem 2 5, []), (.insertMem 3 11, [])]
def opsOverRestore : List (Op Nat Nat × List Nat) :=
  [(.insertMem 1 4, []), (.insertMem 2 5, []), (.insertMem 1 11, [])]

example : AllViaMem opsTwo := by decide
example : AllViaMem opsExact ∧ AllViaMem opsOver ∧ AllViaMem opsOverRestore := by decide

-- two victims, all three engines; the bound is attained with 8 ≤ 10
example : keys (run cfgG exTl id (State.init : State Nat Nat) opsTwo).1.store = [3] := by decide
example : keys (run cfgT exTl id (State.init : State Nat Nat) opsTwo).1.store = [3] := by decide
example : keys (run cfgA exTl id (State.init : State Nat Nat) opsTwo).1.store = [3] := by decide
example : totalMem id (run cfgA exTl id (State.init : State Nat Nat) opsTwo).1.store = 8 := by decide
-- one victim suffices (4 + 4 + 6 = 14, after one eviction 10): only the first victim goes
example : keys (run cfgG exTl id (State.init : State Nat Nat)
    [(.insertMem 1 4, []), (.insertMem 2 4, []), (.insertMem 3 6, [])]).1.store = [2, 3] := by decide
-- the loop result is `iterEvict 2` and not `iterEvict 1` on the state before the third store
def exStore : Store Nat Nat := [(1, ⟨4, 0, 0⟩), (2, ⟨4, 0, 0⟩), (3, ⟨8, 0, 0⟩)]
example : (memLoop cfgG exTl id 0 10 0 4 [] exStore [1, 2, 3]).2.1 = (iterEvict cfgG exTl 0 2 [] exStore [1, 2, 3]).2.1
    ∧ (memLoop cfgG exTl id 0 10 0 4 [] exStore [1, 2, 3]).2.1 ≠ (iterEvict cfgG exTl 0 1 [] exStore [1, 2, 3]).2.1
    ∧ (memLoop cfgG exTl id 0 10 0 4 [] exStore [1, 2, 3]).2.1 ≠ (iterEvict cfgG exTl 0 3 [] exStore [1, 2, 3]).2.1 := by
  decide +kernel
-- exact fit: nothing evicted, total = 10 = M
example : keys (run cfgG exTl id (State.init : State Nat Nat) opsExact).1.store = [1, 2] := by decide
example : keys (run cfgT exTl id (State.init : State Nat Nat) opsExact).1.store = [1, 2] := by decide
example : keys (run cfgA exTl id (State.init : State Nat Nat) opsExact).1.store = [1, 2] := by decide
example : totalMem id (run cfgA exTl id (State.init : State Nat Nat) opsExact).1.store = 10 := by decide
-- oversize: not cached, nothing displaced, queue untouched
example : (run cfgG exTl id (State.init : State Nat Nat) opsOver).1.queue = [1, 2] := by decide
example : keys (run cfgT exTl id (State.init : State Nat Nat) opsOver).1.store = [1, 2] := by decide
example : keys (run cfgA exTl id (State.init : State Nat Nat) opsOver).1.store = [1, 2] := by decide
-- oversize re-store of a cached key: only that key's old entry goes
example : keys (run cfgG exTl id (State.init : State Nat Nat) opsOverRestore).1.store = [2] := by decide
example : keys (run cfgT exTl id (State.init : State Nat Nat) opsOverRestore).1.store = [2] := by decide
example : keys (run cfgA exTl id (State.init : State Nat Nat) opsOverRestore).1.store = [2] := by decide
-- the hypothesis "every store is an `insertMem`" is needed: a plain `insert` ignores `max_memory`
example : ¬ totalMem id (run cfgG exTl id (State.init : State Nat Nat) [(.insert 1 20, [])]).1.store ≤ 10 := by
  decide
-- sync engines: the newcomer takes part in victim selection (LFU: it has the fewest hits), so with
-- `max_memory` tight a fitting newcomer can be the one evicted; async keeps it (cf. `async_fitting_value_is_cached`)
example : keys (run ⟨.global, .lfu, none, some 10, none⟩ exTl id (State.init : State Nat Nat)
    [(.insertMem 1 6, []), (.get 1, []), (.insertMem 2 5, [])]).1.store = [1] := by decide
example : keys (run cfgA exTl id (State.init : State Nat Nat)
    [(.insertMem 1 6, []), (.get 1, []), (.insertMem 2 5, [])]).1.store = [2] := by decide

end Cachelito.C05
