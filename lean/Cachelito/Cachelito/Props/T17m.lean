/-
  T17m — TRANSLATOR TIE, the wrapper `#[cache]` generates, WITH `max_memory`, and the headline for all 32 configurations
  (C01, C03, C05, C09, C10, C11, C19)

  T17 proves that every generated sync wrapper is the generic wrapper `wrapGen` and that, without `max_memory`, `wrapGen` over
  the translated engine is the model's `callFn`.  This file closes the remaining composition: with `max_memory` the store
  variant is `insert_with_memory` / `insert_result_with_memory`, whose translation carries a FUEL parameter for the source's
  `loop { }` (T14 / T15).  The fuel is an artefact of the translation, so the theorems instantiate it with the value the
  model's loop uses — one more than the queue length after the re-queue, computed from the state the lookup leaves — and
  state: the generated wrapper returns what `callFn` (with `useMem := true`) returns and leaves the cache in the state
  `callFn` leaves.  At the end: one theorem per GENERATED definition (16 thread-scope + 16 global-scope), each saying that
  definition is `callFn` of the corresponding specification.
-/
import Cachelito.Props.T17
import Cachelito.Props.T14
import Cachelito.Props.T15
-- not used below: a change to what is tied there re-checks this module as well
import Cachelito.Props.T18


namespace Cachelito.T17m
open Cachelito Cachelito.RustLite Cachelito.Generated Cachelito.Generated.Wrap Cachelito.T17

variable {K V F E T : Type} [DecidableEq K]

section GlobalScope

/-- the fuel the model's memory loop uses, sync global engine (one more than the queue length after the re-queue) -/
def memFuelG (c : GlobalCache K V F) (k : K) : Nat := (erasePush k c.order).length + 1

theorem global_insertMem_sim (A : F64 F) (cfg : Cfg) (fw : Option F) (now : Nat) (rs : List Nat) (size : V → Nat) (k : K) (v : V)
    (c : GlobalCache K V F) (s : State K V) (hr : RelG cfg fw now c s) (hh : ∀ p, p ∈ c.map → p.2.hits < u64Max)
    (fok : FloatOK A cfg fw) :
    RelG cfg fw now (Global.insert_with_memory A ⟨fun b => now - b, now⟩ size (memFuelG c k) rs c k v)
      (Cachelito.insertMem cfg (T02.srcTlru A fw) size rs s k v) := by
  obtain ⟨rfl, rfl, rfl⟩ := hr.state
  have ok : T08.ScoresOK A c := ⟨hh, fok.arcBelowMax, fok.arcOrder, fok.tlruBelowMax⟩
  obtain ⟨m1, m2⟩ := T14.insert_with_memory_model A c size now c.stats.hits c.stats.misses rs k v ok
  obtain ⟨g1, g2, g3⟩ := T14.insert_with_memory_frame A size (memFuelG c k) rs c now k v ok
  obtain ⟨f1, f2, f3⟩ := Hist.insertMem_frame (T08.cfgOf c) (T02.srcTlru A c.frequency_weight) size rs
    ⟨c.map, c.order, now, c.stats.hits, c.stats.misses⟩ k v
  exact ⟨g1, g2, m1, m2, f1, by rw [g3, f2], by rw [g3, f3]⟩

/-- `#[cache(max_memory = …)]` on a plain function: the generic wrapper over the TRANSLATED
    engine (memory loop with the model's fuel) returns what the model's `callFn` returns and leaves the cache in the state
    `callFn` leaves -/
theorem global_mem_plain_wrapper_is_callFn (A : F64 F) (cfg : Cfg) (fw : Option F) (now : Nat) (rs : List Nat)
    (inv ci : Bool) (io cif : K → V → Bool) (size : V → Nat) (isOk : V → Bool)
    (c0 : GlobalCache K (V) F) (s : State K (V)) (key : K) (body : V)
    (hr : RelG cfg fw now c0 s) (hh : ∀ p, p ∈ c0.map → p.2.hits + 1 < u64Max) (fok : FloatOK A cfg fw) :
    (wrapGen ⟨fun c k => Global.get ⟨fun b => now - b, now⟩ c k, fun c k v => Global.insert_with_memory A ⟨fun b => now - b, now⟩ size (memFuelG (Global.get ⟨fun b => now - b, now⟩ c0 key).2 key) rs c k v⟩ inv ci io cif c0 key body).1 =
      (callFn ⟨"f", false, false, cfg, true, false, ci, inv, [], [], []⟩ (T02.srcTlru A fw) size isOk rs s ⟨key, body, cif, io⟩).2.1 ∧
    RelG cfg fw now
      (wrapGen ⟨fun c k => Global.get ⟨fun b => now - b, now⟩ c k, fun c k v => Global.insert_with_memory A ⟨fun b => now - b, now⟩ size (memFuelG (Global.get ⟨fun b => now - b, now⟩ c0 key).2 key) rs c k v⟩ inv ci io cif c0 key body).2
      (callFn ⟨"f", false, false, cfg, true, false, ci, inv, [], [], []⟩ (T02.srcTlru A fw) size isOk rs s ⟨key, body, cif, io⟩).1 := by
  obtain ⟨hv, hw, h0⟩ := global_get_sim cfg fw now key c0 s hr hh
  refine wrapGen_is_callFn (RelG cfg fw now) (spec := ⟨"f", false, false, cfg, true, false, ci, inv, [], [], []⟩)
    (callFn_eq_wrapGen _ rfl ..) hv hw ?_
  simp only [modelOps, if_true, if_false, Bool.false_eq_true]
  exact global_insertMem_sim A cfg fw now rs size key _ _ _ hw h0 fok

/-- `#[cache(max_memory = …)]` on a `Result` function: the same; an `Err` is never stored, whatever `cache_if` says (C09) -/
theorem global_mem_result_wrapper_is_callFn (A : F64 F) {cfg : Cfg} {fw : Option F} {now : Nat} {rs : List Nat}
    {inv ci : Bool} {io cif : K → Except E T → Bool} {size : Except E T → Nat}
    {c0 : GlobalCache K (Except E T) F} {s : State K (Except E T)} {key : K} {body : Except E T}
    (hr : RelG cfg fw now c0 s) (hh : ∀ p, p ∈ c0.map → p.2.hits + 1 < u64Max) (fok : FloatOK A cfg fw) :
    (wrapGen ⟨Global.get ⟨fun b => now - b, now⟩, Global.insert_result_with_memory A ⟨fun b => now - b, now⟩ size (memFuelG (Global.get ⟨fun b => now - b, now⟩ c0 key).2 key) rs⟩ inv ci io cif c0 key body).1 =
      (callFn ⟨"f", false, false, cfg, true, true, ci, inv, [], [], []⟩ (T02.srcTlru A fw) size isOkE rs s ⟨key, body, cif, io⟩).2.1 ∧
    RelG cfg fw now
      (wrapGen ⟨Global.get ⟨fun b => now - b, now⟩, Global.insert_result_with_memory A ⟨fun b => now - b, now⟩ size (memFuelG (Global.get ⟨fun b => now - b, now⟩ c0 key).2 key) rs⟩ inv ci io cif c0 key body).2
      (callFn ⟨"f", false, false, cfg, true, true, ci, inv, [], [], []⟩ (T02.srcTlru A fw) size isOkE rs s ⟨key, body, cif, io⟩).1 := by
  obtain ⟨hv, hw, h0⟩ := global_get_sim cfg fw now key c0 s hr hh
  refine wrapGen_is_callFn (RelG cfg fw now) (spec := ⟨"f", false, false, cfg, true, true, ci, inv, [], [], []⟩)
    (callFn_eq_wrapGen _ rfl ..) hv hw ?_
  cases body with
  | error e =>
    simp only [modelOps, isOkE, T13.global_insert_result_with_memory_err, if_true, if_false, Bool.false_eq_true]
    exact hw
  | ok x =>
    simp only [modelOps, isOkE, T13.global_insert_result_with_memory_ok, if_true]
    exact global_insertMem_sim A cfg fw now rs size key _ _ _ hw h0 fok

/-! ### headline: each of the 16 GENERATED global-scope wrappers is the model's `callFn` for its configuration -/

theorem wrapGlobal_0000_is_callFn (A : F64 F) (cfg : Cfg) (fw : Option F) (now : Nat) (rs : List Nat) (fuel : Nat)
    (io cif : K → V → Bool) (size : V → Nat) (isOk : V → Bool)
    (c0 : GlobalCache K (V) F) (s : State K (V)) (key : K) (body : V)
    (hr : RelG cfg fw now c0 s) (hh : ∀ p, p ∈ c0.map → p.2.hits + 1 < u64Max) (fok : FloatOK A cfg fw) :
    (wrapGlobal_0000 A ⟨fun b => now - b, now⟩ size fuel rs io cif c0 key body).1 =
      (callFn ⟨"f", false, false, cfg, false, false, false, false, [], [], []⟩ (T02.srcTlru A fw) size isOk rs s ⟨key, body, cif, io⟩).2.1 ∧
    RelG cfg fw now (wrapGlobal_0000 A ⟨fun b => now - b, now⟩ size fuel rs io cif c0 key body).2
      (callFn ⟨"f", false, false, cfg, false, false, false, false, [], [], []⟩ (T02.srcTlru A fw) size isOk rs s ⟨key, body, cif, io⟩).1 := by
  rw [wrapGlobal_0000_eq]
  exact global_plain_wrapper_is_callFn A hr hh fok

theorem wrapGlobal_0001_is_callFn (A : F64 F) (cfg : Cfg) (fw : Option F) (now : Nat) (rs : List Nat) (fuel : Nat)
    (io cif : K → V → Bool) (size : V → Nat) (isOk : V → Bool)
    (c0 : GlobalCache K (V) F) (s : State K (V)) (key : K) (body : V)
    (hr : RelG cfg fw now c0 s) (hh : ∀ p, p ∈ c0.map → p.2.hits + 1 < u64Max) (fok : FloatOK A cfg fw) :
    (wrapGlobal_0001 A ⟨fun b => now - b, now⟩ size fuel rs io cif c0 key body).1 =
      (callFn ⟨"f", false, false, cfg, false, false, true, false, [], [], []⟩ (T02.srcTlru A fw) size isOk rs s ⟨key, body, cif, io⟩).2.1 ∧
    RelG cfg fw now (wrapGlobal_0001 A ⟨fun b => now - b, now⟩ size fuel rs io cif c0 key body).2
      (callFn ⟨"f", false, false, cfg, false, false, true, false, [], [], []⟩ (T02.srcTlru A fw) size isOk rs s ⟨key, body, cif, io⟩).1 := by
  rw [wrapGlobal_0001_eq]
  exact global_plain_wrapper_is_callFn A hr hh fok

theorem wrapGlobal_0010_is_callFn (A : F64 F) (cfg : Cfg) (fw : Option F) (now : Nat) (rs : List Nat) (fuel : Nat)
    (io cif : K → V → Bool) (size : V → Nat) (isOk : V → Bool)
    (c0 : GlobalCache K (V) F) (s : State K (V)) (key : K) (body : V)
    (hr : RelG cfg fw now c0 s) (hh : ∀ p, p ∈ c0.map → p.2.hits + 1 < u64Max) (fok : FloatOK A cfg fw) :
    (wrapGlobal_0010 A ⟨fun b => now - b, now⟩ size fuel rs io cif c0 key body).1 =
      (callFn ⟨"f", false, false, cfg, false, false, false, true, [], [], []⟩ (T02.srcTlru A fw) size isOk rs s ⟨key, body, cif, io⟩).2.1 ∧
    RelG cfg fw now (wrapGlobal_0010 A ⟨fun b => now - b, now⟩ size fuel rs io cif c0 key body).2
      (callFn ⟨"f", false, false, cfg, false, false, false, true, [], [], []⟩ (T02.srcTlru A fw) size isOk rs s ⟨key, body, cif, io⟩).1 := by
  rw [wrapGlobal_0010_eq]
  exact global_plain_wrapper_is_callFn A hr hh fok

theorem wrapGlobal_0011_is_callFn (A : F64 F) (cfg : Cfg) (fw : Option F) (now : Nat) (rs : List Nat) (fuel : Nat)
    (io cif : K → V → Bool) (size : V → Nat) (isOk : V → Bool)
    (c0 : GlobalCache K (V) F) (s : State K (V)) (key : K) (body : V)
    (hr : RelG cfg fw now c0 s) (hh : ∀ p, p ∈ c0.map → p.2.hits + 1 < u64Max) (fok : FloatOK A cfg fw) :
    (wrapGlobal_0011 A ⟨fun b => now - b, now⟩ size fuel rs io cif c0 key body).1 =
      (callFn ⟨"f", false, false, cfg, false, false, true, true, [], [], []⟩ (T02.srcTlru A fw) size isOk rs s ⟨key, body, cif, io⟩).2.1 ∧
    RelG cfg fw now (wrapGlobal_0011 A ⟨fun b => now - b, now⟩ size fuel rs io cif c0 key body).2
      (callFn ⟨"f", false, false, cfg, false, false, true, true, [], [], []⟩ (T02.srcTlru A fw) size isOk rs s ⟨key, body, cif, io⟩).1 := by
  rw [wrapGlobal_0011_eq]
  exact global_plain_wrapper_is_callFn A hr hh fok

theorem wrapGlobal_0100_is_callFn (A : F64 F) (cfg : Cfg) (fw : Option F) (now : Nat) (rs : List Nat) (fuel : Nat)
    (io cif : K → Except E T → Bool) (size : Except E T → Nat)
    (c0 : GlobalCache K (Except E T) F) (s : State K (Except E T)) (key : K) (body : Except E T)
    (hr : RelG cfg fw now c0 s) (hh : ∀ p, p ∈ c0.map → p.2.hits + 1 < u64Max) (fok : FloatOK A cfg fw) :
    (wrapGlobal_0100 A ⟨fun b => now - b, now⟩ size fuel rs io cif c0 key body).1 =
      (callFn ⟨"f", false, false, cfg, false, true, false, false, [], [], []⟩ (T02.srcTlru A fw) size isOkE rs s ⟨key, body, cif, io⟩).2.1 ∧
    RelG cfg fw now (wrapGlobal_0100 A ⟨fun b => now - b, now⟩ size fuel rs io cif c0 key body).2
      (callFn ⟨"f", false, false, cfg, false, true, false, false, [], [], []⟩ (T02.srcTlru A fw) size isOkE rs s ⟨key, body, cif, io⟩).1 := by
  rw [wrapGlobal_0100_eq]
  exact global_result_wrapper_is_callFn A hr hh fok

theorem wrapGlobal_0101_is_callFn (A : F64 F) (cfg : Cfg) (fw : Option F) (now : Nat) (rs : List Nat) (fuel : Nat)
    (io cif : K → Except E T → Bool) (size : Except E T → Nat)
    (c0 : GlobalCache K (Except E T) F) (s : State K (Except E T)) (key : K) (body : Except E T)
    (hr : RelG cfg fw now c0 s) (hh : ∀ p, p ∈ c0.map → p.2.hits + 1 < u64Max) (fok : FloatOK A cfg fw) :
    (wrapGlobal_0101 A ⟨fun b => now - b, now⟩ size fuel rs io cif c0 key body).1 =
      (callFn ⟨"f", false, false, cfg, false, true, true, false, [], [], []⟩ (T02.srcTlru A fw) size isOkE rs s ⟨key, body, cif, io⟩).2.1 ∧
    RelG cfg fw now (wrapGlobal_0101 A ⟨fun b => now - b, now⟩ size fuel rs io cif c0 key body).2
      (callFn ⟨"f", false, false, cfg, false, true, true, false, [], [], []⟩ (T02.srcTlru A fw) size isOkE rs s ⟨key, body, cif, io⟩).1 := by
  rw [wrapGlobal_0101_eq]
  exact global_result_wrapper_is_callFn A hr hh fok

theorem wrapGlobal_0110_is_callFn (A : F64 F) (cfg : Cfg) (fw : Option F) (now : Nat) (rs : List Nat) (fuel : Nat)
    (io cif : K → Except E T → Bool) (size : Except E T → Nat)
    (c0 : GlobalCache K (Except E T) F) (s : State K (Except E T)) (key : K) (body : Except E T)
    (hr : RelG cfg fw now c0 s) (hh : ∀ p, p ∈ c0.map → p.2.hits + 1 < u64Max) (fok : FloatOK A cfg fw) :
    (wrapGlobal_0110 A ⟨fun b => now - b, now⟩ size fuel rs io cif c0 key body).1 =
      (callFn ⟨"f", false, false, cfg, false, true, false, true, [], [], []⟩ (T02.srcTlru A fw) size isOkE rs s ⟨key, body, cif, io⟩).2.1 ∧
    RelG cfg fw now (wrapGlobal_0110 A ⟨fun b => now - b, now⟩ size fuel rs io cif c0 key body).2
      (callFn ⟨"f", false, false, cfg, false, true, false, true, [], [], []⟩ (T02.srcTlru A fw) size isOkE rs s ⟨key, body, cif, io⟩).1 := by
  rw [wrapGlobal_0110_eq]
  exact global_result_wrapper_is_callFn A hr hh fok

theorem wrapGlobal_0111_is_callFn (A : F64 F) (cfg : Cfg) (fw : Option F) (now : Nat) (rs : List Nat) (fuel : Nat)
    (io cif : K → Except E T → Bool) (size : Except E T → Nat)
    (c0 : GlobalCache K (Except E T) F) (s : State K (Except E T)) (key : K) (body : Except E T)
    (hr : RelG cfg fw now c0 s) (hh : ∀ p, p ∈ c0.map → p.2.hits + 1 < u64Max) (fok : FloatOK A cfg fw) :
    (wrapGlobal_0111 A ⟨fun b => now - b, now⟩ size fuel rs io cif c0 key body).1 =
      (callFn ⟨"f", false, false, cfg, false, true, true, true, [], [], []⟩ (T02.srcTlru A fw) size isOkE rs s ⟨key, body, cif, io⟩).2.1 ∧
    RelG cfg fw now (wrapGlobal_0111 A ⟨fun b => now - b, now⟩ size fuel rs io cif c0 key body).2
      (callFn ⟨"f", false, false, cfg, false, true, true, true, [], [], []⟩ (T02.srcTlru A fw) size isOkE rs s ⟨key, body, cif, io⟩).1 := by
  rw [wrapGlobal_0111_eq]
  exact global_result_wrapper_is_callFn A hr hh fok

theorem wrapGlobal_1000_is_callFn (A : F64 F) (cfg : Cfg) (fw : Option F) (now : Nat) (rs : List Nat)
    (io cif : K → V → Bool) (size : V → Nat) (isOk : V → Bool)
    (c0 : GlobalCache K (V) F) (s : State K (V)) (key : K) (body : V)
    (hr : RelG cfg fw now c0 s) (hh : ∀ p, p ∈ c0.map → p.2.hits + 1 < u64Max) (fok : FloatOK A cfg fw) :
    (wrapGlobal_1000 A ⟨fun b => now - b, now⟩ size (memFuelG (Global.get ⟨fun b => now - b, now⟩ c0 key).2 key) rs io cif c0 key body).1 =
      (callFn ⟨"f", false, false, cfg, true, false, false, false, [], [], []⟩ (T02.srcTlru A fw) size isOk rs s ⟨key, body, cif, io⟩).2.1 ∧
    RelG cfg fw now (wrapGlobal_1000 A ⟨fun b => now - b, now⟩ size (memFuelG (Global.get ⟨fun b => now - b, now⟩ c0 key).2 key) rs io cif c0 key body).2
      (callFn ⟨"f", false, false, cfg, true, false, false, false, [], [], []⟩ (T02.srcTlru A fw) size isOk rs s ⟨key, body, cif, io⟩).1 := by
  rw [wrapGlobal_1000_eq]
  exact global_mem_plain_wrapper_is_callFn A cfg fw now rs false false io cif size isOk c0 s key body hr hh fok

theorem wrapGlobal_1001_is_callFn (A : F64 F) (cfg : Cfg) (fw : Option F) (now : Nat) (rs : List Nat)
    (io cif : K → V → Bool) (size : V → Nat) (isOk : V → Bool)
    (c0 : GlobalCache K (V) F) (s : State K (V)) (key : K) (body : V)
    (hr : RelG cfg fw now c0 s) (hh : ∀ p, p ∈ c0.map → p.2.hits + 1 < u64Max) (fok : FloatOK A cfg fw) :
    (wrapGlobal_1001 A ⟨fun b => now - b, now⟩ size (memFuelG (Global.get ⟨fun b => now - b, now⟩ c0 key).2 key) rs io cif c0 key body).1 =
      (callFn ⟨"f", false, false, cfg, true, false, true, false, [], [], []⟩ (T02.srcTlru A fw) size isOk rs s ⟨key, body, cif, io⟩).2.1 ∧
    RelG cfg fw now (wrapGlobal_1001 A ⟨fun b => now - b, now⟩ size (memFuelG (Global.get ⟨fun b => now - b, now⟩ c0 key).2 key) rs io cif c0 key body).2
      (callFn ⟨"f", false, false, cfg, true, false, true, false, [], [], []⟩ (T02.srcTlru A fw) size isOk rs s ⟨key, body, cif, io⟩).1 := by
  rw [wrapGlobal_1001_eq]
  exact global_mem_plain_wrapper_is_callFn A cfg fw now rs false true io cif size isOk c0 s key body hr hh fok

theorem wrapGlobal_1010_is_callFn (A : F64 F) (cfg : Cfg) (fw : Option F) (now : Nat) (rs : List Nat)
    (io cif : K → V → Bool) (size : V → Nat) (isOk : V → Bool)
    (c0 : GlobalCache K (V) F) (s : State K (V)) (key : K) (body : V)
    (hr : RelG cfg fw now c0 s) (hh : ∀ p, p ∈ c0.map → p.2.hits + 1 < u64Max) (fok : FloatOK A cfg fw) :
    (wrapGlobal_1010 A ⟨fun b => now - b, now⟩ size (memFuelG (Global.get ⟨fun b => now - b, now⟩ c0 key).2 key) rs io cif c0 key body).1 =
      (callFn ⟨"f", false, false, cfg, true, false, false, true, [], [], []⟩ (T02.srcTlru A fw) size isOk rs s ⟨key, body, cif, io⟩).2.1 ∧
    RelG cfg fw now (wrapGlobal_1010 A ⟨fun b => now - b, now⟩ size (memFuelG (Global.get ⟨fun b => now - b, now⟩ c0 key).2 key) rs io cif c0 key body).2
      (callFn ⟨"f", false, false, cfg, true, false, false, true, [], [], []⟩ (T02.srcTlru A fw) size isOk rs s ⟨key, body, cif, io⟩).1 := by
  rw [wrapGlobal_1010_eq]
  exact global_mem_plain_wrapper_is_callFn A cfg fw now rs true false io cif size isOk c0 s key body hr hh fok

theorem wrapGlobal_1011_is_callFn (A : F64 F) (cfg : Cfg) (fw : Option F) (now : Nat) (rs : List Nat)
    (io cif : K → V → Bool) (size : V → Nat) (isOk : V → Bool)
    (c0 : GlobalCache K (V) F) (s : State K (V)) (key : K) (body : V)
    (hr : RelG cfg fw now c0 s) (hh : ∀ p, p ∈ c0.map → p.2.hits + 1 < u64Max) (fok : FloatOK A cfg fw) :
    (wrapGlobal_1011 A ⟨fun b => now - b, now⟩ size (memFuelG (Global.get ⟨fun b => now - b, now⟩ c0 key).2 key) rs io cif c0 key body).1 =
      (callFn ⟨"f", false, false, cfg, true, false, true, true, [], [], []⟩ (T02.srcTlru A fw) size isOk rs s ⟨key, body, cif, io⟩).2.1 ∧
    RelG cfg fw now (wrapGlobal_1011 A ⟨fun b => now - b, now⟩ size (memFuelG (Global.get ⟨fun b => now - b, now⟩ c0 key).2 key) rs io cif c0 key body).2
      (callFn ⟨"f", false, false, cfg, true, false, true, true, [], [], []⟩ (T02.srcTlru A fw) size isOk rs s ⟨key, body, cif, io⟩).1 := by
  rw [wrapGlobal_1011_eq]
  exact global_mem_plain_wrapper_is_callFn A cfg fw now rs true true io cif size isOk c0 s key body hr hh fok

theorem wrapGlobal_1100_is_callFn (A : F64 F) (cfg : Cfg) (fw : Option F) (now : Nat) (rs : List Nat)
    (io cif : K → Except E T → Bool) (size : Except E T → Nat)
    (c0 : GlobalCache K (Except E T) F) (s : State K (Except E T)) (key : K) (body : Except E T)
    (hr : RelG cfg fw now c0 s) (hh : ∀ p, p ∈ c0.map → p.2.hits + 1 < u64Max) (fok : FloatOK A cfg fw) :
    (wrapGlobal_1100 A ⟨fun b => now - b, now⟩ size (memFuelG (Global.get ⟨fun b => now - b, now⟩ c0 key).2 key) rs io cif c0 key body).1 =
      (callFn ⟨"f", false, false, cfg, true, true, false, false, [], [], []⟩ (T02.srcTlru A fw) size isOkE rs s ⟨key, body, cif, io⟩).2.1 ∧
    RelG cfg fw now (wrapGlobal_1100 A ⟨fun b => now - b, now⟩ size (memFuelG (Global.get ⟨fun b => now - b, now⟩ c0 key).2 key) rs io cif c0 key body).2
      (callFn ⟨"f", false, false, cfg, true, true, false, false, [], [], []⟩ (T02.srcTlru A fw) size isOkE rs s ⟨key, body, cif, io⟩).1 := by
  rw [wrapGlobal_1100_eq]
  exact global_mem_result_wrapper_is_callFn A hr hh fok

theorem wrapGlobal_1101_is_callFn (A : F64 F) (cfg : Cfg) (fw : Option F) (now : Nat) (rs : List Nat)
    (io cif : K → Except E T → Bool) (size : Except E T → Nat)
    (c0 : GlobalCache K (Except E T) F) (s : State K (Except E T)) (key : K) (body : Except E T)
    (hr : RelG cfg fw now c0 s) (hh : ∀ p, p ∈ c0.map → p.2.hits + 1 < u64Max) (fok : FloatOK A cfg fw) :
    (wrapGlobal_1101 A ⟨fun b => now - b, now⟩ size (memFuelG (Global.get ⟨fun b => now - b, now⟩ c0 key).2 key) rs io cif c0 key body).1 =
      (callFn ⟨"f", false, false, cfg, true, true, true, false, [], [], []⟩ (T02.srcTlru A fw) size isOkE rs s ⟨key, body, cif, io⟩).2.1 ∧
    RelG cfg fw now (wrapGlobal_1101 A ⟨fun b => now - b, now⟩ size (memFuelG (Global.get ⟨fun b => now - b, now⟩ c0 key).2 key) rs io cif c0 key body).2
      (callFn ⟨"f", false, false, cfg, true, true, true, false, [], [], []⟩ (T02.srcTlru A fw) size isOkE rs s ⟨key, body, cif, io⟩).1 := by
  rw [wrapGlobal_1101_eq]
  exact global_mem_result_wrapper_is_callFn A hr hh fok

theorem wrapGlobal_1110_is_callFn (A : F64 F) (cfg : Cfg) (fw : Option F) (now : Nat) (rs : List Nat)
    (io cif : K → Except E T → Bool) (size : Except E T → Nat)
    (c0 : GlobalCache K (Except E T) F) (s : State K (Except E T)) (key : K) (body : Except E T)
    (hr : RelG cfg fw now c0 s) (hh : ∀ p, p ∈ c0.map → p.2.hits + 1 < u64Max) (fok : FloatOK A cfg fw) :
    (wrapGlobal_1110 A ⟨fun b => now - b, now⟩ size (memFuelG (Global.get ⟨fun b => now - b, now⟩ c0 key).2 key) rs io cif c0 key body).1 =
      (callFn ⟨"f", false, false, cfg, true, true, false, true, [], [], []⟩ (T02.srcTlru A fw) size isOkE rs s ⟨key, body, cif, io⟩).2.1 ∧
    RelG cfg fw now (wrapGlobal_1110 A ⟨fun b => now - b, now⟩ size (memFuelG (Global.get ⟨fun b => now - b, now⟩ c0 key).2 key) rs io cif c0 key body).2
      (callFn ⟨"f", false, false, cfg, true, true, false, true, [], [], []⟩ (T02.srcTlru A fw) size isOkE rs s ⟨key, body, cif, io⟩).1 := by
  rw [wrapGlobal_1110_eq]
  exact global_mem_result_wrapper_is_callFn A hr hh fok

theorem wrapGlobal_1111_is_callFn (A : F64 F) (cfg : Cfg) (fw : Option F) (now : Nat) (rs : List Nat)
    (io cif : K → Except E T → Bool) (size : Except E T → Nat)
    (c0 : GlobalCache K (Except E T) F) (s : State K (Except E T)) (key : K) (body : Except E T)
    (hr : RelG cfg fw now c0 s) (hh : ∀ p, p ∈ c0.map → p.2.hits + 1 < u64Max) (fok : FloatOK A cfg fw) :
    (wrapGlobal_1111 A ⟨fun b => now - b, now⟩ size (memFuelG (Global.get ⟨fun b => now - b, now⟩ c0 key).2 key) rs io cif c0 key body).1 =
      (callFn ⟨"f", false, false, cfg, true, true, true, true, [], [], []⟩ (T02.srcTlru A fw) size isOkE rs s ⟨key, body, cif, io⟩).2.1 ∧
    RelG cfg fw now (wrapGlobal_1111 A ⟨fun b => now - b, now⟩ size (memFuelG (Global.get ⟨fun b => now - b, now⟩ c0 key).2 key) rs io cif c0 key body).2
      (callFn ⟨"f", false, false, cfg, true, true, true, true, [], [], []⟩ (T02.srcTlru A fw) size isOkE rs s ⟨key, body, cif, io⟩).1 := by
  rw [wrapGlobal_1111_eq]
  exact global_mem_result_wrapper_is_callFn A hr hh fok

end GlobalScope

section ThreadScope

/-- the same for the thread-local engine -/
def memFuelT (c : ThreadCache K V F) (k : K) : Nat := (erasePush k c.order).length + 1

theorem thread_insertMem_sim (A : F64 F) (cfg : Cfg) (fw : Option F) (now : Nat) (rs : List Nat) (size : V → Nat) (k : K) (v : V)
    (c : ThreadCache K V F) (s : State K V) (hr : RelT cfg fw now c s) (hh : ∀ p, p ∈ c.cache → p.2.hits < u64Max)
    (fok : FloatOK A cfg fw) :
    RelT cfg fw now (Thread.insert_with_memory A ⟨fun b => now - b, now⟩ size (memFuelT c k) rs c k v)
      (Cachelito.insertMem cfg (T02.srcTlru A fw) size rs s k v) := by
  obtain ⟨rfl, rfl, rfl⟩ := hr.state
  have ok : T11.ScoresOK A c := ⟨hh, fok.arcBelowMax, fok.arcOrder, fok.tlruBelowMax⟩
  obtain ⟨m1, m2⟩ := T15.insert_with_memory_model A c size now c.stats.hits c.stats.misses rs k v ok
  obtain ⟨g1, g2, g3⟩ := T15.insert_with_memory_frame A size (memFuelT c k) rs c now k v ok
  obtain ⟨f1, f2, f3⟩ := Hist.insertMem_frame (T11.cfgOf c) (T02.srcTlru A c.frequency_weight) size rs
    ⟨c.cache, c.order, now, c.stats.hits, c.stats.misses⟩ k v
  exact ⟨g1, g2, m1, m2, f1, by rw [g3, f2], by rw [g3, f3]⟩

/-- `#[cache(scope = "thread", max_memory = …)]` on a plain function: the generic wrapper over the TRANSLATED
    engine (memory loop with the model's fuel) returns what the model's `callFn` returns and leaves the cache in the state
    `callFn` leaves -/
theorem thread_mem_plain_wrapper_is_callFn (A : F64 F) {cfg : Cfg} {fw : Option F} {now : Nat} {rs : List Nat}
    {inv ci : Bool} {io cif : K → V → Bool} {size : V → Nat} {isOk : V → Bool}
    {c0 : ThreadCache K (V) F} {s : State K (V)} {key : K} {body : V}
    (hr : RelT cfg fw now c0 s) (hh : ∀ p, p ∈ c0.cache → p.2.hits + 1 < u64Max) (fok : FloatOK A cfg fw) :
    (wrapGen ⟨Thread.get ⟨fun b => now - b, now⟩, Thread.insert_with_memory A ⟨fun b => now - b, now⟩ size (memFuelT (Thread.get ⟨fun b => now - b, now⟩ c0 key).2 key) rs⟩ inv ci io cif c0 key body).1 =
      (callFn ⟨"f", false, true, cfg, true, false, ci, inv, [], [], []⟩ (T02.srcTlru A fw) size isOk rs s ⟨key, body, cif, io⟩).2.1 ∧
    RelT cfg fw now
      (wrapGen ⟨Thread.get ⟨fun b => now - b, now⟩, Thread.insert_with_memory A ⟨fun b => now - b, now⟩ size (memFuelT (Thread.get ⟨fun b => now - b, now⟩ c0 key).2 key) rs⟩ inv ci io cif c0 key body).2
      (callFn ⟨"f", false, true, cfg, true, false, ci, inv, [], [], []⟩ (T02.srcTlru A fw) size isOk rs s ⟨key, body, cif, io⟩).1 := by
  obtain ⟨hv, hw, h0⟩ := thread_get_sim cfg fw now key c0 s hr hh
  refine wrapGen_is_callFn (RelT cfg fw now) (spec := ⟨"f", false, true, cfg, true, false, ci, inv, [], [], []⟩)
    (callFn_eq_wrapGen _ rfl ..) hv hw ?_
  simp only [modelOps, if_true, if_false, Bool.false_eq_true]
  exact thread_insertMem_sim A cfg fw now rs size key _ _ _ hw h0 fok

/-- `#[cache(scope = "thread", max_memory = …)]` on a `Result` function: the same; an `Err` is never stored, whatever `cache_if` says (C09) -/
theorem thread_mem_result_wrapper_is_callFn (A : F64 F) {cfg : Cfg} {fw : Option F} {now : Nat} {rs : List Nat}
    {inv ci : Bool} {io cif : K → Except E T → Bool} {size : Except E T → Nat}
    {c0 : ThreadCache K (Except E T) F} {s : State K (Except E T)} {key : K} {body : Except E T}
    (hr : RelT cfg fw now c0 s) (hh : ∀ p, p ∈ c0.cache → p.2.hits + 1 < u64Max) (fok : FloatOK A cfg fw) :
    (wrapGen ⟨Thread.get ⟨fun b => now - b, now⟩, Thread.insert_result_with_memory A ⟨fun b => now - b, now⟩ size (memFuelT (Thread.get ⟨fun b => now - b, now⟩ c0 key).2 key) rs⟩ inv ci io cif c0 key body).1 =
      (callFn ⟨"f", false, true, cfg, true, true, ci, inv, [], [], []⟩ (T02.srcTlru A fw) size isOkE rs s ⟨key, body, cif, io⟩).2.1 ∧
    RelT cfg fw now
      (wrapGen ⟨Thread.get ⟨fun b => now - b, now⟩, Thread.insert_result_with_memory A ⟨fun b => now - b, now⟩ size (memFuelT (Thread.get ⟨fun b => now - b, now⟩ c0 key).2 key) rs⟩ inv ci io cif c0 key body).2
      (callFn ⟨"f", false, true, cfg, true, true, ci, inv, [], [], []⟩ (T02.srcTlru A fw) size isOkE rs s ⟨key, body, cif, io⟩).1 := by
  obtain ⟨hv, hw, h0⟩ := thread_get_sim cfg fw now key c0 s hr hh
  refine wrapGen_is_callFn (RelT cfg fw now) (spec := ⟨"f", false, true, cfg, true, true, ci, inv, [], [], []⟩)
    (callFn_eq_wrapGen _ rfl ..) hv hw ?_
  cases body with
  | error e =>
    simp only [modelOps, isOkE, T13.thread_insert_result_with_memory_err, if_true, if_false, Bool.false_eq_true]
    exact hw
  | ok x =>
    simp only [modelOps, isOkE, T13.thread_insert_result_with_memory_ok, if_true]
    exact thread_insertMem_sim A cfg fw now rs size key _ _ _ hw h0 fok

/-! ### headline: each of the 16 GENERATED thread-scope wrappers is the model's `callFn` for its configuration -/

theorem wrapThread_0000_is_callFn (A : F64 F) (cfg : Cfg) (fw : Option F) (now : Nat) (rs : List Nat) (fuel : Nat)
    (io cif : K → V → Bool) (size : V → Nat) (isOk : V → Bool)
    (c0 : ThreadCache K (V) F) (s : State K (V)) (key : K) (body : V)
    (hr : RelT cfg fw now c0 s) (hh : ∀ p, p ∈ c0.cache → p.2.hits + 1 < u64Max) (fok : FloatOK A cfg fw) :
    (wrapThread_0000 A ⟨fun b => now - b, now⟩ size fuel rs io cif c0 key body).1 =
      (callFn ⟨"f", false, true, cfg, false, false, false, false, [], [], []⟩ (T02.srcTlru A fw) size isOk rs s ⟨key, body, cif, io⟩).2.1 ∧
    RelT cfg fw now (wrapThread_0000 A ⟨fun b => now - b, now⟩ size fuel rs io cif c0 key body).2
      (callFn ⟨"f", false, true, cfg, false, false, false, false, [], [], []⟩ (T02.srcTlru A fw) size isOk rs s ⟨key, body, cif, io⟩).1 := by
  rw [wrapThread_0000_eq]
  exact thread_plain_wrapper_is_callFn A cfg fw now rs false false io cif size isOk c0 s key body hr hh fok

theorem wrapThread_0001_is_callFn (A : F64 F) (cfg : Cfg) (fw : Option F) (now : Nat) (rs : List Nat) (fuel : Nat)
    (io cif : K → V → Bool) (size : V → Nat) (isOk : V → Bool)
    (c0 : ThreadCache K (V) F) (s : State K (V)) (key : K) (body : V)
    (hr : RelT cfg fw now c0 s) (hh : ∀ p, p ∈ c0.cache → p.2.hits + 1 < u64Max) (fok : FloatOK A cfg fw) :
    (wrapThread_0001 A ⟨fun b => now - b, now⟩ size fuel rs io cif c0 key body).1 =
      (callFn ⟨"f", false, true, cfg, false, false, true, false, [], [], []⟩ (T02.srcTlru A fw) size isOk rs s ⟨key, body, cif, io⟩).2.1 ∧
    RelT cfg fw now (wrapThread_0001 A ⟨fun b => now - b, now⟩ size fuel rs io cif c0 key body).2
      (callFn ⟨"f", false, true, cfg, false, false, true, false, [], [], []⟩ (T02.srcTlru A fw) size isOk rs s ⟨key, body, cif, io⟩).1 := by
  rw [wrapThread_0001_eq]
  exact thread_plain_wrapper_is_callFn A cfg fw now rs false true io cif size isOk c0 s key body hr hh fok

theorem wrapThread_0010_is_callFn (A : F64 F) (cfg : Cfg) (fw : Option F) (now : Nat) (rs : List Nat) (fuel : Nat)
    (io cif : K → V → Bool) (size : V → Nat) (isOk : V → Bool)
    (c0 : ThreadCache K (V) F) (s : State K (V)) (key : K) (body : V)
    (hr : RelT cfg fw now c0 s) (hh : ∀ p, p ∈ c0.cache → p.2.hits + 1 < u64Max) (fok : FloatOK A cfg fw) :
    (wrapThread_0010 A ⟨fun b => now - b, now⟩ size fuel rs io cif c0 key body).1 =
      (callFn ⟨"f", false, true, cfg, false, false, false, true, [], [], []⟩ (T02.srcTlru A fw) size isOk rs s ⟨key, body, cif, io⟩).2.1 ∧
    RelT cfg fw now (wrapThread_0010 A ⟨fun b => now - b, now⟩ size fuel rs io cif c0 key body).2
      (callFn ⟨"f", false, true, cfg, false, false, false, true, [], [], []⟩ (T02.srcTlru A fw) size isOk rs s ⟨key, body, cif, io⟩).1 := by
  rw [wrapThread_0010_eq]
  exact thread_plain_wrapper_is_callFn A cfg fw now rs true false io cif size isOk c0 s key body hr hh fok

theorem wrapThread_0011_is_callFn (A : F64 F) (cfg : Cfg) (fw : Option F) (now : Nat) (rs : List Nat) (fuel : Nat)
    (io cif : K → V → Bool) (size : V → Nat) (isOk : V → Bool)
    (c0 : ThreadCache K (V) F) (s : State K (V)) (key : K) (body : V)
    (hr : RelT cfg fw now c0 s) (hh : ∀ p, p ∈ c0.cache → p.2.hits + 1 < u64Max) (fok : FloatOK A cfg fw) :
    (wrapThread_0011 A ⟨fun b => now - b, now⟩ size fuel rs io cif c0 key body).1 =
      (callFn ⟨"f", false, true, cfg, false, false, true, true, [], [], []⟩ (T02.srcTlru A fw) size isOk rs s ⟨key, body, cif, io⟩).2.1 ∧
    RelT cfg fw now (wrapThread_0011 A ⟨fun b => now - b, now⟩ size fuel rs io cif c0 key body).2
      (callFn ⟨"f", false, true, cfg, false, false, true, true, [], [], []⟩ (T02.srcTlru A fw) size isOk rs s ⟨key, body, cif, io⟩).1 := by
  rw [wrapThread_0011_eq]
  exact thread_plain_wrapper_is_callFn A cfg fw now rs true true io cif size isOk c0 s key body hr hh fok

theorem wrapThread_0100_is_callFn (A : F64 F) (cfg : Cfg) (fw : Option F) (now : Nat) (rs : List Nat) (fuel : Nat)
    (io cif : K → Except E T → Bool) (size : Except E T → Nat)
    (c0 : ThreadCache K (Except E T) F) (s : State K (Except E T)) (key : K) (body : Except E T)
    (hr : RelT cfg fw now c0 s) (hh : ∀ p, p ∈ c0.cache → p.2.hits + 1 < u64Max) (fok : FloatOK A cfg fw) :
    (wrapThread_0100 A ⟨fun b => now - b, now⟩ size fuel rs io cif c0 key body).1 =
      (callFn ⟨"f", false, true, cfg, false, true, false, false, [], [], []⟩ (T02.srcTlru A fw) size isOkE rs s ⟨key, body, cif, io⟩).2.1 ∧
    RelT cfg fw now (wrapThread_0100 A ⟨fun b => now - b, now⟩ size fuel rs io cif c0 key body).2
      (callFn ⟨"f", false, true, cfg, false, true, false, false, [], [], []⟩ (T02.srcTlru A fw) size isOkE rs s ⟨key, body, cif, io⟩).1 := by
  rw [wrapThread_0100_eq]
  exact thread_result_wrapper_is_callFn A cfg fw now rs false false io cif size c0 s key body hr hh fok

theorem wrapThread_0101_is_callFn (A : F64 F) (cfg : Cfg) (fw : Option F) (now : Nat) (rs : List Nat) (fuel : Nat)
    (io cif : K → Except E T → Bool) (size : Except E T → Nat)
    (c0 : ThreadCache K (Except E T) F) (s : State K (Except E T)) (key : K) (body : Except E T)
    (hr : RelT cfg fw now c0 s) (hh : ∀ p, p ∈ c0.cache → p.2.hits + 1 < u64Max) (fok : FloatOK A cfg fw) :
    (wrapThread_0101 A ⟨fun b => now - b, now⟩ size fuel rs io cif c0 key body).1 =
      (callFn ⟨"f", false, true, cfg, false, true, true, false, [], [], []⟩ (T02.srcTlru A fw) size isOkE rs s ⟨key, body, cif, io⟩).2.1 ∧
    RelT cfg fw now (wrapThread_0101 A ⟨fun b => now - b, now⟩ size fuel rs io cif c0 key body).2
      (callFn ⟨"f", false, true, cfg, false, true, true, false, [], [], []⟩ (T02.srcTlru A fw) size isOkE rs s ⟨key, body, cif, io⟩).1 := by
  rw [wrapThread_0101_eq]
  exact thread_result_wrapper_is_callFn A cfg fw now rs false true io cif size c0 s key body hr hh fok

theorem wrapThread_0110_is_callFn (A : F64 F) (cfg : Cfg) (fw : Option F) (now : Nat) (rs : List Nat) (fuel : Nat)
    (io cif : K → Except E T → Bool) (size : Except E T → Nat)
    (c0 : ThreadCache K (Except E T) F) (s : State K (Except E T)) (key : K) (body : Except E T)
    (hr : RelT cfg fw now c0 s) (hh : ∀ p, p ∈ c0.cache → p.2.hits + 1 < u64Max) (fok : FloatOK A cfg fw) :
    (wrapThread_0110 A ⟨fun b => now - b, now⟩ size fuel rs io cif c0 key body).1 =
      (callFn ⟨"f", false, true, cfg, false, true, false, true, [], [], []⟩ (T02.srcTlru A fw) size isOkE rs s ⟨key, body, cif, io⟩).2.1 ∧
    RelT cfg fw now (wrapThread_0110 A ⟨fun b => now - b, now⟩ size fuel rs io cif c0 key body).2
      (callFn ⟨"f", false, true, cfg, false, true, false, true, [], [], []⟩ (T02.srcTlru A fw) size isOkE rs s ⟨key, body, cif, io⟩).1 := by
  rw [wrapThread_0110_eq]
  exact thread_result_wrapper_is_callFn A cfg fw now rs true false io cif size c0 s key body hr hh fok

theorem wrapThread_0111_is_callFn (A : F64 F) (cfg : Cfg) (fw : Option F) (now : Nat) (rs : List Nat) (fuel : Nat)
    (io cif : K → Except E T → Bool) (size : Except E T → Nat)
    (c0 : ThreadCache K (Except E T) F) (s : State K (Except E T)) (key : K) (body : Except E T)
    (hr : RelT cfg fw now c0 s) (hh : ∀ p, p ∈ c0.cache → p.2.hits + 1 < u64Max) (fok : FloatOK A cfg fw) :
    (wrapThread_0111 A ⟨fun b => now - b, now⟩ size fuel rs io cif c0 key body).1 =
      (callFn ⟨"f", false, true, cfg, false, true, true, true, [], [], []⟩ (T02.srcTlru A fw) size isOkE rs s ⟨key, body, cif, io⟩).2.1 ∧
    RelT cfg fw now (wrapThread_0111 A ⟨fun b => now - b, now⟩ size fuel rs io cif c0 key body).2
      (callFn ⟨"f", false, true, cfg, false, true, true, true, [], [], []⟩ (T02.srcTlru A fw) size isOkE rs s ⟨key, body, cif, io⟩).1 := by
  rw [wrapThread_0111_eq]
  exact thread_result_wrapper_is_callFn A cfg fw now rs true true io cif size c0 s key body hr hh fok

theorem wrapThread_1000_is_callFn (A : F64 F) (cfg : Cfg) (fw : Option F) (now : Nat) (rs : List Nat)
    (io cif : K → V → Bool) (size : V → Nat) (isOk : V → Bool)
    (c0 : ThreadCache K (V) F) (s : State K (V)) (key : K) (body : V)
    (hr : RelT cfg fw now c0 s) (hh : ∀ p, p ∈ c0.cache → p.2.hits + 1 < u64Max) (fok : FloatOK A cfg fw) :
    (wrapThread_1000 A ⟨fun b => now - b, now⟩ size (memFuelT (Thread.get ⟨fun b => now - b, now⟩ c0 key).2 key) rs io cif c0 key body).1 =
      (callFn ⟨"f", false, true, cfg, true, false, false, false, [], [], []⟩ (T02.srcTlru A fw) size isOk rs s ⟨key, body, cif, io⟩).2.1 ∧
    RelT cfg fw now (wrapThread_1000 A ⟨fun b => now - b, now⟩ size (memFuelT (Thread.get ⟨fun b => now - b, now⟩ c0 key).2 key) rs io cif c0 key body).2
      (callFn ⟨"f", false, true, cfg, true, false, false, false, [], [], []⟩ (T02.srcTlru A fw) size isOk rs s ⟨key, body, cif, io⟩).1 := by
  rw [wrapThread_1000_eq]
  exact thread_mem_plain_wrapper_is_callFn A hr hh fok

theorem wrapThread_1001_is_callFn (A : F64 F) (cfg : Cfg) (fw : Option F) (now : Nat) (rs : List Nat)
    (io cif : K → V → Bool) (size : V → Nat) (isOk : V → Bool)
    (c0 : ThreadCache K (V) F) (s : State K (V)) (key : K) (body : V)
    (hr : RelT cfg fw now c0 s) (hh : ∀ p, p ∈ c0.cache → p.2.hits + 1 < u64Max) (fok : FloatOK A cfg fw) :
    (wrapThread_1001 A ⟨fun b => now - b, now⟩ size (memFuelT (Thread.get ⟨fun b => now - b, now⟩ c0 key).2 key) rs io cif c0 key body).1 =
      (callFn ⟨"f", false, true, cfg, true, false, true, false, [], [], []⟩ (T02.srcTlru A fw) size isOk rs s ⟨key, body, cif, io⟩).2.1 ∧
    RelT cfg fw now (wrapThread_1001 A ⟨fun b => now - b, now⟩ size (memFuelT (Thread.get ⟨fun b => now - b, now⟩ c0 key).2 key) rs io cif c0 key body).2
      (callFn ⟨"f", false, true, cfg, true, false, true, false, [], [], []⟩ (T02.srcTlru A fw) size isOk rs s ⟨key, body, cif, io⟩).1 := by
  rw [wrapThread_1001_eq]
  exact thread_mem_plain_wrapper_is_callFn A hr hh fok

theorem wrapThread_1010_is_callFn (A : F64 F) (cfg : Cfg) (fw : Option F) (now : Nat) (rs : List Nat)
    (io cif : K → V → Bool) (size : V → Nat) (isOk : V → Bool)
    (c0 : ThreadCache K (V) F) (s : State K (V)) (key : K) (body : V)
    (hr : RelT cfg fw now c0 s) (hh : ∀ p, p ∈ c0.cache → p.2.hits + 1 < u64Max) (fok : FloatOK A cfg fw) :
    (wrapThread_1010 A ⟨fun b => now - b, now⟩ size (memFuelT (Thread.get ⟨fun b => now - b, now⟩ c0 key).2 key) rs io cif c0 key body).1 =
      (callFn ⟨"f", false, true, cfg, true, false, false, true, [], [], []⟩ (T02.srcTlru A fw) size isOk rs s ⟨key, body, cif, io⟩).2.1 ∧
    RelT cfg fw now (wrapThread_1010 A ⟨fun b => now - b, now⟩ size (memFuelT (Thread.get ⟨fun b => now - b, now⟩ c0 key).2 key) rs io cif c0 key body).2
      (callFn ⟨"f", false, true, cfg, true, false, false, true, [], [], []⟩ (T02.srcTlru A fw) size isOk rs s ⟨key, body, cif, io⟩).1 := by
  rw [wrapThread_1010_eq]
  exact thread_mem_plain_wrapper_is_callFn A hr hh fok

theorem wrapThread_1011_is_callFn (A : F64 F) (cfg : Cfg) (fw : Option F) (now : Nat) (rs : List Nat)
    (io cif : K → V → Bool) (size : V → Nat) (isOk : V → Bool)
    (c0 : ThreadCache K (V) F) (s : State K (V)) (key : K) (body : V)
    (hr : RelT cfg fw now c0 s) (hh : ∀ p, p ∈ c0.cache → p.2.hits + 1 < u64Max) (fok : FloatOK A cfg fw) :
    (wrapThread_1011 A ⟨fun b => now - b, now⟩ size (memFuelT (Thread.get ⟨fun b => now - b, now⟩ c0 key).2 key) rs io cif c0 key body).1 =
      (callFn ⟨"f", false, true, cfg, true, false, true, true, [], [], []⟩ (T02.srcTlru A fw) size isOk rs s ⟨key, body, cif, io⟩).2.1 ∧
    RelT cfg fw now (wrapThread_1011 A ⟨fun b => now - b, now⟩ size (memFuelT (Thread.get ⟨fun b => now - b, now⟩ c0 key).2 key) rs io cif c0 key body).2
      (callFn ⟨"f", false, true, cfg, true, false, true, true, [], [], []⟩ (T02.srcTlru A fw) size isOk rs s ⟨key, body, cif, io⟩).1 := by
  rw [wrapThread_1011_eq]
  exact thread_mem_plain_wrapper_is_callFn A hr hh fok

theorem wrapThread_1100_is_callFn (A : F64 F) (cfg : Cfg) (fw : Option F) (now : Nat) (rs : List Nat)
    (io cif : K → Except E T → Bool) (size : Except E T → Nat)
    (c0 : ThreadCache K (Except E T) F) (s : State K (Except E T)) (key : K) (body : Except E T)
    (hr : RelT cfg fw now c0 s) (hh : ∀ p, p ∈ c0.cache → p.2.hits + 1 < u64Max) (fok : FloatOK A cfg fw) :
    (wrapThread_1100 A ⟨fun b => now - b, now⟩ size (memFuelT (Thread.get ⟨fun b => now - b, now⟩ c0 key).2 key) rs io cif c0 key body).1 =
      (callFn ⟨"f", false, true, cfg, true, true, false, false, [], [], []⟩ (T02.srcTlru A fw) size isOkE rs s ⟨key, body, cif, io⟩).2.1 ∧
    RelT cfg fw now (wrapThread_1100 A ⟨fun b => now - b, now⟩ size (memFuelT (Thread.get ⟨fun b => now - b, now⟩ c0 key).2 key) rs io cif c0 key body).2
      (callFn ⟨"f", false, true, cfg, true, true, false, false, [], [], []⟩ (T02.srcTlru A fw) size isOkE rs s ⟨key, body, cif, io⟩).1 := by
  rw [wrapThread_1100_eq]
  exact thread_mem_result_wrapper_is_callFn A hr hh fok

theorem wrapThread_1101_is_callFn (A : F64 F) (cfg : Cfg) (fw : Option F) (now : Nat) (rs : List Nat)
    (io cif : K → Except E T → Bool) (size : Except E T → Nat)
    (c0 : ThreadCache K (Except E T) F) (s : State K (Except E T)) (key : K) (body : Except E T)
    (hr : RelT cfg fw now c0 s) (hh : ∀ p, p ∈ c0.cache → p.2.hits + 1 < u64Max) (fok : FloatOK A cfg fw) :
    (wrapThread_1101 A ⟨fun b => now - b, now⟩ size (memFuelT (Thread.get ⟨fun b => now - b, now⟩ c0 key).2 key) rs io cif c0 key body).1 =
      (callFn ⟨"f", false, true, cfg, true, true, true, false, [], [], []⟩ (T02.srcTlru A fw) size isOkE rs s ⟨key, body, cif, io⟩).2.1 ∧
    RelT cfg fw now (wrapThread_1101 A ⟨fun b => now - b, now⟩ size (memFuelT (Thread.get ⟨fun b => now - b, now⟩ c0 key).2 key) rs io cif c0 key body).2
      (callFn ⟨"f", false, true, cfg, true, true, true, false, [], [], []⟩ (T02.srcTlru A fw) size isOkE rs s ⟨key, body, cif, io⟩).1 := by
  rw [wrapThread_1101_eq]
  exact thread_mem_result_wrapper_is_callFn A hr hh fok

theorem wrapThread_1110_is_callFn (A : F64 F) (cfg : Cfg) (fw : Option F) (now : Nat) (rs : List Nat)
    (io cif : K → Except E T → Bool) (size : Except E T → Nat)
    (c0 : ThreadCache K (Except E T) F) (s : State K (Except E T)) (key : K) (body : Except E T)
    (hr : RelT cfg fw now c0 s) (hh : ∀ p, p ∈ c0.cache → p.2.hits + 1 < u64Max) (fok : FloatOK A cfg fw) :
    (wrapThread_1110 A ⟨fun b => now - b, now⟩ size (memFuelT (Thread.get ⟨fun b => now - b, now⟩ c0 key).2 key) rs io cif c0 key body).1 =
      (callFn ⟨"f", false, true, cfg, true, true, false, true, [], [], []⟩ (T02.srcTlru A fw) size isOkE rs s ⟨key, body, cif, io⟩).2.1 ∧
    RelT cfg fw now (wrapThread_1110 A ⟨fun b => now - b, now⟩ size (memFuelT (Thread.get ⟨fun b => now - b, now⟩ c0 key).2 key) rs io cif c0 key body).2
      (callFn ⟨"f", false, true, cfg, true, true, false, true, [], [], []⟩ (T02.srcTlru A fw) size isOkE rs s ⟨key, body, cif, io⟩).1 := by
  rw [wrapThread_1110_eq]
  exact thread_mem_result_wrapper_is_callFn A hr hh fok

theorem wrapThread_1111_is_callFn (A : F64 F) (cfg : Cfg) (fw : Option F) (now : Nat) (rs : List Nat)
    (io cif : K → Except E T → Bool) (size : Except E T → Nat)
    (c0 : ThreadCache K (Except E T) F) (s : State K (Except E T)) (key : K) (body : Except E T)
    (hr : RelT cfg fw now c0 s) (hh : ∀ p, p ∈ c0.cache → p.2.hits + 1 < u64Max) (fok : FloatOK A cfg fw) :
    (wrapThread_1111 A ⟨fun b => now - b, now⟩ size (memFuelT (Thread.get ⟨fun b => now - b, now⟩ c0 key).2 key) rs io cif c0 key body).1 =
      (callFn ⟨"f", false, true, cfg, true, true, true, true, [], [], []⟩ (T02.srcTlru A fw) size isOkE rs s ⟨key, body, cif, io⟩).2.1 ∧
    RelT cfg fw now (wrapThread_1111 A ⟨fun b => now - b, now⟩ size (memFuelT (Thread.get ⟨fun b => now - b, now⟩ c0 key).2 key) rs io cif c0 key body).2
      (callFn ⟨"f", false, true, cfg, true, true, true, true, [], [], []⟩ (T02.srcTlru A fw) size isOkE rs s ⟨key, body, cif, io⟩).1 := by
  rw [wrapThread_1111_eq]
  exact thread_mem_result_wrapper_is_callFn A hr hh fok

end ThreadScope

end Cachelito.T17m
