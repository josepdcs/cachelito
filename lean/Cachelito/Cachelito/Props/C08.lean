/-
  C08 — LFU / ARC / TLRU evict the entry with the lowest documented score.

  The vocabulary (`StrictWeakOn`, `FirstMinAt`, `FirstWith`, `EvictChain`, `IsVictim`, `preEvict`,
  `finishStore`, `MinHits`, `VictimSpec`, `ZeroLike`, `ghostHits`, `exactTlru`) and the lemmas about it live in
  `Cachelito/Lemmas/Score.lean`.  All statements quantify over every flavour
  (sync global, thread-local, async) unless a flavour is named, every TLRU scorer `tl`, every size
  function, every stream of random draws, and every store/queue satisfying the bookkeeping invariant
  `InvMQ` (which holds in every reachable state, `C04.inv_reachable`).

  Reading guide.
  * `FirstMinAt lt score m q k`  : `k` sits at some queue index `i` with entry `e`; no stored queue key
    has a strictly smaller score; every stored queue key in front of `k` has a strictly larger one.
  * `EvictChain Φ m q m' q'`     : `(m', q')` is reached from `(m, q)` by removing keys one after the
    other, each satisfying `Φ` in the store/queue it is removed from ("at eviction time").
  * `preEvict cfg s k v`         : the store/queue the evictions of a store of `k` operate on — for the
    sync engines the newcomer is already in it with `hits = 0`.
-/
import Cachelito.Lemmas.Score
import Cachelito.Props.C04
import Cachelito.Props.C05

namespace Cachelito.C08
open Cachelito
variable {K V S : Type} [DecidableEq K]

/-! ## (a) The scan returns the first minimiser -/

section
set_option linter.unusedSectionVars false

/-- **Generic minimality of the scan.**  For a comparison `lt` that is a strict weak order
    (asymmetric, negatively transitive) on the scores occurring in the candidate list `l`: the key
    returned by `firstMin` occurs in `l` with a score `s` such that no candidate has a strictly
    smaller score, and every candidate before it has a strictly larger score — it is the first
    minimiser in list order. -/
theorem firstMin_is_first_minimiser {P : S → Prop} {lt : S → S → Bool} (h : StrictWeakOn P lt)
    {l : List (K × S)} (hP : ∀ x ∈ l, P x.2) {k : K} (hk : firstMin lt l = some k) :
    ∃ pre s post, l = pre ++ (k, s) :: post ∧ (∀ x ∈ pre, lt s x.2 = true) ∧
      (∀ x ∈ l, lt x.2 s = false) := by
  cases l with
  | nil => simp [firstMin] at hk
  | cons c cs =>
    simp only [firstMin, Option.some.injEq] at hk
    obtain ⟨pre, post, he, h1, h2⟩ := firstMinAux_spec h c cs hP
    generalize firstMinAux lt c cs = r at hk he h1 h2
    obtain ⟨rk, rs⟩ := r
    simp only at hk; subst hk
    exact ⟨pre, rs, post, he, h1, h2⟩

end

/-- The same for the scan over a queue with an arbitrary score function (orphan queue keys are
    skipped but count for positions, as in the code): the result is a stored queue key and the first
    minimiser of the score among the stored queue keys. -/
theorem scan_is_first_minimiser {P : S → Prop} {lt : S → S → Bool} (h : StrictWeakOn P lt)
    {score : Entry V → Nat → Nat → S} {m : Store K V} {q : List K}
    (hP : ∀ e i, i < q.length → P (score e i q.length)) {k : K}
    (hk : firstMin lt (cands score m q) = some k) : FirstMinAt lt score m q k := by
  have hP' : ∀ x ∈ cands score m q, P x.2 := by
    intro x hx
    obtain ⟨j, e, h1, _, h3⟩ := exists_of_mem_candsFrom hx
    rw [h3]
    exact hP e j (getElem?_lt h1)
  obtain ⟨pre, s, post, he, h1, h2⟩ := firstMin_is_first_minimiser h hP' hk
  obtain ⟨i, e, hq, hl, hs, hpre⟩ := candsFrom_split he
  refine ⟨i, e, hq, hl, ?_, ?_⟩
  · intro j k' e' hq' hl'
    rw [← hs]; exact h2 _ (mem_candsFrom_of_getElem? hq' hl')
  · intro j k' e' hj hq' hl'
    rw [← hs]; exact h1 _ (hpre j k' e' hj hq' hl')

/-- The victim of any scored policy is a key that is both queued and stored. -/
theorem victim_is_stored_queue_key {cfg : Cfg} {tl : Tlru S} {now : Nat} {m : Store K V} {q : List K} {k : K}
    (h : victim cfg tl now m q = some k) : k ∈ q ∧ k ∈ keys m :=
  victim_mem h

/-- LFU: the victim is the first minimiser of the hit counter among the stored queue keys. -/
theorem victim_lfu_first_min {cfg : Cfg} (hp : cfg.policy = .lfu) {tl : Tlru S} {now : Nat}
    {m : Store K V} {q : List K} {k : K} (h : victim cfg tl now m q = some k) :
    FirstMinAt natLt lfuScore m q k := by
  rw [victim_lfu_eq tl now m q hp] at h
  exact scan_is_first_minimiser strictWeak_natLt (fun _ _ _ => trivial) h

/-- ARC: the victim is the first minimiser of `hits × rank` among the stored queue keys. -/
theorem victim_arc_first_min {cfg : Cfg} (hp : cfg.policy = .arc) {tl : Tlru S} {now : Nat}
    {m : Store K V} {q : List K} {k : K} (h : victim cfg tl now m q = some k) :
    FirstMinAt natLt (arcScore cfg) m q k := by
  rw [victim_arc_eq tl now m q hp] at h
  exact scan_is_first_minimiser strictWeak_natLt (fun _ _ _ => trivial) h

/-- TLRU, for every scorer whose comparison is a strict weak order on the scores it produces (for
    `f64`: no NaN): the victim is the first minimiser of the TLRU score among the stored queue keys. -/
theorem victim_tlru_first_min {cfg : Cfg} (hp : cfg.policy = .tlru) {tl : Tlru S} {P : S → Prop}
    (hsw : StrictWeakOn P tl.lt) (hP : ∀ h el r, P (tl.score cfg h el r)) {now : Nat}
    {m : Store K V} {q : List K} {k : K} (h : victim cfg tl now m q = some k) :
    FirstMinAt tl.lt (tlruScore cfg tl now) m q k := by
  rw [victim_tlru_eq tl now m q hp] at h
  exact scan_is_first_minimiser (score := tlruScore cfg tl now) hsw (fun _ _ _ => hP _ _ _) h

/-- All three policies at once: the victim satisfies the policy's `VictimSpec` (first minimiser of
    hits / hits × rank / the TLRU score). -/
theorem victim_spec {cfg : Cfg} (hp : Scored cfg) {tl : Tlru S} {P : S → Prop}
    (htl : cfg.policy = .tlru → StrictWeakOn P tl.lt ∧ ∀ h el r, P (tl.score cfg h el r))
    {now : Nat} {m : Store K V} {q : List K} {k : K} (h : victim cfg tl now m q = some k) :
    VictimSpec cfg tl now m q k := by
  unfold VictimSpec
  rcases hp with hp | hp | hp
  · rw [hp]; exact victim_lfu_first_min hp h
  · rw [hp]; exact victim_arc_first_min hp h
  · rw [hp]; exact victim_tlru_first_min hp (htl hp).1 (htl hp).2 h

/-- **Every eviction of a plain store is a first minimiser, all flavours, all three policies.**
    The final store/queue of `insert` is reached from the pre-eviction state by a chain of removals
    (at most one), each removing the key that `VictimSpec` describes in the state at that moment. -/
theorem insert_evicts_first_minimisers {cfg : Cfg} (hp : Scored cfg) {tl : Tlru S} {P : S → Prop}
    (htl : cfg.policy = .tlru → StrictWeakOn P tl.lt ∧ ∀ h el r, P (tl.score cfg h el r))
    (r : Nat) {s : State K V} (k : K) (v : V) (hi : Inv s) :
    ∃ m1 q1, EvictChain (VictimSpec cfg tl s.now) (preEvict cfg s k v).1 (preEvict cfg s k v).2 m1 q1 ∧
      (insert cfg tl r s k v).store = finishStore cfg s k v m1 ∧
      (insert cfg tl r s k v).queue = finishQueue cfg k q1 := by
  obtain ⟨m1, q1, c, h1, h2⟩ := insert_victims hp tl r k v hi
  exact ⟨m1, q1, c.mono (fun _ _ _ hx => victim_spec hp htl hx.2), h1, h2⟩

/-- **Every eviction of a memory-aware store is a first minimiser** (memory loop, then entry-limit
    step), all flavours, all three policies; the only other outcome is the oversize early return,
    which evicts nothing. -/
theorem insertMem_evicts_first_minimisers {cfg : Cfg} (hp : Scored cfg) {tl : Tlru S} {P : S → Prop}
    (htl : cfg.policy = .tlru → StrictWeakOn P tl.lt ∧ ∀ h el r, P (tl.score cfg h el r))
    (size : V → Nat) (rs : List Nat) {s : State K V} (k : K) (v : V) (hi : Inv s) :
    (∃ maxM, cfg.maxMem = some maxM ∧ size v > maxM) ∨
    ∃ m2 q2, EvictChain (VictimSpec cfg tl s.now) (preEvict cfg s k v).1 (preEvict cfg s k v).2 m2 q2 ∧
      (insertMem cfg tl size rs s k v).store = finishStore cfg s k v m2 ∧
      (insertMem cfg tl size rs s k v).queue = finishQueue cfg k q2 := by
  rcases insertMem_victims hp tl size rs k v hi with h | ⟨m2, q2, c, h1, h2⟩
  · left; exact h
  · right; exact ⟨m2, q2, c.mono (fun _ _ _ hx => victim_spec hp htl hx.2), h1, h2⟩

/-- Observable form for any chain of evictions: every key that disappeared was removed as a
    `Φ`-victim from some intermediate state of the chain. -/
theorem removed_key_was_victim {Φ : Store K V → List K → K → Prop}
    {m : Store K V} {q : List K} {m' : Store K V} {q' : List K} (h : EvictChain Φ m q m' q')
    {x : K} (hx : x ∈ keys m) (hx' : x ∉ keys m') : ∃ mi qi, EvictChain Φ m q mi qi ∧ Φ mi qi x :=
  h.removed hx hx'

/-! ## (b) LFU: fewest successful lookups -/

/-- LFU, any consistent store/queue: the victim has the fewest hits among ALL stored entries. -/
theorem lfu_victim_min_hits {cfg : Cfg} (hp : cfg.policy = .lfu) {tl : Tlru S} {now : Nat}
    {m : Store K V} {q : List K} (hi : InvMQ m q) {x : K} (h : victim cfg tl now m q = some x) :
    MinHits m x := by
  obtain ⟨i, e, hq, hl, hmin, _⟩ := victim_lfu_first_min hp h
  refine ⟨e, hl, ?_⟩
  intro k' e' hl'
  obtain ⟨j, hj⟩ := stored_has_index hi hl'
  exact Nat.le_of_not_lt (of_decide_eq_false (hmin j k' e' hj hl'))

/-- LFU tie-break: among the entries with the fewest hits the one nearest the queue front goes
    (every stored queue key in front of the victim has strictly more hits). -/
theorem lfu_victim_first_among_ties {cfg : Cfg} (hp : cfg.policy = .lfu) {tl : Tlru S} {now : Nat}
    {m : Store K V} {q : List K} {x : K} (h : victim cfg tl now m q = some x) :
    ∃ (i : Nat) (e : Entry V), q[i]? = some x ∧ lookup x m = some e ∧
      ∀ (j : Nat) k' e', j < i → q[j]? = some k' → lookup k' m = some e' → e.hits < e'.hits := by
  obtain ⟨i, e, hq, hl, _, hfirst⟩ := victim_lfu_first_min hp h
  refine ⟨i, e, hq, hl, ?_⟩
  intro j k' e' hj hq' hl'
  exact of_decide_eq_true (hfirst j k' e' hj hq' hl')

/-- **LFU, plain store, all flavours**: the final state is reached from the pre-eviction state by
    removing (at most one) key that had the fewest hits among the entries present at that moment —
    for the sync engines that includes the newcomer. -/
theorem lfu_insert_evicts_min_hits {cfg : Cfg} (hp : cfg.policy = .lfu) (tl : Tlru S) (r : Nat)
    {s : State K V} (k : K) (v : V) (hi : Inv s) :
    ∃ m1 q1, EvictChain (fun m _ x => MinHits m x) (preEvict cfg s k v).1 (preEvict cfg s k v).2 m1 q1 ∧
      (insert cfg tl r s k v).store = finishStore cfg s k v m1 ∧
      (insert cfg tl r s k v).queue = finishQueue cfg k q1 := by
  obtain ⟨m1, q1, c, h1, h2⟩ := insert_victims (Or.inl hp) tl r k v hi
  exact ⟨m1, q1, c.mono (fun _ _ _ hx => lfu_victim_min_hits hp hx.1 hx.2), h1, h2⟩

/-- **LFU, memory-aware store, all flavours**: every key removed by the memory loop and by the final
    entry-limit step had the fewest hits among the entries present when it was removed. -/
theorem lfu_insertMem_evicts_min_hits {cfg : Cfg} (hp : cfg.policy = .lfu) (tl : Tlru S) (size : V → Nat)
    (rs : List Nat) {s : State K V} (k : K) (v : V) (hi : Inv s) :
    (∃ maxM, cfg.maxMem = some maxM ∧ size v > maxM) ∨
    ∃ m2 q2, EvictChain (fun m _ x => MinHits m x) (preEvict cfg s k v).1 (preEvict cfg s k v).2 m2 q2 ∧
      (insertMem cfg tl size rs s k v).store = finishStore cfg s k v m2 ∧
      (insertMem cfg tl size rs s k v).queue = finishQueue cfg k q2 := by
  rcases insertMem_victims (Or.inl hp) tl size rs k v hi with h | ⟨m2, q2, c, h1, h2⟩
  · left; exact h
  · right; exact ⟨m2, q2, c.mono (fun _ _ _ hx => lfu_victim_min_hits hp hx.1 hx.2), h1, h2⟩

/-! ## (c) ARC and TLRU: hits × recency-rank (× remaining lifetime) -/

/-- **Async ARC: the documented score.**  With queue position `i` counted from the least recently
    used end, the victim minimises `hits × (i + 1)` — a more recently used entry has the higher rank. -/
theorem arc_async_victim_min_documented_score {cfg : Cfg} (hp : cfg.policy = .arc) (hf : cfg.flavour = .async)
    {tl : Tlru S} {now : Nat} {m : Store K V} {q : List K} {x : K} (h : victim cfg tl now m q = some x) :
    ∃ (i : Nat) (e : Entry V), q[i]? = some x ∧ lookup x m = some e ∧
      ∀ (j : Nat) k' e', q[j]? = some k' → lookup k' m = some e' → e.hits * (i + 1) ≤ e'.hits * (j + 1) := by
  obtain ⟨i, e, hq, hl, hmin, _⟩ := victim_arc_first_min hp h
  refine ⟨i, e, hq, hl, ?_⟩
  intro j k' e' hq' hl'
  have : e.hits * rank cfg i q.length ≤ e'.hits * rank cfg j q.length :=
    Nat.le_of_not_lt (of_decide_eq_false (hmin j k' e' hq' hl'))
  rwa [rank_async hf, rank_async hf] at this

/-- **Async ARC: among equally popular entries the least recently used one goes first.**  No stored
    queue key with the same hit count as the victim sits in front of the victim. -/
theorem arc_async_equal_hits_lru_first {cfg : Cfg} (hp : cfg.policy = .arc) (hf : cfg.flavour = .async)
    {tl : Tlru S} {now : Nat} {m : Store K V} {q : List K} {x : K} (h : victim cfg tl now m q = some x) :
    ∃ (i : Nat) (e : Entry V), q[i]? = some x ∧ lookup x m = some e ∧
      ∀ (j : Nat) y e', q[j]? = some y → lookup y m = some e' → e'.hits = e.hits → i ≤ j := by
  obtain ⟨i, e, hq, hl, _, hfirst⟩ := victim_arc_first_min hp h
  refine ⟨i, e, hq, hl, ?_⟩
  intro j y e' hq' hl' heq
  refine Nat.le_of_not_lt fun hji => ?_
  have hlt : e.hits * rank cfg i q.length < e'.hits * rank cfg j q.length :=
    of_decide_eq_true (hfirst j y e' hji hq' hl')
  rw [heq, rank_async hf, rank_async hf] at hlt
  exact Nat.lt_irrefl _ (Nat.lt_of_lt_of_le hlt (Nat.mul_le_mul_left _ (Nat.succ_le_succ (Nat.le_of_lt hji))))

/-- **Async TLRU: among entries with equal hits and equal age the least recently used one goes first**,
    for every scorer that does not decrease when only the rank grows (true of
    `hits^w × rank × life` for every weight). -/
theorem tlru_async_equal_lru_first {cfg : Cfg} (hp : cfg.policy = .tlru) (hf : cfg.flavour = .async)
    {tl : Tlru S} {P : S → Prop} (hsw : StrictWeakOn P tl.lt) (hP : ∀ h el r, P (tl.score cfg h el r))
    (hmono : ∀ h el r r', r ≤ r' → tl.lt (tl.score cfg h el r') (tl.score cfg h el r) = false)
    {now : Nat} {m : Store K V} {q : List K} {x : K} (h : victim cfg tl now m q = some x) :
    ∃ (i : Nat) (e : Entry V), q[i]? = some x ∧ lookup x m = some e ∧
      ∀ (j : Nat) y e', q[j]? = some y → lookup y m = some e' → e'.hits = e.hits →
        elapsedMs cfg now e'.birth = elapsedMs cfg now e.birth → i ≤ j := by
  obtain ⟨i, e, hq, hl, _, hfirst⟩ := victim_tlru_first_min hp hsw hP h
  refine ⟨i, e, hq, hl, ?_⟩
  intro j y e' hq' hl' heq hel
  refine Nat.le_of_not_lt fun hji => ?_
  have hlt := hfirst j y e' hji hq' hl'
  dsimp only [tlruScore] at hlt
  rw [heq, hel] at hlt
  have := hmono e.hits (elapsedMs cfg now e.birth) (rank cfg j q.length) (rank cfg i q.length)
    (by rw [rank_async hf, rank_async hf]; exact Nat.succ_le_succ (Nat.le_of_lt hji))
  rw [hlt] at this; cases this

/-! ## (d) Sync engines: the newcomer competes with score zero -/

/-- ARC with a never-hit entry among the stored queue keys (in the sync engines: the newcomer), for
    EITHER rank orientation: the victim is the first queue key whose entry has `hits = 0`.  In
    particular its documented score `hits × rank` is `0`, below or equal to every other entry's. -/
theorem arc_victim_first_zero_hits {cfg : Cfg} (hp : cfg.policy = .arc) {tl : Tlru S} {now : Nat}
    {m : Store K V} {q : List K}
    (hex : ∃ (j : Nat) (k0 : K) (e0 : Entry V), q[j]? = some k0 ∧ lookup k0 m = some e0 ∧ e0.hits = 0)
    {x : K} (h : victim cfg tl now m q = some x) : FirstWith (fun e => e.hits = 0) m q x := by
  refine FirstMinAt.first_zero (P := fun _ => True) (z := 0) strictWeak_natLt (fun _ _ _ => trivial) trivial
    ?_ ?_ ?_ hex (victim_arc_first_min hp h)
  · intro e i _ hz
    show decide (0 < e.hits * rank cfg i q.length) = false
    rw [hz, Nat.zero_mul]; exact decide_eq_false (Nat.lt_irrefl 0)
  · intro e i hi hz
    simp only [arcScore, decide_eq_true_eq]
    exact Nat.mul_pos (Nat.pos_of_ne_zero hz) (rank_pos cfg hi)
  · intro s _; exact decide_eq_false (Nat.not_lt_zero s)

/-- **The `len − idx` orientation of `utils.rs` is unobservable when a never-hit entry is present**:
    ARC then picks the same victim with either rank orientation (any two configurations with policy
    ARC, e.g. a sync flavour and the async flavour, whose rank is the documented `idx + 1`). -/
theorem arc_orientation_unobservable {cfg cfg' : Cfg} (hp : cfg.policy = .arc) (hp' : cfg'.policy = .arc)
    {S' : Type} (tl : Tlru S) (tl' : Tlru S') (now now' : Nat) {m : Store K V} {q : List K}
    (hex : ∃ (j : Nat) (k0 : K) (e0 : Entry V), q[j]? = some k0 ∧ lookup k0 m = some e0 ∧ e0.hits = 0) :
    victim cfg tl now m q = victim cfg' tl' now' m q := by
  rw [victim_arc_eq tl now m q hp, victim_arc_eq tl' now' m q hp']
  refine scan_eq_of_first_with
    (fun k hk => arc_victim_first_zero_hits hp hex ((victim_arc_eq tl now m q hp).trans hk))
    (fun k hk => arc_victim_first_zero_hits hp' hex ((victim_arc_eq tl' now' m q hp').trans hk)) ?_
  obtain ⟨j, k0, e0, h1, h2, _⟩ := hex
  exact ⟨j, k0, e0, h1, h2⟩

/-- TLRU with a never-hit entry among the stored queue keys, assuming only that zero hits score `z`
    and that nothing scores below `z`: the victim's score is equivalent to `z` (neither above nor
    below it), hence not above any other candidate's — whatever the weight formula and the rank
    orientation are. -/
theorem tlru_victim_score_zero {cfg : Cfg} (hp : cfg.policy = .tlru) {tl : Tlru S} {P : S → Prop}
    (hsw : StrictWeakOn P tl.lt) (hP : ∀ h el r, P (tl.score cfg h el r))
    {z : S} (hz0 : ∀ el r, tl.score cfg 0 el r = z) (hbot : ∀ s, P s → tl.lt s z = false)
    {now : Nat} {m : Store K V} {q : List K}
    (hex : ∃ (j : Nat) (k0 : K) (e0 : Entry V), q[j]? = some k0 ∧ lookup k0 m = some e0 ∧ e0.hits = 0)
    {x : K} (h : victim cfg tl now m q = some x) :
    ∃ (i : Nat) (e : Entry V), q[i]? = some x ∧ lookup x m = some e ∧
      tl.lt z (tl.score cfg e.hits (elapsedMs cfg now e.birth) (rank cfg i q.length)) = false ∧
      tl.lt (tl.score cfg e.hits (elapsedMs cfg now e.birth) (rank cfg i q.length)) z = false ∧
      ∀ (j : Nat) k' e', q[j]? = some k' → lookup k' m = some e' →
        tl.lt (tl.score cfg e'.hits (elapsedMs cfg now e'.birth) (rank cfg j q.length))
              (tl.score cfg e.hits (elapsedMs cfg now e.birth) (rank cfg i q.length)) = false := by
  obtain ⟨i, e, hq, hl, hmin, _⟩ := victim_tlru_first_min hp hsw hP h
  obtain ⟨j0, k0, e0, hq0, hl0, hz⟩ := hex
  refine ⟨i, e, hq, hl, ?_, hbot _ (hP _ _ _), hmin⟩
  have := hmin j0 k0 e0 hq0 hl0
  dsimp only [tlruScore] at this
  rwa [hz, hz0] at this

/-- A `ZeroLike` scorer (zero factor ⇔ bottom score) scanned with ANY positive rank function `rk`, a never-hit
    entry among the stored queue keys: the scan returns the FIRST queue key with a zero factor (`hits = 0`, or no
    lifetime left) — a description that mentions neither the weight nor the rank. -/
theorem zeroLike_scan_first_zero {cfg : Cfg} {tl : Tlru S} {P : S → Prop} {z : S} {Z : Nat → Nat → Prop}
    (hz : ZeroLike cfg tl P z Z) (rk : Nat → Nat → Nat) (hrk : ∀ i len, i < len → 0 < rk i len)
    {now : Nat} {m : Store K V} {q : List K}
    (hex : ∃ (j : Nat) (k0 : K) (e0 : Entry V), q[j]? = some k0 ∧ lookup k0 m = some e0 ∧ e0.hits = 0) {x : K}
    (h : firstMin tl.lt
      (cands (fun e i len => tl.score cfg e.hits (elapsedMs cfg now e.birth) (rk i len)) m q) = some x) :
    FirstWith (fun e => Z e.hits (elapsedMs cfg now e.birth)) m q x := by
  obtain ⟨j0, k0, e0, hq0, hl0, h0⟩ := hex
  refine FirstMinAt.first_zero (score := fun e i len => tl.score cfg e.hits (elapsedMs cfg now e.birth) (rk i len))
    hz.sw (fun _ _ _ => hz.carrier _ _ _) hz.zero_mem
    (fun e i _ hZ => hz.zero _ _ _ hZ) (fun e i hi hZ => hz.pos _ _ _ (hrk i _ hi) hZ) hz.bot
    ⟨j0, k0, e0, hq0, hl0, by rw [h0]; exact hz.zero_hits _⟩ ?_
  refine scan_is_first_minimiser hz.sw ?_ h
  exact fun _ _ _ => hz.carrier _ _ _

/-- **Linear-vs-power weight and rank orientation are unobservable when a never-hit entry is present.**
    Any other `ZeroLike` scorer `tl'` with the same zero factors, scanned with ANY positive rank
    function `rk'`, selects the same victim as the model's TLRU scan. -/
theorem tlru_weight_and_orientation_unobservable {cfg : Cfg} (hp : cfg.policy = .tlru)
    {tl : Tlru S} {P : S → Prop} {z : S} {S' : Type} {tl' : Tlru S'} {P' : S' → Prop} {z' : S'}
    {Z : Nat → Nat → Prop} (hz : ZeroLike cfg tl P z Z) (hz' : ZeroLike cfg tl' P' z' Z)
    (rk' : Nat → Nat → Nat) (hrk' : ∀ i len, i < len → 0 < rk' i len)
    {now : Nat} {m : Store K V} {q : List K}
    (hex : ∃ (j : Nat) (k0 : K) (e0 : Entry V), q[j]? = some k0 ∧ lookup k0 m = some e0 ∧ e0.hits = 0) :
    victim cfg tl now m q =
      firstMin tl'.lt
        (cands (fun e i len => tl'.score cfg e.hits (elapsedMs cfg now e.birth) (rk' i len)) m q) := by
  rw [victim_tlru_eq tl now m q hp]
  refine scan_eq_of_first_with
    (fun k hk => zeroLike_scan_first_zero hz (rank cfg) (fun _ _ hi => rank_pos cfg hi) hex hk)
    (fun k hk => zeroLike_scan_first_zero hz' rk' hrk' hex hk) ?_
  obtain ⟨j0, k0, e0, hq0, hl0, _⟩ := hex
  exact ⟨j0, k0, e0, hq0, hl0⟩

/-- the sync engines' ARC victim, chosen with the never-hit newcomer stored, is the first never-hit key -/
theorem IsVictimWith.arc_first_zero {cfg : Cfg} (hp : cfg.policy = .arc) {tl : Tlru S} {now : Nat} {k : K}
    {m : Store K V} {q : List K} {x : K} (h : IsVictimWith cfg tl now k m q x) :
    FirstWith (fun e => e.hits = 0) m q x := by
  obtain ⟨⟨hinv, hv⟩, e0, hl0, h0⟩ := h
  obtain ⟨j, hj⟩ := stored_has_index hinv hl0
  exact arc_victim_first_zero_hits hp ⟨j, k, e0, hj, hl0, h0⟩ hv

/-- the sync engines' TLRU victim, chosen with the never-hit newcomer stored, is the first key with a
    zero factor -/
theorem IsVictimWith.tlru_first_zero {cfg : Cfg} (hp : cfg.policy = .tlru) {tl : Tlru S} {P : S → Prop} {z : S}
    {Z : Nat → Nat → Prop} (hz : ZeroLike cfg tl P z Z) {now : Nat} {k : K}
    {m : Store K V} {q : List K} {x : K} (h : IsVictimWith cfg tl now k m q x) :
    FirstWith (fun e => Z e.hits (elapsedMs cfg now e.birth)) m q x := by
  obtain ⟨⟨hinv, hv⟩, e0, hl0, h0⟩ := h
  obtain ⟨j, hj⟩ := stored_has_index hinv hl0
  rw [victim_tlru_eq tl now m q hp] at hv
  exact zeroLike_scan_first_zero hz (rank cfg) (fun _ _ hi => rank_pos cfg hi) ⟨j, k, e0, hj, hl0, h0⟩ hv

/-- **Sync ARC, plain store**: every key the store removes has `hits = 0` and is the first such key in
    the queue (the newcomer itself if every resident was hit). -/
theorem sync_arc_insert_evicts_zero_hits {cfg : Cfg} (hp : cfg.policy = .arc) (hf : cfg.flavour ≠ .async)
    (tl : Tlru S) (r : Nat) {s : State K V} (k : K) (v : V) (hi : Inv s) :
    ∃ m1 q1, EvictChain (FirstWith (fun e => e.hits = 0)) (preEvict cfg s k v).1 (preEvict cfg s k v).2 m1 q1 ∧
      (insert cfg tl r s k v).store = m1 ∧ (insert cfg tl r s k v).queue = q1 := by
  obtain ⟨m1, q1, c, h1, h2⟩ := insert_chain_sync (Or.inr (Or.inl hp)) hf tl r k v hi
  exact ⟨m1, q1, c.mono (fun _ _ _ => IsVictimWith.arc_first_zero hp), h1, h2⟩

/-- **Sync ARC, memory-aware store**, started in a state within the memory bound and the entry limit
    (the C05 / C04 invariants of a cache that stores through this operation): every key removed by the
    memory loop and by the entry-limit step has `hits = 0` and is the first such key in the queue. -/
theorem sync_arc_insertMem_evicts_zero_hits {cfg : Cfg} (hp : cfg.policy = .arc) (hf : cfg.flavour ≠ .async)
    (tl : Tlru S) (size : V → Nat) (rs : List Nat) {s : State K V} (k : K) (v : V) (hi : Inv s)
    (hmem : ∀ maxM, cfg.maxMem = some maxM → totalMem size s.store ≤ maxM)
    (hlim : ∀ n, cfg.limit = some n → s.store.length ≤ n) :
    (∃ maxM, cfg.maxMem = some maxM ∧ size v > maxM) ∨
    ∃ m2 q2, EvictChain (FirstWith (fun e => e.hits = 0)) (preEvict cfg s k v).1 (preEvict cfg s k v).2 m2 q2 ∧
      (insertMem cfg tl size rs s k v).store = m2 ∧ (insertMem cfg tl size rs s k v).queue = q2 := by
  rcases insertMem_chain_sync (Or.inr (Or.inl hp)) hf tl size rs k v hi hmem hlim with h | ⟨m2, q2, c, h1, h2⟩
  · left; exact h
  · right; exact ⟨m2, q2, c.mono (fun _ _ _ => IsVictimWith.arc_first_zero hp), h1, h2⟩

/-- **Sync TLRU, plain store**, every `ZeroLike` scorer: every key the store removes is the first
    queue key with a zero factor (never hit, or no lifetime left), so its documented score is the
    bottom score. -/
theorem sync_tlru_insert_evicts_zero {cfg : Cfg} (hp : cfg.policy = .tlru) (hf : cfg.flavour ≠ .async)
    {tl : Tlru S} {P : S → Prop} {z : S} {Z : Nat → Nat → Prop} (hz : ZeroLike cfg tl P z Z)
    (r : Nat) {s : State K V} (k : K) (v : V) (hi : Inv s) :
    ∃ m1 q1, EvictChain (FirstWith (fun e => Z e.hits (elapsedMs cfg s.now e.birth)))
        (preEvict cfg s k v).1 (preEvict cfg s k v).2 m1 q1 ∧
      (insert cfg tl r s k v).store = m1 ∧ (insert cfg tl r s k v).queue = q1 := by
  obtain ⟨m1, q1, c, h1, h2⟩ := insert_chain_sync (Or.inr (Or.inr hp)) hf tl r k v hi
  exact ⟨m1, q1, c.mono (fun _ _ _ => IsVictimWith.tlru_first_zero hp hz), h1, h2⟩

/-- **Sync TLRU, memory-aware store**, every `ZeroLike` scorer, started within the memory bound and the
    entry limit: every key removed by the memory loop and by the entry-limit step is the first queue
    key with a zero factor. -/
theorem sync_tlru_insertMem_evicts_zero {cfg : Cfg} (hp : cfg.policy = .tlru) (hf : cfg.flavour ≠ .async)
    {tl : Tlru S} {P : S → Prop} {z : S} {Z : Nat → Nat → Prop} (hz : ZeroLike cfg tl P z Z)
    (size : V → Nat) (rs : List Nat) {s : State K V} (k : K) (v : V) (hi : Inv s)
    (hmem : ∀ maxM, cfg.maxMem = some maxM → totalMem size s.store ≤ maxM)
    (hlim : ∀ n, cfg.limit = some n → s.store.length ≤ n) :
    (∃ maxM, cfg.maxMem = some maxM ∧ size v > maxM) ∨
    ∃ m2 q2, EvictChain (FirstWith (fun e => Z e.hits (elapsedMs cfg s.now e.birth)))
        (preEvict cfg s k v).1 (preEvict cfg s k v).2 m2 q2 ∧
      (insertMem cfg tl size rs s k v).store = m2 ∧ (insertMem cfg tl size rs s k v).queue = q2 := by
  rcases insertMem_chain_sync (Or.inr (Or.inr hp)) hf tl size rs k v hi hmem hlim with h | ⟨m2, q2, c, h1, h2⟩
  · left; exact h
  · right; exact ⟨m2, q2, c.mono (fun _ _ _ => IsVictimWith.tlru_first_zero hp hz), h1, h2⟩

/-- **Sync ARC, memory-aware store, every reachable state** of a cache that stores only through
    `insertMem` (as the generated code does when `max_memory` is set) and whose entry limit, if any, is
    at least 1: the two invariants are then theorems (`C05.memory_never_exceeded`,
    `C04.limit_never_exceeded`), so every key removed by the memory loop and by the entry-limit step
    has `hits = 0` and is the first such key in the queue. -/
theorem sync_arc_insertMem_evicts_zero_hits_reachable {cfg : Cfg} (hp : cfg.policy = .arc)
    (hf : cfg.flavour ≠ .async) (hn : ∀ n, cfg.limit = some n → 1 ≤ n) (tl : Tlru S) (size : V → Nat)
    (ops : List (Op K V × List Nat)) (hops : AllViaMem ops) (rs : List Nat) (k : K) (v : V) :
    (∃ maxM, cfg.maxMem = some maxM ∧ size v > maxM) ∨
    ∃ m2 q2, EvictChain (FirstWith (fun e => e.hits = 0))
        (preEvict cfg (run cfg tl size (State.init : State K V) ops).1 k v).1
        (preEvict cfg (run cfg tl size (State.init : State K V) ops).1 k v).2 m2 q2 ∧
      (insertMem cfg tl size rs (run cfg tl size (State.init : State K V) ops).1 k v).store = m2 ∧
      (insertMem cfg tl size rs (run cfg tl size (State.init : State K V) ops).1 k v).queue = q2 :=
  sync_arc_insertMem_evicts_zero_hits hp hf tl size rs k v (run_inv cfg tl size _ ops inv_init)
    (fun M hM => C05.memory_never_exceeded cfg tl size M hM ops hops)
    (fun n hl => C04.limit_never_exceeded cfg tl size n hl (hn n hl) ops)

/-- **Sync TLRU, memory-aware store, every reachable state** of a cache that stores only through
    `insertMem`, entry limit (if any) at least 1, every `ZeroLike` scorer: every key removed by the
    memory loop and by the entry-limit step is the first queue key with a zero factor. -/
theorem sync_tlru_insertMem_evicts_zero_reachable {cfg : Cfg} (hp : cfg.policy = .tlru)
    (hf : cfg.flavour ≠ .async) (hn : ∀ n, cfg.limit = some n → 1 ≤ n)
    {tl : Tlru S} {P : S → Prop} {z : S} {Z : Nat → Nat → Prop} (hz : ZeroLike cfg tl P z Z) (size : V → Nat)
    (ops : List (Op K V × List Nat)) (hops : AllViaMem ops) (rs : List Nat) (k : K) (v : V) :
    (∃ maxM, cfg.maxMem = some maxM ∧ size v > maxM) ∨
    ∃ m2 q2, EvictChain (FirstWith (fun e => Z e.hits
          (elapsedMs cfg (run cfg tl size (State.init : State K V) ops).1.now e.birth)))
        (preEvict cfg (run cfg tl size (State.init : State K V) ops).1 k v).1
        (preEvict cfg (run cfg tl size (State.init : State K V) ops).1 k v).2 m2 q2 ∧
      (insertMem cfg tl size rs (run cfg tl size (State.init : State K V) ops).1 k v).store = m2 ∧
      (insertMem cfg tl size rs (run cfg tl size (State.init : State K V) ops).1 k v).queue = q2 :=
  sync_tlru_insertMem_evicts_zero hp hf hz size rs k v (run_inv cfg tl size _ ops inv_init)
    (fun M hM => C05.memory_never_exceeded cfg tl size M hM ops hops)
    (fun n hl => C04.limit_never_exceeded cfg tl size n hl (hn n hl) ops)

/-- Sync LFU: the key removed by a plain store has `hits = 0` (the newcomer never lost a comparison). -/
theorem sync_lfu_insert_removed_key_zero_hits {cfg : Cfg} (hp : cfg.policy = .lfu) (hf : cfg.flavour ≠ .async)
    (tl : Tlru S) (r : Nat) {s : State K V} (k : K) (v : V) (hi : Inv s) {x : K}
    (hx : x ∈ keys (preEvict cfg s k v).1) (hx' : x ∉ keys (insert cfg tl r s k v).store) :
    ∃ e, lookup x (preEvict cfg s k v).1 = some e ∧ e.hits = 0 := by
  obtain ⟨m1, q1, c, h1, _⟩ := insert_chain_sync (Or.inl hp) hf tl r k v hi
  rw [h1] at hx'
  -- `x` went as the LFU victim of some state in which the newcomer (never hit) was still stored
  obtain ⟨mi, qi, ci, ⟨hinv, hv⟩, e0, hl0, h0⟩ := c.removed hx hx'
  obtain ⟨e, hl, hmin⟩ := lfu_victim_min_hits hp hinv hv
  exact ⟨e, ci.lookup_sub hl, Nat.le_zero.mp (h0 ▸ hmin k e0 hl0)⟩

/-! ## (e) The hit counter counts successful lookups since the latest store -/

/-- **Hit counting from any consistent state** whose counters agree with a ghost assignment `g`: they agree with
    `ghostHits` (started from `g`) after every history. -/
theorem hits_eq_successful_lookups_from (cfg : Cfg) (tl : Tlru S) (size : V → Nat) (ops : List (Op K V × List Nat))
    (s : State K V) (g : K → Nat) (hi : Inv s) (hg : HitsOK cfg s g) :
    HitsOK cfg (run cfg tl size s ops).1 (fun k => ghostHits k (g k) ops (run cfg tl size s ops).2) := by
  induction ops generalizing s g with
  | nil => exact hg
  | cons a ops ih =>
    obtain ⟨op, rs⟩ := a
    simp only [run, ghostHits]
    exact ih _ _ (step_inv cfg tl size rs s op hi) (step_hits cfg tl size rs s op g hi hg)

/-- **Hit counting, every reachable state, all flavours.**  For the policies that count hits
    (LFU, ARC, TLRU) the `hits` field of a stored entry equals `ghostHits`: the number of lookups of
    that key that returned a value since the key was last stored, computed from the history and its
    outputs alone.  Under the other policies the field stays `0`. -/
theorem hits_eq_successful_lookups (cfg : Cfg) (tl : Tlru S) (size : V → Nat) (ops : List (Op K V × List Nat))
    (k : K) (e : Entry V)
    (h : lookup k (run cfg tl size (State.init : State K V) ops).1.store = some e) :
    e.hits = if cfg.policy.bumps then
        ghostHits k 0 ops (run cfg tl size (State.init : State K V) ops).2 else 0 :=
  hits_eq_successful_lookups_from cfg tl size ops State.init (fun _ => 0) inv_init (fun _ _ h => nomatch h) k e h

/-- **LFU evicts the entry with the fewest successful lookups** (b) + (e) combined: in every
    reachable state the key the LFU scan selects has, among all cached keys, the smallest number of
    lookups that returned a value since the key's latest store — counted on the history alone. -/
theorem lfu_victim_fewest_successful_lookups {cfg : Cfg} (hp : cfg.policy = .lfu) (tl : Tlru S) (size : V → Nat)
    (ops : List (Op K V × List Nat)) {now : Nat} {x : K}
    (h : victim cfg tl now (run cfg tl size (State.init : State K V) ops).1.store
      (run cfg tl size (State.init : State K V) ops).1.queue = some x) :
    x ∈ keys (run cfg tl size (State.init : State K V) ops).1.store ∧
    ∀ k' ∈ keys (run cfg tl size (State.init : State K V) ops).1.store,
      ghostHits x 0 ops (run cfg tl size (State.init : State K V) ops).2 ≤
      ghostHits k' 0 ops (run cfg tl size (State.init : State K V) ops).2 := by
  have hinv : Inv (run cfg tl size (State.init : State K V) ops).1 := run_inv cfg tl size _ ops inv_init
  obtain ⟨e, hl, hmin⟩ := lfu_victim_min_hits hp hinv h
  refine ⟨mem_keys_of_lookup hl, ?_⟩
  intro k' hk'
  obtain ⟨e', hl'⟩ := lookup_isSome_of_mem_keys hk'
  have h1 := hits_eq_successful_lookups cfg tl size ops x e hl
  have h2 := hits_eq_successful_lookups cfg tl size ops k' e' hl'
  have hb : cfg.policy.bumps = true := by rw [hp]; rfl
  simp only [hb, if_true] at h1 h2
  rw [← h1, ← h2]; exact hmin k' e' hl'

/-! ## (f) The exact-arithmetic TLRU scorer -/

/-- `exactTlru w` compares with `<` on `Nat`, a strict weak order. -/
theorem exactTlru_strictWeak (w : Nat) : StrictWeak (exactTlru w).lt := strictWeak_natLt

/-- A scorer `f hits × rank × remaining lifetime` on `Nat`, where `f` vanishes exactly at `0`, is
    `ZeroLike`: bottom score `0`, zero factors `hits = 0 ∨ remaining lifetime = 0`. -/
theorem natProduct_zeroLike (cfg : Cfg) (f : Nat → Nat) (hf : ∀ h, f h = 0 ↔ h = 0) :
    ZeroLike cfg ⟨natLt, fun cfg h el r => f h * r * lifeNum cfg el⟩ (fun _ => True) 0
      (fun h el => h = 0 ∨ lifeNum cfg el = 0) := by
  refine ⟨strictWeak_natLt, fun _ _ _ => trivial, trivial, fun s _ => decide_eq_false (Nat.not_lt_zero s),
    ?_, ?_, fun _ => Or.inl rfl⟩
  · intro h el r hZ
    refine decide_eq_false (Nat.not_lt.mpr (Nat.le_of_eq (?_ : f h * r * lifeNum cfg el = 0)))
    rcases hZ with hZ | hZ
    · rw [(hf h).mpr hZ, Nat.zero_mul, Nat.zero_mul]
    · rw [hZ, Nat.mul_zero]
  · intro h el r hr hZ
    exact decide_eq_true (Nat.mul_pos (Nat.mul_pos
      (Nat.pos_of_ne_zero fun hh => hZ (Or.inl ((hf h).mp hh))) hr)
      (Nat.pos_of_ne_zero fun hh => hZ (Or.inr hh)))

/-- `exactTlru w` with a positive exponent is `ZeroLike`: bottom score `0`, zero factors
    `hits = 0 ∨ remaining lifetime = 0`.  (So the hypotheses of the (d) theorems are satisfiable.) -/
theorem exactTlru_zeroLike (cfg : Cfg) {w : Nat} (hw : 0 < w) :
    ZeroLike cfg (exactTlru w) (fun _ => True) 0 (fun h el => h = 0 ∨ lifeNum cfg el = 0) :=
  natProduct_zeroLike cfg (· ^ w)
    (fun h => ⟨fun hh => (Nat.pow_eq_zero.mp hh).1, fun hh => by rw [hh, Nat.zero_pow hw]⟩)

/-- `linearTlru w` (the sync engines' linear weight) with a positive weight is `ZeroLike` with the same
    zero factors as the documented power-weight score. -/
theorem linearTlru_zeroLike (cfg : Cfg) {w : Nat} (hw : 0 < w) :
    ZeroLike cfg (linearTlru w) (fun _ => True) 0 (fun h el => h = 0 ∨ lifeNum cfg el = 0) :=
  natProduct_zeroLike cfg (· * w)
    (fun h => ⟨fun hh => (Nat.mul_eq_zero.mp hh).resolve_right (Nat.ne_of_gt hw), fun hh => by rw [hh, Nat.zero_mul]⟩)

/-- **Concrete unobservability**: whenever a never-hit entry is among the stored queue keys (always the
    case when a sync engine evicts), the sync formula with linear weight `a` and rank `len − idx`
    selects exactly the key that the documented formula `hits^b × (idx + 1) × remaining lifetime`
    selects, for all positive `a`, `b`. -/
theorem sync_linear_weight_selects_documented_victim {cfg : Cfg} (hp : cfg.policy = .tlru) {a b : Nat}
    (ha : 0 < a) (hb : 0 < b) {now : Nat} {m : Store K V} {q : List K}
    (hex : ∃ (j : Nat) (k0 : K) (e0 : Entry V), q[j]? = some k0 ∧ lookup k0 m = some e0 ∧ e0.hits = 0) :
    victim cfg (linearTlru a) now m q =
      firstMin natLt
        (cands (fun e i _ => e.hits ^ b * (i + 1) * lifeNum cfg (elapsedMs cfg now e.birth)) m q) :=
  tlru_weight_and_orientation_unobservable hp (linearTlru_zeroLike cfg ha) (exactTlru_zeroLike cfg hb)
    (fun i _ => i + 1) (fun _ _ _ => Nat.succ_pos _) hex

/-- `exactTlru w` does not decrease when only the rank grows (hypothesis of `tlru_async_equal_lru_first`). -/
theorem exactTlru_mono_rank (cfg : Cfg) (w : Nat) (h el r r' : Nat) (hr : r ≤ r') :
    (exactTlru w).lt ((exactTlru w).score cfg h el r') ((exactTlru w).score cfg h el r) = false := by
  simp only [exactTlru, decide_eq_false_iff_not, Nat.not_lt]
  exact Nat.mul_le_mul_right _ (Nat.mul_le_mul_left _ hr)

/-- **Without a ttl and with no weight (exponent 1) TLRU coincides with ARC**: the exact TLRU scorer
    selects the same victim as ARC on every store/queue, in every flavour
    (`test_tlru_no_ttl_behaves_like_arc`). -/
theorem tlru_no_ttl_behaves_like_arc (cfg : Cfg) (httl : cfg.ttl = none) (tl : Tlru S) (now : Nat)
    (m : Store K V) (q : List K) :
    victim { cfg with policy := .tlru } (exactTlru 1) now m q = victim { cfg with policy := .arc } tl now m q :=
  victim_tlru_arc cfg httl tl now m q

/-- … and therefore the two caches are indistinguishable: for every history, from every state, the
    TLRU cache (no ttl, exact scorer, exponent 1) and the ARC cache with the same flavour and limits
    go through identical states and produce identical outputs. -/
theorem tlru_no_ttl_runs_like_arc (cfg : Cfg) (httl : cfg.ttl = none) (tl : Tlru S) (size : V → Nat)
    (ops : List (Op K V × List Nat)) (s : State K V) :
    run (asTlru cfg) (exactTlru 1) size s ops = run (asArc cfg) tl size s ops := by
  induction ops generalizing s with
  | nil => rfl
  | cons a ops ih =>
    obtain ⟨op, rs⟩ := a
    simp only [run, step_tlru_arc cfg httl tl, ih]

/-! ## Non-vacuity -/

def exTl : Tlru Nat := exactTlru 1
def cAsyncArc : Cfg := ⟨.async, .arc, some 2, none, none⟩
def cAsyncLfu : Cfg := ⟨.async, .lfu, some 2, none, none⟩
def cSyncArc : Cfg := ⟨.global, .arc, some 2, none, none⟩
def cSyncTlru : Cfg := ⟨.threadLocal, .tlru, some 2, none, some 5⟩

/-- async ARC, limit 2: `1` and `2` are each hit once (equal hits), `1` is the least recently used;
    the overflowing store of `3` evicts `1`. -/
def opsArc : List (Op Nat Nat × List Nat) :=
  [(.insert 1 10, []), (.insert 2 20, []), (.get 1, []), (.get 2, []), (.insert 3 30, [])]
example : (run cAsyncArc exTl (fun _ => 0) (State.init : State Nat Nat) opsArc).1.queue = [2, 3] := by decide
example : (run cAsyncArc exTl (fun _ => 0) (State.init : State Nat Nat) (opsArc.take 4)).1.queue = [1, 2] := by decide
example : ((run cAsyncArc exTl (fun _ => 0) (State.init : State Nat Nat) (opsArc.take 4)).1.store.map
    (fun p => (p.1, p.2.hits))) = [(1, 1), (2, 1)] := by decide
example : victim cAsyncArc exTl 0 (run cAsyncArc exTl (fun _ => 0) (State.init : State Nat Nat) (opsArc.take 4)).1.store
    [1, 2] = some 1 := by decide

/-- async ARC, limit 2: frequency can outweigh recency — `1` (3 hits, least recently used, score 3 × 1)
    survives, `2` (1 hit, most recently used, score 1 × 2) is evicted. -/
def opsArcFreq : List (Op Nat Nat × List Nat) :=
  [(.insert 1 10, []), (.insert 2 20, []), (.get 1, []), (.get 1, []), (.get 1, []), (.get 2, []),
   (.insert 3 30, [])]
example : (run cAsyncArc exTl (fun _ => 0) (State.init : State Nat Nat) (opsArcFreq.take 6)).1.queue = [1, 2] := by decide
example : (run cAsyncArc exTl (fun _ => 0) (State.init : State Nat Nat) opsArcFreq).1.queue = [1, 3] := by decide

/-- LFU, limit 2: the hit on `1` saves it, `2` (never hit, although stored later) is evicted. -/
def opsLfu : List (Op Nat Nat × List Nat) :=
  [(.insert 1 10, []), (.insert 2 20, []), (.get 1, []), (.insert 3 30, [])]
example : keys (run cAsyncLfu exTl (fun _ => 0) (State.init : State Nat Nat) opsLfu).1.store = [1, 3] := by decide
example : keys (run { cAsyncLfu with flavour := .global } exTl (fun _ => 0) (State.init : State Nat Nat) opsLfu).1.store
    = [1, 3] := by decide

/-- sync ARC, limit 2: both residents were hit, so the newcomer `3` (hits = 0) is itself the victim. -/
example : keys (run cSyncArc exTl (fun _ => 0) (State.init : State Nat Nat) opsArc).1.store = [1, 2] := by decide
example : (run cSyncArc exTl (fun _ => 0) (State.init : State Nat Nat) opsArc).1.queue = [1, 2] := by decide
/-- the same with sync TLRU and a ttl -/
example : keys (run cSyncTlru exTl (fun _ => 0) (State.init : State Nat Nat) opsArc).1.store = [1, 2] := by decide

/-- the hypotheses of the sync memory-loop theorems hold in a concrete state, and the loop evicts a
    never-hit resident: max_memory 2, every value of size 1; `1` is hit, `2` is not; storing `3`
    evicts `2`. -/
def cSyncArcMem : Cfg := ⟨.global, .arc, none, some 2, none⟩
def opsMem : List (Op Nat Nat × List Nat) :=
  [(.insertMem 1 10, []), (.insertMem 2 20, []), (.get 1, []), (.insertMem 3 30, [])]
example : totalMem (fun _ => 1) (run cSyncArcMem exTl (fun _ => 1) (State.init : State Nat Nat) (opsMem.take 3)).1.store
    ≤ 2 := by decide
example : keys (run cSyncArcMem exTl (fun _ => 1) (State.init : State Nat Nat) opsMem).1.store = [1, 3] := by decide

/-- The memory-bound hypothesis of the sync memory-loop theorems cannot be dropped.  If the SAME sync
    cache is also filled through the plain `insert` (which ignores `max_memory`; the generated code
    never does this), the loop outlives the newcomer and the `len − idx` rank of `utils.rs` becomes
    visible: `1, 2, 3` are each hit once, `1` is the least recently used, yet storing `4` removes the
    newcomer `4` and then `3`, the MOST recently used of the three. -/
def opsMixed : List (Op Nat Nat × List Nat) :=
  [(.insert 1 10, []), (.insert 2 20, []), (.insert 3 30, []), (.get 1, []), (.get 2, []), (.get 3, []),
   (.insertMem 4 40, [])]
example : keys (run cSyncArcMem exTl (fun _ => 1) (State.init : State Nat Nat) opsMixed).1.store = [1, 2] := by decide +kernel
example : ¬ AllViaMem opsMixed := by decide

/-- the ghost hit count on a concrete history: `1` was looked up successfully once since its store. -/
example : ghostHits 1 0 opsLfu (run cAsyncLfu exTl (fun _ => 0) (State.init : State Nat Nat) opsLfu).2 = 1 := by decide
example : (lookup 1 (run cAsyncLfu exTl (fun _ => 0) (State.init : State Nat Nat) opsLfu).1.store).map (·.hits)
    = some 1 := by decide

end Cachelito.C08
