/-
  C06 — TTL: an entry of age ≥ ttl is never served and is purged on access.

  Clock and births are in milliseconds, `ttl = some T` in seconds.  Sync flavours stamp an entry
  with the clock reading of the store and compare `(now − birth)/1000 ≥ T`; the async flavour stamps
  with the whole second `now/1000*1000` and compares whole seconds `now/1000 − birth/1000 ≥ T`.

  Two notions of age appear below:
    * the *stored age* `s.now − e.birth` (what the engine sees), used in the state-level theorems;
    * the *real age* `clock − t` where `t = lastStoredAt history k` is the clock reading at the latest
      store of the key, used in the history-level theorems.  For sync flavours they coincide; for
      async `e.birth = t/1000*1000 ≤ t`, so the stored age is the real age plus `t % 1000`.

  All statements hold for every flavour, policy, limit, max_memory, score algebra, size function,
  random draws and every finite history (from the empty cache, or from any consistent state).
-/
import Cachelito.Lemmas.Hist

namespace Cachelito.C06
open Cachelito Cachelito.Hist
variable {K V S : Type} [DecidableEq K]

/-! ## (i) An entry of age ≥ T is never served and is purged on access -/

/-- **Expired ⇒ not served, purged, counted as a miss** (every flavour).  If the entry found under `k`
    has stored age `≥ 1000·T` ms, the lookup returns nothing, removes `k` from the store and from the
    eviction queue, touches no other entry, raises `missStat` by one and leaves `hitStat` alone. -/
theorem expired_never_served (cfg : Cfg) (T : Nat) (ht : cfg.ttl = some T) (s : State K V) (hi : Inv s)
    (k : K) (e : Entry V) (hl : lookup k s.store = some e) (hage : s.now - e.birth ≥ 1000 * T) :
    (get cfg s k).2 = none ∧
    k ∉ keys (get cfg s k).1.store ∧ k ∉ (get cfg s k).1.queue ∧
    (get cfg s k).1.store = eraseKey k s.store ∧
    (get cfg s k).1.queue = s.queue.filter (fun x => x ≠ k) ∧
    (∀ k', k' ≠ k → lookup k' (get cfg s k).1.store = lookup k' s.store) ∧
    (get cfg s k).1.missStat = s.missStat + 1 ∧ (get cfg s k).1.hitStat = s.hitStat := by
  have hg := get_expired hl (expired_of_old cfg T s.now e ht hage)
  have h1 : (get cfg s k).1.store = eraseKey k s.store := by rw [hg]; exact removeBoth_store cfg k _ _
  have h2 : (get cfg s k).1.queue = s.queue.filter (fun x => x ≠ k) := by
    rw [hg]; exact congrArg Prod.snd (removeBoth_eq hi cfg k)
  refine ⟨by rw [hg], ?_, ?_, h1, h2, ?_, by rw [hg], by rw [hg]⟩
  · rw [h1]; exact not_mem_keys_eraseKey k _
  · rw [h2]; exact fun h => of_decide_eq_true (List.mem_filter.mp h).2 rfl
  · intro k' hk; rw [h1]; exact lookup_eraseKey_ne hk _

/-- The async whole-second arithmetic in numbers: whole-second difference ≥ whole seconds of the
    millisecond difference, for every pair of readings (`div_sub_div_ge` at 1000; (i) uses it through
    `secs_ge`). -/
theorem whole_seconds_ge (now birth : Nat) : now / 1000 - birth / 1000 ≥ (now - birth) / 1000 :=
  div_sub_div_ge now birth 1000

/-- … and at most one more. -/
theorem whole_seconds_le (now birth : Nat) : now / 1000 - birth / 1000 ≤ (now - birth) / 1000 + 1 :=
  div_sub_div_le now birth ms_pos

/-! ## (ii) A young entry is still served -/

theorem served_of_secs_lt {cfg : Cfg} {T : Nat} (ht : cfg.ttl = some T) {s : State K V} {k : K} {e : Entry V}
    (hl : lookup k s.store = some e) (h : elapsedMs cfg s.now e.birth / 1000 < T) :
    (get cfg s k).2 = some e.val ∧ (get cfg s k).1.hitStat = s.hitStat + 1 ∧
    (get cfg s k).1.missStat = s.missStat := by
  have hx : expired cfg s.now e = false :=
    Bool.eq_false_iff.mpr fun hx => Nat.not_le_of_lt h ((expired_iff_secs ht s.now e).mp hx)
  rw [get_hit hl hx]; exact ⟨rfl, rfl, rfl⟩

/-- **Sync flavours: younger than T ⇒ served.**  If the entry found under `k` has stored age
    `< 1000·T` ms, the lookup returns its value (and counts a hit). -/
theorem young_served_sync (cfg : Cfg) (T : Nat) (ht : cfg.ttl = some T) (hf : cfg.flavour ≠ .async)
    (s : State K V) (k : K) (e : Entry V) (hl : lookup k s.store = some e)
    (hage : s.now - e.birth < 1000 * T) :
    (get cfg s k).2 = some e.val ∧ (get cfg s k).1.hitStat = s.hitStat + 1 ∧
    (get cfg s k).1.missStat = s.missStat :=
  served_of_secs_lt ht hl (by
    rw [secs_sync hf, Nat.div_lt_iff_lt_mul ms_pos, Nat.mul_comm]; exact hage)

/-- **Every flavour, exact boundary in terms of the stored birth.**  In a state whose births are stamps
    (true of every reachable state, `tinv_reachable`), the entry found under `k` is served iff its stored
    age is `< 1000·T` ms, and the lookup returns nothing iff it is `≥ 1000·T` ms. -/
theorem served_iff_stored_age (cfg : Cfg) (T : Nat) (ht : cfg.ttl = some T) (s : State K V)
    (hti : TInv cfg s) (k : K) (e : Entry V) (hl : lookup k s.store = some e) :
    ((get cfg s k).2 = some e.val ↔ s.now - e.birth < 1000 * T) ∧
    ((get cfg s k).2 = none ↔ s.now - e.birth ≥ 1000 * T) := by
  have hiff := expired_iff_of_stamped cfg T s.now e ht (hti.birth_stamped hl)
  refine ⟨(get_served_iff hl).trans ?_, (get_none_iff hl).trans hiff⟩
  rw [← Bool.not_eq_true, hiff]; exact Nat.not_le

/-- **Async flavour, exact boundary in terms of the real store time.**  If the entry was stamped at clock
    reading `t ≤ now` (so `e.birth = t/1000*1000`), it is served iff
    `real age + (t mod 1000) < 1000·T`: the sub-second part of the store time is lost by the whole-second
    clock and counts against the entry. -/
theorem served_iff_async (cfg : Cfg) (T : Nat) (ht : cfg.ttl = some T) (hf : cfg.flavour = .async)
    (s : State K V) (k : K) (e : Entry V) (hl : lookup k s.store = some e) (t : Nat) (hts : t ≤ s.now)
    (hb : e.birth = stamp cfg t) :
    (get cfg s k).2 = some e.val ↔ (s.now - t) + t % 1000 < 1000 * T := by
  have hiff := expired_iff_of_stamped cfg T s.now e ht (by rw [hb, stamp_idem])
  have hbirth : e.birth = t / 1000 * 1000 := by rw [hb]; unfold stamp; rw [hf]
  rw [get_served_iff hl, ← Bool.not_eq_true, hiff, hbirth]
  -- `now − t/1000·1000 = (now − t) + (t − t/1000·1000)`
  rw [← Nat.sub_add_sub_cancel hts (Nat.div_mul_le_self t 1000), ← Nat.mod_eq_sub_div_mul]
  exact Nat.not_le

/-- **Async flavour: real age ≤ T−1 seconds ⇒ served** (in particular "younger than T−1 seconds", the
    bound of the property statement).  `s.now − t + 1000 ≤ 1000·T` says real age `≤ 1000·(T−1)` ms. -/
theorem young_served_async_sharp (cfg : Cfg) (T : Nat) (ht : cfg.ttl = some T) (hf : cfg.flavour = .async)
    (s : State K V) (k : K) (e : Entry V) (hl : lookup k s.store = some e) (t : Nat) (hts : t ≤ s.now)
    (hb : e.birth = stamp cfg t) (hage : s.now - t + 1000 ≤ 1000 * T) :
    (get cfg s k).2 = some e.val :=
  (served_iff_async cfg T ht hf s k e hl t hts hb).mpr
    (Nat.lt_of_lt_of_le (Nat.add_lt_add_left (Nat.mod_lt t ms_pos) _) hage)

set_option linter.unusedVariables false in
/-- **Async flavour: younger than T−1 seconds ⇒ served**, exactly as the property statement words it.
    Holds for every stored birth (no stamp hypothesis needed), hence also for the real age.  The proof
    does not use `hf`: the bound is the async one, and the sync flavours meet it with a second to spare
    (`young_served_sync`). -/
theorem young_served_async (cfg : Cfg) (T : Nat) (ht : cfg.ttl = some T) (hf : cfg.flavour = .async)
    (s : State K V) (k : K) (e : Entry V) (hl : lookup k s.store = some e)
    (hage : s.now - e.birth < 1000 * (T - 1)) :
    (get cfg s k).2 = some e.val ∧ (get cfg s k).1.hitStat = s.hitStat + 1 ∧
    (get cfg s k).1.missStat = s.missStat := by
  have h1 : (s.now - e.birth) / 1000 < T - 1 := by
    rw [Nat.div_lt_iff_lt_mul ms_pos, Nat.mul_comm]; exact hage
  have h2 := secs_le cfg s.now e.birth
  generalize (s.now - e.birth) / 1000 = a at h1 h2
  exact served_of_secs_lt ht hl (Nat.lt_of_le_of_lt h2 (Nat.add_lt_of_lt_sub h1))

/-- the same with the real store time `t` in place of the stored birth -/
theorem young_served_async_real (cfg : Cfg) (T : Nat) (ht : cfg.ttl = some T) (hf : cfg.flavour = .async)
    (s : State K V) (k : K) (e : Entry V) (hl : lookup k s.store = some e) (t : Nat) (hts : t ≤ s.now)
    (hb : e.birth = stamp cfg t) (hage : s.now - t < 1000 * (T - 1)) :
    (get cfg s k).2 = some e.val :=
  young_served_async_sharp cfg T ht hf s k e hl t hts hb (by
    cases T with
    | zero => exact absurd hage (Nat.not_lt_zero _)
    | succ T' => rw [Nat.mul_succ]; exact Nat.add_le_add_right (Nat.le_of_lt hage) 1000)

/-! ## (iii) The purged entry no longer occupies capacity -/

/-- **The purge frees one slot and keeps the bookkeeping consistent.**  After the expired lookup the
    invariant (store keys distinct, queue duplicate-free, queue = store keys) still holds and the store
    holds exactly one entry less. -/
theorem purge_frees_capacity (cfg : Cfg) (T : Nat) (ht : cfg.ttl = some T) (s : State K V) (hi : Inv s)
    (k : K) (e : Entry V) (hl : lookup k s.store = some e) (hage : s.now - e.birth ≥ 1000 * T) :
    Inv (get cfg s k).1 ∧ (get cfg s k).1.store.length + 1 = s.store.length ∧
    (get cfg s k).1.queue.length + 1 = s.queue.length := by
  have hinv := get_inv cfg s k hi
  obtain ⟨_, _, _, hst, _, _, _, _⟩ := expired_never_served cfg T ht s hi k e hl hage
  have hlen : (get cfg s k).1.store.length + 1 = s.store.length := by
    rw [hst]; exact length_eraseKey_of_mem hi.1 (mem_keys_of_lookup hl)
  refine ⟨hinv, hlen, ?_⟩
  rw [InvMQ.length_eq hinv, InvMQ.length_eq hi]; exact hlen

set_option linter.unusedVariables false in
/-- **A store that follows the purge evicts nothing.**  Take a cache with `limit = n ≥ 1` holding at most
    `n` entries (for instance exactly `n`: full).  After a lookup has purged the expired entry of `k`, a
    plain store of a NEW key `k2` keeps every remaining entry: the store is the purged store plus the
    fresh entry, it holds as many entries as before the purge, and every key other than `k` that was held
    before is still held.  (`hn` follows from `hl` and `hfull` and is not used.) -/
theorem store_after_purge_evicts_nothing (cfg : Cfg) (tl : Tlru S) (r : Nat) (T n : Nat)
    (ht : cfg.ttl = some T) (hlim : cfg.limit = some n) (hn : 1 ≤ n)
    (s : State K V) (hi : Inv s) (hfull : s.store.length ≤ n)
    (k : K) (e : Entry V) (hl : lookup k s.store = some e) (hage : s.now - e.birth ≥ 1000 * T)
    (k2 : K) (v2 : V) (hnew : k2 ∉ keys s.store) :
    (insert cfg tl r (get cfg s k).1 k2 v2).store.length = s.store.length ∧
    (insert cfg tl r (get cfg s k).1 k2 v2).store
      = eraseKey k s.store ++ [(k2, ⟨v2, stamp cfg s.now, 0⟩)] ∧
    (∀ x, x ∈ keys s.store → x ≠ k → x ∈ keys (insert cfg tl r (get cfg s k).1 k2 v2).store) := by
  obtain ⟨hinv, hlen, _⟩ := purge_frees_capacity cfg T ht s hi k e hl hage
  obtain ⟨_, _, _, hst, _, _, _, _⟩ := expired_never_served cfg T ht s hi k e hl hage
  have hnew' : k2 ∉ keys (get cfg s k).1.store := by
    rw [hst, keys_eraseKey]; exact fun hh => hnew (List.mem_filter.mp hh).1
  have hlt : (get cfg s k).1.store.length < n :=
    Nat.lt_of_lt_of_le (Nat.lt_succ_self _) (Nat.le_trans (Nat.le_of_eq hlen) hfull)
  have hne : (insert cfg tl r (get cfg s k).1 k2 v2).store = eraseKey k s.store ++ [(k2, ⟨v2, stamp cfg s.now, 0⟩)] := by
    rw [insert_noEvict cfg tl r hinv k2 v2 fun n' hn' => Option.some.inj (hlim.symm.trans hn') ▸ hlt]
    show put _ _ _ = _
    rw [put, eraseKey_of_not_mem hnew', get_now, hst]
  refine ⟨by rw [hne, List.length_append, ← hst]; exact hlen, hne, ?_⟩
  intro x hx hxk
  rw [hne, keys_append, List.mem_append, keys_eraseKey]
  exact Or.inl (List.mem_filter.mpr ⟨hx, decide_eq_true hxk⟩)

/-! ## Reachable states: births are stamps -/

/-- every state reached from the empty cache has only stamped births, none in the future -/
theorem tinv_reachable (cfg : Cfg) (tl : Tlru S) (size : V → Nat) (ops : List (Op K V × List Nat)) :
    TInv cfg (run cfg tl size (State.init : State K V) ops).1 :=
  (hinv_reachable cfg tl size ops).tinv

/-- in particular, for the async flavour every stored birth of a reachable state is a whole second -/
theorem async_birth_whole_second (cfg : Cfg) (tl : Tlru S) (size : V → Nat) (ops : List (Op K V × List Nat))
    (hf : cfg.flavour = .async) (k : K) (e : Entry V)
    (hl : lookup k (run cfg tl size (State.init : State K V) ops).1.store = some e) :
    e.birth % 1000 = 0 ∧ e.birth ≤ (run cfg tl size (State.init : State K V) ops).1.now := by
  have hti := tinv_reachable cfg tl size ops
  have h1 := hti.birth_stamped hl
  unfold stamp at h1; rw [hf] at h1
  exact ⟨by rw [← h1]; exact Nat.mul_mod_left _ _, hti.birth_le hl⟩

/-! ## The clock is monotone -/

/-- `tick` only increases the clock, no other operation moves it -/
theorem clock_step (cfg : Cfg) (tl : Tlru S) (size : V → Nat) (rs : List Nat) (s : State K V) (op : Op K V) :
    s.now ≤ (step cfg tl size rs s op).1.now ∧
    ((∀ ms, op ≠ .tick ms) → (step cfg tl size rs s op).1.now = s.now) ∧
    (∀ ms, op = .tick ms → (step cfg tl size rs s op).1.now = s.now + ms) := by
  have h := step_now cfg tl size rs s op
  refine ⟨by rw [h]; exact Nat.le_add_right _ _, ?_, ?_⟩
  · intro hop
    cases op with
    | tick ms => exact absurd rfl (hop ms)
    | _ => exact h
  · intro ms hop; subst hop; exact h

/-- the clock never goes back along a history, and equals the sum of the ticks -/
theorem clock_monotone (cfg : Cfg) (tl : Tlru S) (size : V → Nat) (s : State K V) (ops : List (Op K V × List Nat)) :
    (run cfg tl size s ops).1.now = s.now + clockOf ops ∧ s.now ≤ (run cfg tl size s ops).1.now := by
  have h : (run cfg tl size s ops).1.now = s.now + clockOf ops :=
    run_induction (P := fun h s' => s'.now = s.now + clockOf h)
      (fun h rs s' op hp => by rw [step_now, hp, clockOf_snoc, Nat.add_assoc]) [] s ops rfl
  exact ⟨h, by rw [h]; exact Nat.le_add_right _ _⟩

/-! ## (iv) History level -/

/-- **Never served when expired.**  For every history from the empty cache: if the `i`-th operation is
    `get k` and returns `some v`, then `k` was stored before, `v` is the value of the latest store of `k`,
    and the REAL age of that store at the moment of the lookup (clock now − clock at the latest store) is
    `< 1000·T` ms — in every flavour. -/
theorem never_served_when_expired (cfg : Cfg) (tl : Tlru S) (size : V → Nat) (T : Nat) (ht : cfg.ttl = some T)
    (ops : List (Op K V × List Nat)) (i : Nat) (k : K) (rs : List Nat) (v : V)
    (hop : ops[i]? = some (.get k, rs))
    (hout : (run cfg tl size (State.init : State K V) ops).2[i]? = some (.val (some v))) :
    ∃ t, lastStore (ops.take i) k = some (v, t) ∧ t ≤ clockOf (ops.take i) ∧
      clockOf (ops.take i) - t < 1000 * T := by
  rw [run_out_at cfg tl size _ ops i _ rs hop, step_get] at hout
  have hh := hinv_reachable cfg tl size (ops.take i) (K := K) (V := V)
  obtain ⟨e, hl, hx, hv⟩ := get_some_elim (Out.val.inj (Option.some.inj hout))
  obtain ⟨t, h1, h2⟩ := hh.2 k e hl
  refine ⟨t, by rw [← hv]; exact h1, lastStore_time_le _ k _ t h1, ?_⟩
  -- not expired: the engine sees fewer than `T` whole seconds, and it sees at least the stored age,
  -- which is at least the real age because `birth = stamp t ≤ t`
  have hlt : (clockOf (ops.take i) - e.birth) / 1000 < T := by
    rw [← hh.1]
    exact Nat.lt_of_le_of_lt (secs_ge cfg _ _)
      (Nat.lt_of_not_le fun hle => Bool.false_ne_true (hx ▸ (expired_iff_secs ht _ e).mpr hle))
  rw [Nat.div_lt_iff_lt_mul ms_pos, Nat.mul_comm] at hlt
  exact Nat.lt_of_le_of_lt (Nat.sub_le_sub_left (h2 ▸ stamp_le cfg t) _) hlt

/-- **Expired in the history ⇒ not served and gone.**  For every history from the empty cache: if the
    `i`-th operation is `get k` and the latest store of `k` happened at clock reading `t` with real age
    `clock − t ≥ 1000·T` ms, the lookup returns nothing and afterwards `k` is neither in the store nor in
    the eviction queue (whether or not it was still stored), and the lookup is counted as a miss. -/
theorem expired_purged_in_history (cfg : Cfg) (tl : Tlru S) (size : V → Nat) (T : Nat) (ht : cfg.ttl = some T)
    (ops : List (Op K V × List Nat)) (i : Nat) (k : K) (rs : List Nat) (t : Nat)
    (hop : ops[i]? = some (.get k, rs)) (hlast : lastStoredAt (ops.take i) k = some t)
    (hage : clockOf (ops.take i) - t ≥ 1000 * T) :
    (run cfg tl size (State.init : State K V) ops).2[i]? = some (.val none) ∧
    k ∉ keys (run cfg tl size (State.init : State K V) (ops.take (i + 1))).1.store ∧
    k ∉ (run cfg tl size (State.init : State K V) (ops.take (i + 1))).1.queue ∧
    (run cfg tl size (State.init : State K V) (ops.take (i + 1))).1.missStat
      = (run cfg tl size (State.init : State K V) (ops.take i)).1.missStat + 1 ∧
    (run cfg tl size (State.init : State K V) (ops.take (i + 1))).1.hitStat
      = (run cfg tl size (State.init : State K V) (ops.take i)).1.hitStat := by
  rw [run_out_at cfg tl size _ ops i _ rs hop, run_take_succ cfg tl size _ ops i _ rs hop, step_get]
  have hh := hinv_reachable cfg tl size (ops.take i) (K := K) (V := V)
  have hi : Inv (run cfg tl size (State.init : State K V) (ops.take i)).1 := run_inv cfg tl size _ _ inv_init
  generalize (run cfg tl size (State.init : State K V) (ops.take i)).1 = s at hh hi
  cases hl : lookup k s.store with
  | none =>
    have hk : k ∉ keys s.store := (lookup_eq_none_iff k s.store).mp hl
    rw [get_miss hl]
    exact ⟨rfl, hk, fun hq => hk ((hi.2.2 k).mp hq), rfl, rfl⟩
  | some e =>
    obtain ⟨t', h1, h2⟩ := hh.2 k e hl
    have htt : t' = t := by
      unfold lastStoredAt at hlast; rw [h1] at hlast; exact Option.some.inj hlast
    subst htt
    have hold : s.now - e.birth ≥ 1000 * T := by
      rw [hh.1, h2]; exact Nat.le_trans hage (Nat.sub_le_sub_left (stamp_le cfg t') _)
    obtain ⟨g1, g2, g3, _, _, _, g7, g8⟩ := expired_never_served cfg T ht s hi k e hl hold
    exact ⟨by rw [g1], g2, g3, g7, g8⟩

/-- **Young and still stored ⇒ served, in the history.**  For every history from the empty cache: if the
    `i`-th operation is `get k`, the key is still stored at that moment (not evicted, not invalidated), and
    the real age of its latest store is `< 1000·T` ms (sync flavours) resp. `≤ 1000·(T−1)` ms (async —
    implied by "younger than T−1 seconds", see `young_served_async_real`; up to a whole second of the real
    age is lost to the truncated birth, `served_iff_async`), the lookup returns the value of that latest
    store. -/
theorem young_served_in_history (cfg : Cfg) (tl : Tlru S) (size : V → Nat) (T : Nat) (ht : cfg.ttl = some T)
    (ops : List (Op K V × List Nat)) (i : Nat) (k : K) (rs : List Nat) (v : V) (t : Nat)
    (hop : ops[i]? = some (.get k, rs))
    (hstored : k ∈ keys (run cfg tl size (State.init : State K V) (ops.take i)).1.store)
    (hlast : lastStore (ops.take i) k = some (v, t))
    (hage : if cfg.flavour = .async then clockOf (ops.take i) - t + 1000 ≤ 1000 * T
            else clockOf (ops.take i) - t < 1000 * T) :
    (run cfg tl size (State.init : State K V) ops).2[i]? = some (.val (some v)) := by
  rw [run_out_at cfg tl size _ ops i _ rs hop, step_get]
  have hh := hinv_reachable cfg tl size (ops.take i) (K := K) (V := V)
  generalize (run cfg tl size (State.init : State K V) (ops.take i)).1 = s at hh hstored
  obtain ⟨e, hl⟩ := lookup_isSome_of_mem_keys hstored
  obtain ⟨t', h1, h2⟩ := hh.2 k e hl
  rw [hlast] at h1
  cases h1
  have hle := lastStore_time_le _ k _ t hlast
  rw [← hh.1] at hage hle
  refine congrArg (fun o => some (Out.val o)) ?_
  by_cases hf : cfg.flavour = .async
  · rw [if_pos hf] at hage
    exact young_served_async_sharp cfg T ht hf s k e hl t hle h2 hage
  · rw [if_neg hf] at hage
    rw [stamp_of_not_async hf] at h2
    exact (young_served_sync cfg T ht hf s k e hl (by rw [h2]; exact hage)).1

/-- **Exact boundary in the history, every flavour.**  If the `i`-th operation is `get k`, the key is still
    stored and its latest store happened at clock reading `t`, then the lookup serves the value iff
    `clock − stamp t < 1000·T`, where `stamp t = t` (sync) or `t` truncated to the whole second (async). -/
theorem served_iff_in_history (cfg : Cfg) (tl : Tlru S) (size : V → Nat) (T : Nat) (ht : cfg.ttl = some T)
    (ops : List (Op K V × List Nat)) (i : Nat) (k : K) (rs : List Nat) (v : V) (t : Nat)
    (hop : ops[i]? = some (.get k, rs))
    (hstored : k ∈ keys (run cfg tl size (State.init : State K V) (ops.take i)).1.store)
    (hlast : lastStore (ops.take i) k = some (v, t)) :
    ((run cfg tl size (State.init : State K V) ops).2[i]? = some (.val (some v))
        ↔ clockOf (ops.take i) - stamp cfg t < 1000 * T) ∧
    ((run cfg tl size (State.init : State K V) ops).2[i]? = some (.val none)
        ↔ clockOf (ops.take i) - stamp cfg t ≥ 1000 * T) := by
  rw [run_out_at cfg tl size _ ops i _ rs hop, step_get]
  have hh := hinv_reachable cfg tl size (ops.take i) (K := K) (V := V)
  generalize (run cfg tl size (State.init : State K V) (ops.take i)).1 = s at hh hstored
  simp only [Option.some.injEq, Out.val.injEq]
  obtain ⟨e, hl⟩ := lookup_isSome_of_mem_keys hstored
  obtain ⟨t', h1, h2⟩ := hh.2 k e hl
  rw [hlast] at h1
  cases h1
  rw [← h2, ← hh.1]
  exact served_iff_stored_age cfg T ht s hh.tinv k e hl

/-! ## Non-vacuity (K = V = Nat, ttl = 2 s)

  Sync: store at clock 0; after 1999 ms the entry is served; one more ms (age 2000 = T) and it is not
  served, the key has left store and queue and the lookup counted as a miss.
  Async: store at clock 999 (stamped 0); at clock 1999 (real age 1000 = T−1 s) it is served; at clock 2000
  (real age 1001 ms!) it is not — the whole-second behaviour the statement allows for. -/
def exTl : Tlru Nat := ⟨fun a b => decide (a < b), fun _ h _ r => h * r⟩
def exGlobal : Cfg := ⟨.global, .lru, some 2, none, some 2⟩
def exThread : Cfg := ⟨.threadLocal, .lfu, some 2, none, some 2⟩
def exAsync : Cfg := ⟨.async, .fifo, some 2, none, some 2⟩

def exOps : List (Op Nat Nat × List Nat) :=
  [(.insert 1 10, []), (.tick 1999, []), (.get 1, []), (.tick 1, []), (.get 1, []), (.get 1, [])]

example : ((run exGlobal exTl (fun _ => 0) (State.init : State Nat Nat) exOps).2.map outVal) =
    [none, none, some (some 10), none, some none, some none] := by decide
example : ((run exThread exTl (fun _ => 0) (State.init : State Nat Nat) exOps).2.map outVal) =
    [none, none, some (some 10), none, some none, some none] := by decide
/-- purged on access: before the expired lookup the key is in store and queue, afterwards in neither;
    counters: 1 hit, then 1 miss -/
example : keys (run exGlobal exTl (fun _ => 0) (State.init : State Nat Nat) (exOps.take 4)).1.store = [1] ∧
    (run exGlobal exTl (fun _ => 0) (State.init : State Nat Nat) (exOps.take 4)).1.queue = [1] ∧
    keys (run exGlobal exTl (fun _ => 0) (State.init : State Nat Nat) (exOps.take 5)).1.store = [] ∧
    (run exGlobal exTl (fun _ => 0) (State.init : State Nat Nat) (exOps.take 5)).1.queue = [] ∧
    (run exGlobal exTl (fun _ => 0) (State.init : State Nat Nat) (exOps.take 5)).1.hitStat = 1 ∧
    (run exGlobal exTl (fun _ => 0) (State.init : State Nat Nat) (exOps.take 5)).1.missStat = 1 := by
  decide +kernel  -- six runs: plain `decide` would evaluate them in the elaborator and once more in the kernel
/-- hypotheses of `expired_purged_in_history` are satisfiable: latest store of key 1 at clock 0, real age 2000 -/
example : exOps[4]? = some (.get 1, []) ∧ lastStoredAt (exOps.take 4) 1 = some 0 ∧
    clockOf (exOps.take 4) - 0 ≥ 1000 * 2 := ⟨rfl, by decide, by decide⟩

def exOpsAsync : List (Op Nat Nat × List Nat) :=
  [(.tick 999, []), (.insert 1 10, []), (.tick 1000, []), (.get 1, []), (.tick 1, []), (.get 1, []), (.get 1, [])]
example : ((run exAsync exTl (fun _ => 0) (State.init : State Nat Nat) exOpsAsync).2.map outVal) =
    [none, none, none, some (some 10), none, some none, some none] := by decide
/-- the async birth is the whole second 0 although the store happened at clock 999 -/
example : (lookup 1 (run exAsync exTl (fun _ => 0) (State.init : State Nat Nat) (exOpsAsync.take 2)).1.store).map (·.birth)
    = some 0 ∧ lastStoredAt (exOpsAsync.take 2) 1 = some 999 := by decide
example : keys (run exAsync exTl (fun _ => 0) (State.init : State Nat Nat) (exOpsAsync.take 6)).1.store = [] ∧
    (run exAsync exTl (fun _ => 0) (State.init : State Nat Nat) (exOpsAsync.take 6)).1.queue = [] := by decide

/-- capacity: limit 2, keys 1 and 2 stored (full); key 1 expires and is purged by a lookup; storing the
    new key 3 then evicts nothing (key 2, stored 1.5 s later, survives) -/
def exOpsCap : List (Op Nat Nat × List Nat) :=
  [(.insert 1 10, []), (.tick 1500, []), (.insert 2 20, []), (.tick 500, []), (.get 1, []), (.insert 3 30, []),
   (.get 2, []), (.get 3, [])]
example : keys (run exGlobal exTl (fun _ => 0) (State.init : State Nat Nat) exOpsCap).1.store = [2, 3] ∧
    ((run exGlobal exTl (fun _ => 0) (State.init : State Nat Nat) exOpsCap).2.map outVal) =
      [none, none, none, none, some none, none, some (some 20), some (some 30)] := by decide +kernel
example : keys (run exAsync exTl (fun _ => 0) (State.init : State Nat Nat) exOpsCap).1.store = [2, 3] := by decide
/-- contrast (keys 2 then 1 stored, both expire): with the purging lookup of key 1 the store of key 3 evicts
    nothing and key 2 stays; without it the same store has to evict the queue front, key 2 -/
example : keys (run exGlobal exTl (fun _ => 0) (State.init : State Nat Nat)
      [(.insert 2 20, []), (.insert 1 10, []), (.tick 2000, []), (.get 1, []), (.insert 3 30, [])]).1.store = [2, 3] ∧
    keys (run exGlobal exTl (fun _ => 0) (State.init : State Nat Nat)
      [(.insert 2 20, []), (.insert 1 10, []), (.tick 2000, []), (.insert 3 30, [])]).1.store = [1, 3] := by decide +kernel

end Cachelito.C06
