/-
  T10 — TRANSLATOR TIE, async_global_cache.rs: the LOOKUP PATH of the async engine (`get`) — C01, C06, C07, C08, C15

  `Generated/PureAsync.lean` is regenerated from /repo's CURRENT source on every check (statements of the `stats`
  feature included); the theorem is re-proved against whatever was generated.  `if let Some(mut entry_ref) =
  self.cache.get_mut(key)` binds a reference INTO the DashMap: every assignment through it is written through to the
  map, `drop(entry_ref)` is a no-op.  Sequential reading of the function.

  `get_eq`: for every cache content, configuration, key and clock the translated `AsyncGlobalCache::get` returns what the
  model's `Cachelito.get` (async flavour) returns and leaves exactly its store, queue and counters: absent → miss;
  expired (whole unix seconds: now − stored ≥ ttl) → removed from map and queue, miss; otherwise the value, a hit, the
  frequency bump (LFU / ARC / TLRU) and — only when a bound is configured — the move to the back (LRU / ARC / TLRU).
-/
import Cachelito.Props.T07
-- not used below: a change to what is tied there re-checks this module as well
import Cachelito.Props.T04


namespace Cachelito.T10
open Cachelito Cachelito.RustLite Cachelito.Generated Cachelito.SourceLemmas Cachelito.T06
open Cachelito.Generated.Async

variable {K V F : Type} [DecidableEq K]

/-- **The async engine's `get` is the model's `get`**: same returned value, same store, queue and counters -/
theorem get_eq (c : AsyncCache K V F) (now : Nat) (k : K) (hmax : ∀ p, p ∈ c.cache → p.2.hits < u64Max) :
    Async.get ⟨fun _ => 0, now⟩ c k =
      ((Cachelito.get (cfgOf c) ⟨c.cache, c.order, now, c.stats.hits, c.stats.misses⟩ k).2,
       { c with
         cache := (Cachelito.get (cfgOf c) ⟨c.cache, c.order, now, c.stats.hits, c.stats.misses⟩ k).1.store,
         order := (Cachelito.get (cfgOf c) ⟨c.cache, c.order, now, c.stats.hits, c.stats.misses⟩ k).1.queue,
         stats := ⟨(Cachelito.get (cfgOf c) ⟨c.cache, c.order, now, c.stats.hits, c.stats.misses⟩ k).1.hitStat,
                   (Cachelito.get (cfgOf c) ⟨c.cache, c.order, now, c.stats.hits, c.stats.misses⟩ k).1.missStat⟩ }) := by
  obtain ⟨cache, order, limit, mm, policy, ttl, fw, ⟨sh, sm⟩⟩ := c
  unfold Async.get Cachelito.get
  -- `zeta := false`: the `let`s of the source stay until its expiry test has been taken out (`extract_lets` below)
  simp (config := { zeta := false }) only [cfgOf]
  cases hl : lookup k cache with
  | none => simp [Stats.record_miss, fetchAdd]
  | some e =>
    have hb : e.hits < u64Max := hits_lookup hmax k e hl
    have hbump := mapSet_bump k cache e hl hb
    have hk : hasKey k cache = true := by simp [hasKey, hl]
    clear hmax
    -- the source's expiry test (whole unix seconds) is the model's `expired`
    have hexp : (match ttl with
        | some t => decide (ssub (asSecs now) (tsSecs e) ≥ t)
        | _ => false) = expired ⟨.async, policy, limit, mm, ttl⟩ now e := by
      cases ttl with
      | none => rfl
      | some t => simp [expired, elapsedMs, asSecs, tsSecs, ssub]
    simp (config := { zeta := false }) only []
    extract_lets +onlyGivenNames now0 age is_exp
    rw [show is_exp = expired ⟨.async, policy, limit, mm, ttl⟩ now e from hexp]
    by_cases hx : expired ⟨.async, policy, limit, mm, ttl⟩ now e = true
    · simp [hx, removeBoth, mapRemove, retain, Stats.record_miss, fetchAdd]
    · simp [hx, Stats.record_hit, fetchAdd, hitUpdate, hbump, retainPush, retain, pushBack]
      cases policy <;> simp [Policy.bumps, Policy.refreshes, hk, hasKey_bumpHits]
      -- what is left, for the policies that move the key to the back: the source's `if limit or max_memory is configured`
      -- against the model's `refresh` flag of `hitUpdate`
      all_goals (split <;> rfl)

end Cachelito.T10
