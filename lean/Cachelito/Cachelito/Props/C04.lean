/-
  C04 — Entry limit: never more than `limit` entries, exactly one victim per overflow.

  The property theorems.  The size facts behind them (what `put`, a lookup, an invalidation and the
  entry-limit step do to the number of entries, stated with `C04.sizeWith`; the one-step bound
  `C04.step_bound`) are in `Lemmas/Hist.lean`, in this namespace.  All statements quantify over every flavour
  (sync global, thread-local, async), every policy, every TLRU score algebra `tl`, every size function,
  every stream of random draws and every finite history.
-/
import Cachelito.Lemmas.Hist

namespace Cachelito.C04
open Cachelito
variable {K V S : Type} [DecidableEq K]
variable (cfg : Cfg) (tl : Tlru S) (size : V → Nat)

/-- Bookkeeping invariant in every reachable state: store keys distinct, queue duplicate-free, queue
    and store track exactly the same keys (so no entry is untracked and no queue slot is stale). -/
theorem inv_reachable (cfg : Cfg) (tl : Tlru S) (size : V → Nat) (ops : List (Op K V × List Nat)) :
    Inv (run cfg tl size (State.init : State K V) ops).1 :=
  run_inv cfg tl size _ ops inv_init

/-- **Exactness of a plain store.**  With `limit = n ≥ 1` and at most `n` entries held, a store of
    `k` leaves `min n (entries held + [k is new])` entries: it removes exactly one entry when it
    overflows and nothing otherwise. -/
theorem insert_exact (cfg : Cfg) (tl : Tlru S) (r : Nat) (s : State K V) (k : K) (v : V) (n : Nat)
    (hl : cfg.limit = some n) (hn : 1 ≤ n) (hi : Inv s) (hb : s.store.length ≤ n) :
    (insert cfg tl r s k v).store.length = min n (sizeWith k s.store) :=
  insert_length cfg tl r s k v n hl hn hi hb

/-- Without an entry limit a plain store never removes anything. -/
theorem insert_no_limit (cfg : Cfg) (tl : Tlru S) (r : Nat) (s : State K V) (k : K) (v : V)
    (hl : cfg.limit = none) (hi : Inv s) :
    (insert cfg tl r s k v).store.length = sizeWith k s.store := by
  rw [insert_eq_storeVia]
  by_cases hf : cfg.flavour = .async
  · rw [storeVia_async hf _ hi, limitStep_none hl]
    show (put _ _ _).length = _
    rw [length_put_of_not_mem (not_mem_keys_eraseKey k _)]; exact length_eraseKey_succ hi.1 k
  · rw [storeVia_sync hf, limitStep_none hl]; exact length_put hi.1 k _

set_option linter.unusedVariables false in
/-- A store only ever adds its own key: every other key held afterwards was held before (in any state:
    `hi` is not needed). -/
theorem insert_keys_sub (cfg : Cfg) (tl : Tlru S) (r : Nat) (s : State K V) (k : K) (v : V) (hi : Inv s) :
    ∀ x, x ∈ keys (insert cfg tl r s k v).store → x ∈ keys s.store ∨ x = k := by
  intro x hx
  obtain ⟨e, he⟩ := lookup_isSome_of_mem_keys hx
  rcases (Hist.insert_sub cfg tl r s k v).put_cases he with ⟨hk, _⟩ | ⟨_, hl⟩
  · exact Or.inr hk
  · exact Or.inl (mem_keys_of_lookup hl)

/-- **C04, bound for every history**: a cache configured with `limit = n ≥ 1` never holds more than
    `n` entries once an operation has completed, under every policy and flavour. -/
theorem limit_never_exceeded (cfg : Cfg) (tl : Tlru S) (size : V → Nat) (n : Nat)
    (hl : cfg.limit = some n) (hn : 1 ≤ n) (ops : List (Op K V × List Nat)) :
    (run cfg tl size (State.init : State K V) ops).1.store.length ≤ n :=
  (run_induction (P := fun _ s => Inv s ∧ s.store.length ≤ n)
    (fun _ rs s op hp => ⟨step_inv cfg tl size rs s op hp.1, step_bound cfg tl size rs s op n hl hn hp.1 hp.2⟩)
    [] _ ops ⟨inv_init, Nat.zero_le n⟩).2

/-- the bound also holds after every prefix of a history (every intermediate completed operation) -/
theorem limit_never_exceeded_prefix (cfg : Cfg) (tl : Tlru S) (size : V → Nat) (n : Nat)
    (hl : cfg.limit = some n) (hn : 1 ≤ n) (ops : List (Op K V × List Nat)) (i : Nat) :
    (run cfg tl size (State.init : State K V) (ops.take i)).1.store.length ≤ n :=
  limit_never_exceeded cfg tl size n hl hn _

/-! Non-vacuity: a concrete overflowing history (limit 2, three distinct keys, LFU, async flavour)
    satisfies the hypotheses and ends with exactly two entries. -/
def exTl : Tlru Nat := ⟨fun a b => decide (a < b), fun _ h _ r => h * r⟩
def exCfg : Cfg := ⟨.async, .lfu, some 2, none, none⟩
def exOps : List (Op Nat Nat × List Nat) :=
  [(.insert 1 10, []), (.insert 2 20, []), (.get 1, []), (.insert 3 30, [])]
example : (run exCfg exTl (fun _ => 0) (State.init : State Nat Nat) exOps).1.store.length = 2 := by decide
example : keys (run exCfg exTl (fun _ => 0) (State.init : State Nat Nat) exOps).1.store = [1, 3] := by decide

end Cachelito.C04
