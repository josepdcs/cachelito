/-
  C01 (c) — A cached call returns exactly what the uncached function returns FOR THE SAME ARGUMENTS.

  C01 (b) (`Props/C01b.lean`) is stated over keys: a function deterministic in its KEY returns
  `f key`.  C02 (`Props/C02.lean`) shows that the key determines the argument tuple.  This file puts
  the two together and states C01 over ARGUMENTS, which is what a user of `#[cache]` reads it as.

  Setting.  A decorated function `i` has a signature `sg : Sig` (optional receiver type, argument
  types, over the whole type grammar of `Keys.lean`) and a deterministic body
  `g : receiver → arguments → V`.  Every call of `i` in the history is a call with some well-typed
  receiver/argument tuple `(r, a)`: its key is `keyOf fm r a` (what both macro key builders generate) and
  its body, if it runs, returns `g r a`.  Everything else is arbitrary: the other cached functions (any
  keys, impure bodies), the configuration of every function (flavour, scope, policy, limit, TTL, memory
  bound, `cache_if`, `invalidate_on`, `Result` filtering), score algebras, sizes, random draws, the
  verdicts of the user predicates, ticks, invalidations, statistics operations, threads.
  The hypothesis is `CallsHaveArgs fm sg g i ops` (`Lemmas/Extra.lean`):
    `∀ p ∈ ops, ∀ th c, p.1 = .call i th c → ∃ r a, sg.wt r a = true ∧ c.key = keyOf fm r a ∧ c.bodyVal = g r a`.

  Assumptions, exactly those of C02, explicit in every statement:
  * `FloatOK fm.float` — the (unmodelled) float printer is injective and prints a non-empty string over
    the float alphabet (for `f64`/`f32`: all NaNs identified; see `C02.key_injective_up_to_float_text`
    for what remains without injectivity);
  * `fm.esc` — the Unicode escape predicate of `{:?}` — is ARBITRARY (universally quantified);
  * keys are built by `keyOf` from `Debug` renderings (user-written `CacheableKey` impls are outside).
-/
import Cachelito.Props.C01b
import Cachelito.Props.C02
import Cachelito.Lemmas.Extra

namespace Cachelito.C01c
open Cachelito Cachelito.Calls Cachelito.Keys Cachelito.Extra
variable {V S F : Type}

open Classical in
/-- the body as a function of the KEY: `g` applied to some well-typed argument tuple rendering to the
    key (`dflt` on strings that are no key of the signature).  Noncomputable; used only inside proofs. -/
noncomputable def decode (fm : Fmt F) (sg : Sig) (g : Option (Val F) → List (Val F) → V) (dflt : V)
    (k : Text) : V :=
  if h : ∃ r a, sg.wt r a = true ∧ keyOf fm r a = k then g h.choose h.choose_spec.choose else dflt

section
variable (fns : List FnSpec) (tls : Nat → Tlru S) (size : V → Nat) (isOk : V → Bool)

/-- by C02 the tuple chosen for a key is the tuple the key was built from -/
theorem decode_key (fm : Fmt F) (hf : FloatOK fm.float) (sg : Sig) (g : Option (Val F) → List (Val F) → V)
    (dflt : V) (r : Option (Val F)) (a : List (Val F)) (hw : sg.wt r a = true) :
    decode fm sg g dflt (keyOf fm r a) = g r a := by
  unfold decode
  have h : ∃ r' a', sg.wt r' a' = true ∧ keyOf fm r' a' = keyOf fm r a := ⟨r, a, hw, rfl⟩
  rw [dif_pos h]
  obtain ⟨h1, h2⟩ := h.choose_spec.choose_spec
  obtain ⟨e1, e2⟩ := C02.key_injective fm hf sg _ r _ a h1 hw h2
  exact congr (congrArg g e1) e2

/-- so calls with well-typed arguments are calls of a function of the KEY, which is what C01 (b) needs -/
theorem bodyVal_eq_decode {fm : Fmt F} (hf : FloatOK fm.float) {sg : Sig}
    {g : Option (Val F) → List (Val F) → V} {i : Nat} {ops : List (SysOp Text V × List Nat)}
    (hcalls : CallsHaveArgs fm sg g i ops) (dflt : V) :
    ∀ p ∈ ops, ∀ th c, p.1 = SysOp.call i th c → c.bodyVal = decode fm sg g dflt c.key := by
  intro p hp th c hc
  obtain ⟨r, a, hw, hk, hb⟩ := hcalls p hp th c hc
  rw [hk, hb, decode_key fm hf sg g dflt r a hw]

/-- **C01 over arguments, whole histories.**  If every call of function `i` in the history is a call
    with well-typed arguments whose body returns `g` of the arguments, then every call of `i` with
    (well-typed) receiver `r` and arguments `a` returns exactly `g r a` — whether the value comes from the
    body or from the cache, whatever was cached for OTHER arguments, by other functions, and whatever
    was evicted, expired or invalidated in between. -/
theorem returns_body_value_of_args (fm : Fmt F) (hf : FloatOK fm.float) (sg : Sig)
    (g : Option (Val F) → List (Val F) → V) (i : Nat) (ops : List (SysOp Text V × List Nat))
    (hcalls : CallsHaveArgs fm sg g i ops)
    (j th : Nat) (c : CallIn Text V) (rs : List Nat) (hj : ops[j]? = some (.call i th c, rs))
    (r : Option (Val F)) (a : List (Val F)) (hw : sg.wt r a = true) (hk : c.key = keyOf fm r a)
    (v : V) (tr : List (TraceEv Text V))
    (hout : (sysRun fns tls size isOk (Sys.init : Sys Text V) ops).2[j]? = some (.ret v tr)) : v = g r a := by
  -- `decode` needs some default for strings that are no key; the `v` at hand is the only element of `V` in sight
  have := C01b.returns_body_value fns tls size isOk i (decode fm sg g v) ops (bodyVal_eq_decode hf hcalls v)
    j th c rs hj v tr hout
  rw [this, hk, decode_key fm hf sg g v r a hw]

/-- **C01 over arguments, one call after any history.**  After any history `pre` in which function `i`
    was only called with well-typed arguments (body = `g` of the arguments), a call of `i` with
    well-typed `(r, a)` — built by `argCall`: key `keyOf fm r a`, body value `g r a`, arbitrary predicate
    oracles — returns `g r a`. -/
theorem call_returns_body_value_of_args (fm : Fmt F) (hf : FloatOK fm.float) (sg : Sig)
    (g : Option (Val F) → List (Val F) → V) (i : Nat) (pre : List (SysOp Text V × List Nat))
    (hcalls : CallsHaveArgs fm sg g i pre)
    (th : Nat) (r : Option (Val F)) (a : List (Val F)) (hw : sg.wt r a = true)
    (cacheIf invalidateOn : Text → V → Bool) (rs : List Nat) (v : V) (tr : List (TraceEv Text V))
    (hout : (sysStep fns tls size isOk rs (sysRun fns tls size isOk (Sys.init : Sys Text V) pre).1
      (.call i th (argCall fm g r a cacheIf invalidateOn))).2 = .ret v tr) : v = g r a := by
  have hdec := decode_key fm hf sg g v r a hw
  exact (C01b.call_returns_body_value fns tls size isOk i (decode fm sg g v) pre (bodyVal_eq_decode hf hcalls v) th
    (argCall fm g r a cacheIf invalidateOn) rs hdec.symm v tr hout).trans hdec

/-- Calls with DIFFERENT (well-typed) arguments never serve each other (no determinism of the body
    needed): if the call with `(r, a)` is
    answered from the cache, no call with other arguments `(r', a')` produced the served entry — stated
    as: the producing call's key differs from the key of every other well-typed tuple. -/
theorem served_value_not_from_other_arguments {spec : FnSpec} {i : Nat} (hspec : fns[i]? = some spec)
    (fm : Fmt F) (hf : FloatOK fm.float) (sg : Sig) (pre : List (SysOp Text V × List Nat))
    (th : Nat) (c : CallIn Text V) (rs : List Nat)
    (r : Option (Val F)) (a : List (Val F)) (hw : sg.wt r a = true) (hk : c.key = keyOf fm r a)
    (v : V) (tr : List (TraceEv Text V))
    (hout : (sysStep fns tls size isOk rs (sysRun fns tls size isOk (Sys.init : Sys Text V) pre).1
      (.call i th c)).2 = .ret v tr)
    (hserved : TraceEv.returned v true ∈ tr) :
    ∃ p ∈ pre, ∃ th' c', p.1 = SysOp.call i th' c' ∧ c'.bodyVal = v ∧
      ∀ r' a', sg.wt r' a' = true → (r' ≠ r ∨ a' ≠ a) → c'.key ≠ keyOf fm r' a' := by
  obtain ⟨_, h2, _⟩ := C01b.served_value_provenance fns tls size isOk hspec pre th c rs v tr hout
  obtain ⟨c', _, hkey, hval, p, hp, th', hcall⟩ := h2 hserved
  refine ⟨p, hp, th', c', hcall, hval, fun r' a' hw' hne hk' => ?_⟩
  obtain ⟨e1, e2⟩ := C02.key_injective fm hf sg r' r a' a hw' hw (by rw [← hk', hkey, hk])
  exact hne.elim (· e1) (· e2)

end

/-! ### Non-vacuity

`fn f(x: String, y: String) -> usize` with body `x.len()`, cached globally (LRU, limit 8).  The argument
pairs `("a|b", "c")` and `("a", "b|c")` differ only in where the separator character sits; they get
different keys, different entries, and each call — first from the body, then from the cache — returns
the body's value for ITS arguments: 3 and 1. -/

def exSig : Sig := ⟨none, [.str, .str]⟩
/-- the body: length of the first string argument -/
def exBody : Option (Val Nat) → List (Val Nat) → Nat
  | _, .str s :: _ => s.length
  | _, _ => 0
def args1 : List (Val Nat) := [.str "a|b".toList, .str "c".toList]
def args2 : List (Val Nat) := [.str "a".toList, .str "b|c".toList]
def exSpec : FnSpec :=
  { name := "f", isAsync := false, threadScope := false,
    cfg := { flavour := .global, policy := .lru, limit := some 8, maxMem := none, ttl := none },
    useMem := false, isResult := false, hasCacheIf := false, hasInvalidateOn := false,
    tags := [], events := [], deps := [] }
def exCall (a : List (Val Nat)) : CallIn Text Nat :=
  argCall C02.exFmt exBody none a (fun _ _ => true) (fun _ _ => false)
def exOps : List (SysOp Text Nat × List Nat) :=
  [(.call 0 0 (exCall args1), []), (.call 0 1 (exCall args2), []),
   (.call 0 1 (exCall args1), []), (.call 0 0 (exCall args2), [])]
def exTl : Tlru Nat := ⟨fun a b => decide (a < b), fun _ h _ r => h * r⟩
def exRun := sysRun [exSpec] (fun _ => exTl) (fun v => v) (fun _ => true) (Sys.init : Sys Text Nat) exOps
/-- (value returned, body runs, served from cache) -/
def summary (o : SysOut Text Nat) : Nat × Nat × Bool :=
  match o with | .ret v tr => (v, bodyRuns tr, lookupHit tr) | _ => (0, 0, false)

theorem exOps_haveArgs : CallsHaveArgs C02.exFmt exSig exBody 0 exOps := by
  have h1 : exSig.wt (F := Nat) none args1 = true := by decide
  have h2 : exSig.wt (F := Nat) none args2 = true := by decide
  intro p hp th c hc
  simp only [exOps, List.mem_cons, List.mem_nil_iff, or_false] at hp
  rcases hp with rfl | rfl | rfl | rfl <;> cases hc
  · exact ⟨none, args1, h1, rfl, rfl⟩
  · exact ⟨none, args2, h2, rfl, rfl⟩
  · exact ⟨none, args1, h1, rfl, rfl⟩
  · exact ⟨none, args2, h2, rfl, rfl⟩

/-- both tuples inhabit the signature, the body distinguishes them, and so do the keys -/
example : exSig.wt none args1 = true ∧ exSig.wt none args2 = true ∧
    exBody none args1 = 3 ∧ exBody none args2 = 1 ∧
    keyOf C02.exFmt none args1 = "\"a|b\"|\"c\"".toList ∧ keyOf C02.exFmt none args2 = "\"a\"|\"b|c\"".toList := by
  decide +kernel

/-- the hypothesis `CallsHaveArgs` holds for the example history (and `FloatOK` for its formatter:
    `C02.floatOK_example`) -/
example : CallsHaveArgs C02.exFmt exSig exBody 0 exOps := exOps_haveArgs

/-- two misses (body runs: 3, then 1), then two HITS, each serving the value of its own arguments —
    `("a|b","c")` gets 3 and `("a","b|c")` gets 1, never the other's -/
example : exRun.2.map summary = [(3, 1, false), (1, 1, false), (3, 0, true), (1, 0, true)] := by decide +kernel

/-- the theorem applied to the example: the third operation (a hit) returns `exBody none args1` -/
example (v : Nat) (tr : List (TraceEv Text Nat)) (h : exRun.2[2]? = some (.ret v tr)) : v = 3 :=
  returns_body_value_of_args [exSpec] (fun _ => exTl) (fun v => v) (fun _ => true) C02.exFmt
    C02.floatOK_example exSig exBody 0 exOps
    exOps_haveArgs 2 1 (exCall args1) [] rfl none args1 (by decide) rfl v tr h

/-- the body of the mutant example: the first argument -/
def firstNat : Option (Val Nat) → List (Val Nat) → Nat
  | _, .nat n :: _ => n
  | _, _ => 0
def mutCall (a : List (Val Nat)) : CallIn Text Nat :=
  ⟨keyOfNoSep C02.exFmt none a, firstNat none a, fun _ _ => true, fun _ _ => false⟩
/-- **The key hypothesis matters** (the C02 mutant): with keys built WITHOUT the separator,
    `f(1, 23)` and `f(12, 3)` of `fn f(u32, u32)` share the key `123`; the second call is answered from
    the first call's entry and returns 1 although its own body would return 12. -/
example :
    (sysRun [exSpec] (fun _ => exTl) (fun v => v) (fun _ => true) (Sys.init : Sys Text Nat)
      [(.call 0 0 (mutCall [.nat 1, .nat 23]), []), (.call 0 0 (mutCall [.nat 12, .nat 3]), [])]).2.map summary
      = [(1, 1, false), (1, 0, true)] ∧ firstNat none [.nat 12, .nat 3] = 12 := by decide +kernel

end Cachelito.C01c
