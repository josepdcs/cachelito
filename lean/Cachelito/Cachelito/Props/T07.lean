/-
  T07 — TRANSLATOR TIE, async_global_cache.rs: the STORE PATH of the async engine
  (`insert`, `is_already_key_inserted`, `handle_entry_limit_eviction`) — C01, C04, C07, C08, C18

  `Generated/PureAsync.lean` is regenerated from /repo's CURRENT source on every check; the theorems are re-proved
  against whatever was generated.  `self` is the record `RustLite.AsyncCache` (DashMap as a store, the order queue the
  mutex protects, the configuration); the guard `let mut order = self.order.lock()` is an alias of that field written
  back at every exit; DashMap operations are atomic; `fastrand::usize(..n)` is `r % n` for the raw draw `r`.

  Main theorem `insert_eq`: for every cache content, configuration, key, value, clock and draw, the translated
  `AsyncGlobalCache::insert` leaves exactly the store and queue of the model's `Cachelito.insert` (async flavour) — the
  function all L1 theorems of C01 / C04 / C07 / C08 and the critical-section micro-steps of C18 are about.
-/
import Cachelito.Props.T06


namespace Cachelito.T07
open Cachelito Cachelito.RustLite Cachelito.Generated Cachelito.SourceLemmas Cachelito.T06
open Cachelito.Generated.Async

variable {K V F : Type} [DecidableEq K]

/-- the assumptions under which the float scores order like the documented score (DESIGN.md §9) -/
structure ScoresOK (A : F64 F) (c : AsyncCache K V F) : Prop where
  hitsBelowMax : ∀ p, p ∈ c.cache → p.2.hits < u64Max
  arcBelowMax : ∀ a b, A.lt (A.mul (A.ofNat a) (A.ofNat b)) A.maxVal = true
  arcOrder : ∀ a b c d, A.lt (A.mul (A.ofNat a) (A.ofNat b)) (A.mul (A.ofNat c) (A.ofNat d)) = decide (a * b < c * d)
  tlruBelowMax : ∀ hits el rk, A.lt ((srcTlruAsync A c.frequency_weight).score (cfgOf c) hits el rk) A.maxVal = true

omit [DecidableEq K] in
theorem ScoresOK.congr {A : F64 F} {c c' : AsyncCache K V F} (ok : ScoresOK A c) (hc : cfgOf c' = cfgOf c)
    (hw : c'.frequency_weight = c.frequency_weight) (hh : ∀ p, p ∈ c'.cache → p.2.hits < u64Max) : ScoresOK A c' :=
  ⟨hh, ok.arcBelowMax, ok.arcOrder, by rw [hc, hw]; exact ok.tlruBelowMax⟩

/-- `is_already_key_inserted`: the old entry of the key is dropped from map and queue; the answer is always `false` -/
theorem is_already_key_inserted_eq (c : AsyncCache K V F) (k : K) (q : List K) :
    is_already_key_inserted c k q =
      (false, { c with cache := eraseKey k c.cache }, if hasKey k c.cache then q.filter (fun x => x ≠ k) else q) := by
  unfold is_already_key_inserted
  simp [mapRemove, retain, hasKey]

/-- **The entry-limit step of the async engine** (`handle_entry_limit_eviction`) is the model's `limitStep`: nothing
    below the limit; at the limit exactly one eviction by the policy — the scored victim (LFU / ARC / TLRU) removed from
    map and queue, a random slot, or the first stored key from the front (FIFO / LRU) -/
theorem handle_entry_limit_eviction_eq (A : F64 F) (c : AsyncCache K V F) (now r : Nat) (q : List K)
    (ok : ScoresOK A c) :
    handle_entry_limit_eviction A ⟨fun _ => 0, now⟩ r c q =
      ({ c with cache := (limitStep (cfgOf c) (srcTlruAsync A c.frequency_weight) now r c.cache q).1 },
       (limitStep (cfgOf c) (srcTlruAsync A c.frequency_weight) now r c.cache q).2) := by
  obtain ⟨cache, order, limit, mm, policy, ttl, fw, st⟩ := c
  unfold handle_entry_limit_eviction limitStep
  dsimp only [cfgOf] at ok ⊢
  cases limit with
  | none => rfl
  | some n =>
    -- the async engine tests the MAP (`cache.len() >= limit`) before the key is pushed, the sync engines the queue after
    -- the push (T08, T11): `overLimit` has a case for each
    by_cases hfull : cache.length ≥ n
    · simp only [overLimit, hfull, decide_true, if_true]
      obtain ⟨hlfu, harc, htlru⟩ := find_victim_eq A (AsyncCache.mk cache order (some n) mm policy ttl fw st) now q
        (hits_lookup ok.hitsBelowMax) ok.arcBelowMax ok.arcOrder ok.tlruBelowMax
      cases policy with
      | lfu | arc | tlru =>
        simp only [hlfu, harc, htlru, cfgOf, evictLimit, evictScored]
        cases victim _ _ now cache q with
        | none => rfl
        | some key => simp only [removeBoth, mapRemove, retain]
      | random =>
        simp only [evictLimit, evictRandom, randBelow, dequeRemove, mapRemove]
        cases q with
        | nil => rfl
        | cons x xs =>
          obtain ⟨y, hy⟩ := random_slot r (List.cons_ne_nil x xs)
          simp only [hy, List.isEmpty_cons, Bool.not_false, if_true]
      | fifo | lru =>
        simp only [evictLimit]
        rw [whilePop_eq_popStored' (fun c : AsyncCache K V F => c.cache) (fun c m => { c with cache := m }) (fun _ => rfl)]
        intro a s; by_cases h : hasKey a s.cache = true <;> simp only [h, mapRemove, if_true, if_false, Bool.false_eq_true]
    · simp only [overLimit, hfull, decide_false, if_false, Bool.false_eq_true]

/-- **The async engine's `insert` is the model's `insert`.**  For every cache content and configuration, key, value, clock
    and random draw: the translated `AsyncGlobalCache::insert` (drop the old entry of the key, entry-limit step, push
    the key, store `(value, now in whole seconds, 0)`) leaves exactly the store and the queue of `Cachelito.insert`
    for the async flavour, and does not touch the configuration.  (`hs`, `ms` are the two statistics counters of the
    model state, which `insert` carries along and never reads: any values do.) -/
theorem insert_eq (A : F64 F) (c : AsyncCache K V F) (now r hs ms : Nat) (k : K) (v : V) (ok : ScoresOK A c) :
    Async.insert A ⟨fun _ => 0, now⟩ r c k v =
      { c with
        cache := (Cachelito.insert (cfgOf c) (srcTlruAsync A c.frequency_weight) r ⟨c.cache, c.order, now, hs, ms⟩ k v).store,
        order := (Cachelito.insert (cfgOf c) (srcTlruAsync A c.frequency_weight) r ⟨c.cache, c.order, now, hs, ms⟩ k v).queue } := by
  obtain ⟨cache, order, limit, mm, policy, ttl, fw, st⟩ := c
  unfold Async.insert
  simp only [is_already_key_inserted_eq]
  have ok' : ScoresOK A (AsyncCache.mk (eraseKey k cache) order limit mm policy ttl fw st) :=
    ok.congr rfl rfl (fun p hp => ok.hitsBelowMax p (mem_eraseKey hp))
  simp only [Bool.false_eq_true, if_false]
  rw [handle_entry_limit_eviction_eq A _ now r _ ok']
  simp only [Cachelito.insert, cfgOf, pushBack, mapInsert, asyncEntry, asSecs, stamp, dropOld_eq]

end Cachelito.T07
