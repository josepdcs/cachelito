/-
  T01 — TRANSLATOR TIE for the pure helper code (supports C05 / C16 / C07 / C08 / C06 / C15).

  `checklib/rust2lean.py` regenerates `Generated/PureMem.lean` and `Generated/PureUtils.lean` from /repo's CURRENT
  source on every check.  The theorems below are therefore re-proved, on every run, against what the code says NOW:
  they state that the translated functions ARE the corresponding definitions of the hand-written model.  A change to
  the source that alters what one of these functions computes breaks a proof here, whether or not any generated
  history reaches the difference.

  Part 1 — memory estimator (`memory_estimator.rs`, `cache_entry.rs`): for EVERY value shape, what the source's
  `estimate_memory` impls compute (with unchecked subtraction failing on underflow) is `MemEst.estimateChecked`.

  (Parts 2–5: `Props/T02.lean` utils.rs, `T03.lean` cache_entry.rs, `T04.lean` stats.rs, `T05.lean` eviction_policy.rs.)
-/
import Cachelito.Source.Mem
import Cachelito.Lemmas.MemEst


namespace Cachelito.T01
open Cachelito Cachelito.MemEst Cachelito.RustLite Cachelito.Generated Cachelito.Source.Mem

theorem usub_eq_csub (a b : Nat) : usub a b = csub a b := rfl

theorem mapM_pure {α β : Type} (g : α → β) : ∀ l : List α,
    RustLite.mapM (fun e => some (g e)) l = some (l.map g)
  | [] => rfl
  | x :: xs => by
      have ih := mapM_pure g xs
      simp [RustLite.mapM, ih]

theorem sum_cons (x : Nat) (xs : List Nat) : RustLite.sum (x :: xs) = x + RustLite.sum xs := rfl

theorem estSliceRef_eq (r : Nat) (subs : List Sub) :
    Mem.estSliceRef r subs = some (r + RustLite.sum (subs.map (·.est))) := by
  have h := mapM_pure (fun e : Sub => e.est) subs
  simp [Mem.estSliceRef, h]

theorem estVec_eq (v ei cap : Nat) (subs : List Sub) :
    Mem.estVec v ei cap subs = some (v + cap * ei + RustLite.sum (subs.map (fun s => s.est - s.szv))) := by
  have h := mapM_pure (fun e : Sub => e.est - e.szv) subs
  simp [Mem.estVec, ssub, h]

mutual
/-- **The source's estimator is the model's estimator**, for every shape of value: each `impl MemoryEstimator` of
    the current source, applied as Rust's trait resolution applies it, computes `estimateChecked` — including where
    an unchecked subtraction underflows (`none` on both sides). -/
theorem source_estimate_eq (L : Layout) : ∀ s : Shape, srcEstimate L s = estimateChecked L s
  | .prim i => rfl
  | .user _ e => rfl
  | .str cap => rfl
  | .strRef len => rfl
  | .sliceRef xs => by
      have h := source_subs_estSum L xs
      simp only [srcEstimate, estimateChecked]
      rw [← h]
      cases srcSubs L xs with
      | none => rfl
      | some subs => exact estSliceRef_eq _ subs
  | .vec ei cap xs => by
      have h := source_subs_extras L xs
      simp only [srcEstimate, estimateChecked]
      rw [← h]
      cases srcSubs L xs with
      | none => rfl
      | some subs => exact estVec_eq _ _ _ subs
  | .opt i none => rfl
  | .opt i (some v) => by
      simp only [srcEstimate, estimateChecked, source_estimate_eq L v, Mem.estOption, mapOrM, usub_eq_csub]
  | .res i true v | .res i false v => by
      simp only [srcEstimate, estimateChecked, source_estimate_eq L v, Mem.estResult, usub_eq_csub]
  -- the source subtracts after all fields are estimated, the model field by field: the same unless one of them fails
  | .tup2 i a b => by
      simp only [srcEstimate, estimateChecked, source_estimate_eq L a, source_estimate_eq L b, Mem.estTuple2, usub_eq_csub]
      cases estimateChecked L a with
      | none => rfl
      | some ea =>
        cases estimateChecked L b with
        | none => simp only [bind, Option.bind]; cases csub ea (MemEst.inline L a) <;> rfl
        | some eb => rfl
  | .tup3 i a b c => by
      simp only [srcEstimate, estimateChecked, source_estimate_eq L a, source_estimate_eq L b, source_estimate_eq L c,
        Mem.estTuple3, usub_eq_csub]
      cases estimateChecked L a with
      | none => rfl
      | some ea =>
        cases estimateChecked L b with
        | none => simp only [bind, Option.bind]; cases csub ea (MemEst.inline L a) <;> rfl
        | some eb =>
          cases estimateChecked L c with
          | none => simp only [bind, Option.bind]; cases csub ea (MemEst.inline L a) <;> cases csub eb (MemEst.inline L b) <;> rfl
          | some ec => rfl
  | .box v | .arc v | .rc v => by
      simp only [srcEstimate, estimateChecked, source_estimate_eq L v]
      cases estimateChecked L v <;> rfl
  | .entry i v => by
      simp only [srcEstimate, estimateChecked, source_estimate_eq L v]
      cases estimateChecked L v <;> rfl
/-- `&[T]`: the sum of the elements' estimates is the model's `estimateSumChecked` -/
theorem source_subs_estSum (L : Layout) : ∀ xs : List Shape,
    (srcSubs L xs >>= fun subs => some (RustLite.sum (subs.map (·.est)))) = estimateSumChecked L xs
  | [] => by simp [srcSubs, estimateSumChecked, RustLite.sum]
  | x :: xs => by
      have ih := source_subs_estSum L xs
      simp only [srcSubs, estimateSumChecked, source_estimate_eq L x]
      rw [← ih]
      cases estimateChecked L x <;> cases srcSubs L xs <;> rfl
/-- `Vec<T>`: the sum of the elements' heap extras is the model's `extrasSumChecked` -/
theorem source_subs_extras (L : Layout) : ∀ xs : List Shape,
    (srcSubs L xs >>= fun subs => some (RustLite.sum (subs.map (fun s => s.est - s.szv)))) = extrasSumChecked L xs
  | [] => by simp [srcSubs, extrasSumChecked, RustLite.sum]
  | x :: xs => by
      have ih := source_subs_extras L xs
      simp only [srcSubs, extrasSumChecked, source_estimate_eq L x]
      rw [← ih]
      cases estimateChecked L x <;> cases srcSubs L xs <;> rfl
end

end Cachelito.T01
