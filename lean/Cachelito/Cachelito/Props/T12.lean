/-
  T12 — TRANSLATOR TIE, thread_local_cache.rs: the LOOKUP PATH of the thread-local engine (`get`) — C01, C06, C07, C08, C14

  `Generated/PureThread.lean` is regenerated from /repo's CURRENT source on every check (statements of the `stats`
  feature included); the theorem is re-proved against whatever was generated.  The closure of `self.cache.with(|c| …)`
  that `return`s early is translated as a value block whose `return` leaves the closure only.

  `get_eq`: the translated `ThreadLocalCache::get` returns what the model's `Cachelito.get` (thread-local flavour)
  returns and leaves exactly its store, queue and counters.
-/
import Cachelito.Props.T11
import Cachelito.Props.T03
-- not used below: a change to what is tied there re-checks this module as well
import Cachelito.Props.T04


namespace Cachelito.T12
open Cachelito Cachelito.RustLite Cachelito.Generated Cachelito.SourceLemmas Cachelito.T11
open Cachelito.Generated.Thread

variable {K V F : Type} [DecidableEq K]

/-- **The thread-local engine's `get` is the model's `get`** -/
theorem get_eq (c : ThreadCache K V F) (now : Nat) (k : K) (hmax : ∀ p, p ∈ c.cache → p.2.hits < u64Max) :
    Thread.get ⟨fun b => now - b, now⟩ c k =
      ((Cachelito.get (cfgOf c) ⟨c.cache, c.order, now, c.stats.hits, c.stats.misses⟩ k).2,
       { c with
         cache := (Cachelito.get (cfgOf c) ⟨c.cache, c.order, now, c.stats.hits, c.stats.misses⟩ k).1.store,
         order := (Cachelito.get (cfgOf c) ⟨c.cache, c.order, now, c.stats.hits, c.stats.misses⟩ k).1.queue,
         stats := ⟨(Cachelito.get (cfgOf c) ⟨c.cache, c.order, now, c.stats.hits, c.stats.misses⟩ k).1.hitStat,
                   (Cachelito.get (cfgOf c) ⟨c.cache, c.order, now, c.stats.hits, c.stats.misses⟩ k).1.missStat⟩ }) := by
  obtain ⟨cache, order, limit, mm, policy, ttl, fw, ⟨sh, sm⟩⟩ := c
  have hexp : ∀ e : Entry V, Entry.is_expired ⟨fun b => now - b, now⟩ e ttl =
      expired (⟨.threadLocal, policy, limit, mm, ttl⟩ : Cfg) now e :=
    fun e => T03.is_expired_eq ⟨.threadLocal, policy, limit, mm, ttl⟩ Flavour.noConfusion now e
  unfold Thread.get Cachelito.get
  simp only [cfgOf]
  cases hl : lookup k cache with
  | none =>
    simp [Stats.record_miss, fetchAdd]
  | some e =>
    by_cases hx : expired (⟨.threadLocal, policy, limit, mm, ttl⟩ : Cfg) now e = true
    · simp [hexp, hx, remove_key_eq, removeBoth, Stats.record_miss, fetchAdd]
    · have hinc : ∀ (o : List K), Thread.increment_frequency (ThreadCache.mk cache o limit mm policy ttl fw ⟨sh + 1, sm⟩) k =
          ThreadCache.mk (bumpHits k cache) o limit mm policy ttl fw ⟨sh + 1, sm⟩ :=
        fun o => increment_frequency_eq _ k hmax
      simp only [hexp, hx, Bool.false_eq_true, if_false, Stats.record_hit, fetchAdd, hitUpdate, move_to_end_eq]
      cases policy <;> simp [Policy.bumps, Policy.refreshes, hinc]

end Cachelito.T12
