/-
  C10 — `cache_if` decides, per result, whether it is stored.

  Wrapper level (`Cachelito.callFn`), for a function with a `cache_if` predicate
  (`spec.hasCacheIf = true`).  The predicate is an ORACLE supplied per call (`c.cacheIf`), so arbitrary
  accept/reject scripts over key and value — including predicates whose verdict changes between calls —
  are covered.  Every statement holds for every flavour, policy, limit, TTL, `max_memory`, both engine
  stores (`spec.useMem`), with or without `invalidate_on`, Result or not, unless a hypothesis says
  otherwise.
-/
import Cachelito.Lemmas.Wrapper

set_option linter.unusedSectionVars false

namespace Cachelito.C10
open Cachelito Cachelito.Wrap
variable {K V S : Type} [DecidableEq K]

/-- (1a) **Consulted once per execution, right after it, on that call's key and result.**  When the body
    runs, the trace is `pre ++ [bodyRun, predCalled key result verdict] ++ post` where neither `pre` nor
    `post` contains a `bodyRun` or a `predCalled`. -/
theorem pred_once_after_body (spec : FnSpec) (hC : spec.hasCacheIf = true) (tl : Tlru S) (size : V → Nat)
    (isOk : V → Bool) (rs : List Nat) (s : State K V) (c : CallIn K V) (hb : runsBody spec s c = true) :
    ∃ pre post, (callFn spec tl size isOk rs s c).2.2 =
        pre ++ [TraceEv.bodyRun, TraceEv.predCalled c.key c.bodyVal (c.cacheIf c.key c.bodyVal)] ++ post ∧
      (∀ ev ∈ pre, TraceEv.isExec ev = false) ∧ (∀ ev ∈ post, TraceEv.isExec ev = false) := by
  refine ⟨checkPart spec s c, tailPart spec isOk c, ?_, ?_, ?_⟩
  · rw [callFn_body spec tl size isOk rs s c hb, predPart_pred spec c hC]
    simp only [List.append_assoc, List.cons_append, List.nil_append]
  · intro ev h
    obtain ⟨_, v, _, rfl⟩ := mem_checkPart.mp h
    rfl
  · intro ev h
    rcases mem_tailPart.mp h with ⟨_, rfl⟩ | rfl <;> rfl

/-- (1b) **Not consulted on a hit.**  When the body does not run (the call is served from the cache), the
    trace contains neither `bodyRun` nor `predCalled`. -/
theorem pred_not_called_on_hit (spec : FnSpec) (tl : Tlru S) (size : V → Nat)
    (isOk : V → Bool) (rs : List Nat) (s : State K V) (c : CallIn K V) (hb : runsBody spec s c = false) :
    TraceEv.bodyRun ∉ (callFn spec tl size isOk rs s c).2.2 ∧
    ∀ k v a, TraceEv.predCalled k v a ∉ (callFn spec tl size isOk rs s c).2.2 := by
  have h : ∀ ev ∈ (callFn spec tl size isOk rs s c).2.2, ¬ TraceEv.isExec ev = true :=
    List.filter_eq_nil_iff.mp (by rw [filter_isExec_trace, hb]; rfl)
  exact ⟨fun hm => h _ hm rfl, fun k v a hm => h _ hm rfl⟩

/-- (1, histories) over every history of calls and ticks from any state, every call's trace has exactly
    one predicate consultation — with that call's key, result and verdict — after each body execution, and
    none otherwise. -/
theorem exec_events_history (spec : FnSpec) (hC : spec.hasCacheIf = true) (tl : Tlru S) (size : V → Nat)
    (isOk : V → Bool) (s : State K V) (h : List (WEv K V)) :
    (runCalls spec tl size isOk s h).2.length = (callsOf h).length ∧
    ∀ p ∈ (callsOf h).zip (runCalls spec tl size isOk s h).2,
      p.2.2.filter TraceEv.isExec =
          [TraceEv.bodyRun, TraceEv.predCalled p.1.key p.1.bodyVal (p.1.cacheIf p.1.key p.1.bodyVal)] ∨
      p.2.2.filter TraceEv.isExec = [] := by
  refine ⟨runCalls_length spec tl size isOk s h, ?_⟩
  apply runCalls_forall_zip spec tl size isOk
    (fun c out => out.2.filter TraceEv.isExec =
        [TraceEv.bodyRun, TraceEv.predCalled c.key c.bodyVal (c.cacheIf c.key c.bodyVal)] ∨
      out.2.filter TraceEv.isExec = [])
  intro s c rs
  show (callFn spec tl size isOk rs s c).2.2.filter TraceEv.isExec = _ ∨ _
  rw [filter_isExec_trace, predPart_pred spec c hC]
  cases runsBody spec s c
  · exact Or.inr rfl
  · exact Or.inl rfl

/-- a rejected result is never handed to the engine, whatever the other settings -/
theorem rejected_not_wouldStore (spec : FnSpec) (hC : spec.hasCacheIf = true) (isOk : V → Bool)
    (c : CallIn K V) (hrej : c.cacheIf c.key c.bodyVal = false) : wouldStore spec isOk c = false := by
  unfold wouldStore shouldStore
  cases spec.isAsync <;> simp [hC, hrej]

/-- (2) **Rejected ⇒ not stored, so the key stays absent.**  A call whose result the predicate rejects
    leaves the post-lookup state (`callFn_state`); if the key was not cached before, it is not cached after
    it (no assumption on limits, memory or TTL). -/
theorem rejected_stays_absent (spec : FnSpec) (hC : spec.hasCacheIf = true) (tl : Tlru S) (size : V → Nat)
    (isOk : V → Bool) (rs : List Nat) (s : State K V) (c : CallIn K V)
    (hrej : c.cacheIf c.key c.bodyVal = false) (habs : lookup c.key s.store = none) :
    lookup c.key (callFn spec tl size isOk rs s c).1.store = none := by
  rw [callFn_state, rejected_not_wouldStore spec hC isOk c hrej, Bool.and_false]
  exact get_absent spec.cfg s c.key c.key habs

/-- (2c) **…and the next call runs the body again.**  From a state that does not hold `k`, after any
    history in which every call for `k` had its result rejected (calls for other keys and ticks are
    unrestricted), `k` is still not held, so a call for `k` executes the body, consults the predicate on
    its own result, and returns the body's value. -/
theorem rejected_next_call_runs_body (spec : FnSpec) (hC : spec.hasCacheIf = true) (tl : Tlru S)
    (size : V → Nat) (isOk : V → Bool) (s : State K V) (k : K) (h : List (WEv K V))
    (habs : lookup k s.store = none)
    (hrej : ∀ c ∈ callsOf h, c.key = k → c.cacheIf c.key c.bodyVal = false)
    (c' : CallIn K V) (rs' : List Nat) (hk : c'.key = k) :
    lookup k (runCalls spec tl size isOk s h).1.store = none ∧
    runsBody spec (runCalls spec tl size isOk s h).1 c' = true ∧
    (callFn spec tl size isOk rs' (runCalls spec tl size isOk s h).1 c').2.1 = c'.bodyVal ∧
    (callFn spec tl size isOk rs' (runCalls spec tl size isOk s h).1 c').2.2.filter TraceEv.isExec =
      [TraceEv.bodyRun, TraceEv.predCalled c'.key c'.bodyVal (c'.cacheIf c'.key c'.bodyVal)] := by
  have habs' : lookup k (runCalls spec tl size isOk s h).1.store = none := by
    rw [← heldSat_false_iff]
    apply runCalls_heldSat spec tl size isOk k (fun _ => False) h
    · intro c hc hck hw
      rw [rejected_not_wouldStore spec hC isOk c (hrej c hc hck)] at hw
      exact Bool.false_ne_true hw
    · rw [heldSat_false_iff]; exact habs
  have hb : runsBody spec (runCalls spec tl size isOk s h).1 c' = true :=
    runsBody_of_absent spec _ c' (by rw [hk]; exact habs')
  refine ⟨habs', hb, ?_, ?_⟩
  · rw [callFn_body spec tl size isOk rs' _ c' hb]
  · rw [filter_isExec_trace, hb, predPart_pred spec c' hC]; rfl

/-- the store condition under `cache_if`: accepted, and `Ok` if the function is a SYNC Result function -/
theorem accepted_wouldStore (spec : FnSpec) (hC : spec.hasCacheIf = true) (isOk : V → Bool)
    (c : CallIn K V) (hacc : c.cacheIf c.key c.bodyVal = true)
    (hok : spec.isAsync = false → spec.isResult = true → isOk c.bodyVal = true) :
    wouldStore spec isOk c = true := by
  unfold wouldStore shouldStore
  cases hA : spec.isAsync
  · cases hR : spec.isResult
    · simp [hC, hacc]
    · simp [hC, hacc, hok hA hR]
  · simp [hC, hacc]

/-- (3a) **Accepted ⇒ stored.**  If the body runs and the predicate accepts its result (and, for a sync
    Result function, the result is `Ok`), exactly `(key, result)` is handed to the engine store the macro
    selected, on the post-lookup state, and the trace records `stored key result`. -/
theorem accepted_stored (spec : FnSpec) (hC : spec.hasCacheIf = true) (tl : Tlru S) (size : V → Nat)
    (isOk : V → Bool) (rs : List Nat) (s : State K V) (c : CallIn K V) (hb : runsBody spec s c = true)
    (hacc : c.cacheIf c.key c.bodyVal = true)
    (hok : spec.isAsync = false → spec.isResult = true → isOk c.bodyVal = true) :
    (callFn spec tl size isOk rs s c).1 =
      (if spec.useMem then insertMem spec.cfg tl size rs (get spec.cfg s c.key).1 c.key c.bodyVal
       else insert spec.cfg tl (rs.headD 0) (get spec.cfg s c.key).1 c.key c.bodyVal) ∧
    TraceEv.stored c.key c.bodyVal ∈ (callFn spec tl size isOk rs s c).2.2 := by
  have hw := accepted_wouldStore spec hC isOk c hacc hok
  exact ⟨callFn_state_stored spec tl size isOk rs s c hb hw,
    (stored_mem_iff spec tl size isOk rs s c _ _).mpr ⟨hb, hw, rfl, rfl⟩⟩

/-- (3b) **…and served on the next call.**  Without eviction pressure or expiry (`limit = none`, no
    effective memory bound, `ttl = none`) and without `invalidate_on`: after a call that ran the body and
    whose result was accepted (and `Ok` for sync Result functions), and after ANY further history of ticks
    and calls, a call for the key returns that value from the cache, with trace `[returned value (from
    cache)]`: no `bodyRun`, no `predCalled`.  (With `invalidate_on`: `Wrap.stored_then_served`.) -/
theorem accepted_then_served_noinv (spec : FnSpec) (hC : spec.hasCacheIf = true)
    (hI : spec.hasInvalidateOn = false) (hnp : NoPressure spec)
    (tl : Tlru S) (size : V → Nat) (isOk : V → Bool) (s : State K V) (c : CallIn K V) (rs : List Nat)
    (hb : runsBody spec s c = true) (hacc : c.cacheIf c.key c.bodyVal = true)
    (hok : spec.isAsync = false → spec.isResult = true → isOk c.bodyVal = true)
    (h2 : List (WEv K V)) (c' : CallIn K V) (rs' : List Nat) (hk : c'.key = c.key) :
    (callFn spec tl size isOk rs'
        (runCalls spec tl size isOk (callFn spec tl size isOk rs s c).1 h2).1 c').2 =
      (c.bodyVal, [TraceEv.returned c.bodyVal true]) := by
  rw [stored_then_served spec hnp tl size isOk s c rs hb (accepted_wouldStore spec hC isOk c hacc hok) h2
    (fun _ _ _ => Or.inl hI) c' rs' hk (fun _ => Or.inl hI), hI]
  rfl

/-- (4a) **The store happens iff `shouldStore`.**  The trace contains a `stored` event iff the body ran and
    `shouldStore` holds of the predicate's verdict and the result; the event then carries this call's key
    and result, and the state is the engine store applied to the post-lookup state — otherwise the state is
    the post-lookup state. -/
theorem store_iff_shouldStore (spec : FnSpec) (tl : Tlru S) (size : V → Nat)
    (isOk : V → Bool) (rs : List Nat) (s : State K V) (c : CallIn K V) :
    ((∃ k v, TraceEv.stored k v ∈ (callFn spec tl size isOk rs s c).2.2) ↔
      (runsBody spec s c = true ∧ shouldStore spec isOk (c.cacheIf c.key c.bodyVal) c.bodyVal = true)) ∧
    (∀ k v, TraceEv.stored k v ∈ (callFn spec tl size isOk rs s c).2.2 → k = c.key ∧ v = c.bodyVal) ∧
    (callFn spec tl size isOk rs s c).1 =
      if runsBody spec s c && shouldStore spec isOk (c.cacheIf c.key c.bodyVal) c.bodyVal
      then (if spec.useMem then insertMem spec.cfg tl size rs (get spec.cfg s c.key).1 c.key c.bodyVal
            else insert spec.cfg tl (rs.headD 0) (get spec.cfg s c.key).1 c.key c.bodyVal)
      else (get spec.cfg s c.key).1 := by
  refine ⟨⟨?_, ?_⟩, ?_, ?_⟩
  · rintro ⟨k, v, hm⟩
    rw [stored_mem_iff] at hm; exact ⟨hm.1, hm.2.1⟩
  · rintro ⟨h1, h2⟩
    exact ⟨c.key, c.bodyVal, (stored_mem_iff spec tl size isOk rs s c _ _).mpr ⟨h1, h2, rfl, rfl⟩⟩
  · intro k v hm
    rw [stored_mem_iff] at hm; exact ⟨hm.2.2.1, hm.2.2.2⟩
  · rw [callFn_state]; rfl

/-- (4b) sync function, not a Result: stored iff the predicate accepts -/
theorem shouldStore_sync_plain (spec : FnSpec) (hC : spec.hasCacheIf = true) (hA : spec.isAsync = false)
    (hR : spec.isResult = false) (isOk : V → Bool) (accept : Bool) (v : V) :
    shouldStore spec isOk accept v = accept := by
  simp [shouldStore, hC, hA, hR]

/-- (4c) sync Result function: stored iff the predicate accepts AND the result is `Ok`
    (`insert_result*` drops an `Err` even when the predicate accepted it) -/
theorem shouldStore_sync_result (spec : FnSpec) (hC : spec.hasCacheIf = true) (hA : spec.isAsync = false)
    (hR : spec.isResult = true) (isOk : V → Bool) (accept : Bool) (v : V) :
    shouldStore spec isOk accept v = (accept && isOk v) := by
  simp [shouldStore, hC, hA, hR]

set_option linter.unusedVariables false in
/-- (4d) async function, not a Result: stored iff the predicate accepts -/
theorem shouldStore_async_plain (spec : FnSpec) (hC : spec.hasCacheIf = true) (hA : spec.isAsync = true)
    (hR : spec.isResult = false) (isOk : V → Bool) (accept : Bool) (v : V) :
    shouldStore spec isOk accept v = accept := by
  simp [shouldStore, hC, hA]

set_option linter.unusedVariables false in
/-- (4e) async Result function: stored iff the predicate accepts — `Ok`/`Err` is NOT looked at (the
    predicate replaces the `is_ok()` test), so an accepted `Err` is cached -/
theorem shouldStore_async_result (spec : FnSpec) (hC : spec.hasCacheIf = true) (hA : spec.isAsync = true)
    (hR : spec.isResult = true) (isOk : V → Bool) (accept : Bool) (v : V) :
    shouldStore spec isOk accept v = accept := by
  simp [shouldStore, hC, hA]

/-! ### Non-vacuity (`K = V = Nat`; predicate "value > 10"; even = Ok) -/

def exTl : Tlru Nat := ⟨fun a b => decide (a < b), fun _ h _ r => h * r⟩
def exOk (v : Nat) : Bool := v % 2 == 0
def big (_ : Nat) (v : Nat) : Bool := decide (v > 10)
def mk (k v : Nat) : WEv Nat Nat := .call ⟨k, v, big, fun _ _ => false⟩ []

/-- thread-local, FIFO, limit 2, memory-aware store, not a Result -/
def specT : FnSpec :=
  { name := "f", isAsync := false, threadScope := true, cfg := ⟨.threadLocal, .fifo, some 2, some 1000, none⟩,
    useMem := true, isResult := false, hasCacheIf := true, hasInvalidateOn := false,
    tags := [], events := [], deps := [] }
/-- sync global Result function, LRU -/
def specR : FnSpec := { specT with threadScope := false, cfg := ⟨.global, .lru, some 2, none, some 60⟩,
                                   useMem := false, isResult := true }
/-- async Result function, ARC -/
def specAR : FnSpec := { specR with isAsync := true, cfg := ⟨.async, .arc, some 2, none, none⟩ }

/-- rejected (5 ≤ 10) twice: body and predicate run on both calls; accepted (20): stored; then served with
    neither body nor predicate -/
example : (runCalls specT exTl id exOk (State.init : State Nat Nat) [mk 1 5, mk 1 7, mk 1 20, mk 1 30]).2 =
    [(5, [.bodyRun, .predCalled 1 5 false, .returned 5 false]),
     (7, [.bodyRun, .predCalled 1 7 false, .returned 7 false]),
     (20, [.bodyRun, .predCalled 1 20 true, .stored 1 20, .returned 20 false]),
     (20, [.returned 20 true])] := by decide +kernel

/-- sync Result: an accepted Err (13) is NOT stored, an accepted Ok (14) is -/
example : (runCalls specR exTl id exOk (State.init : State Nat Nat) [mk 1 13, mk 1 14, mk 1 15]).2 =
    [(13, [.bodyRun, .predCalled 1 13 true, .returned 13 false]),
     (14, [.bodyRun, .predCalled 1 14 true, .stored 1 14, .returned 14 false]),
     (14, [.returned 14 true])] := by decide +kernel

/-- async Result: an accepted Err (13) IS stored and served -/
example : (runCalls specAR exTl id exOk (State.init : State Nat Nat) [mk 1 13, mk 1 14]).2 =
    [(13, [.bodyRun, .predCalled 1 13 true, .stored 1 13, .returned 13 false]),
     (13, [.returned 13 true])] := by decide

/-- the execution-event filter on a concrete trace -/
example : ([.bodyRun, .predCalled 1 20 true, .stored 1 20, .returned 20 false] :
    List (TraceEv Nat Nat)).filter TraceEv.isExec = [.bodyRun, .predCalled 1 20 true] := by decide

/-- hypotheses of (3b) are satisfiable -/
def specU : FnSpec := { specT with cfg := ⟨.threadLocal, .lfu, none, none, none⟩ }
example : NoPressure specU := ⟨⟨rfl, Or.inl rfl⟩, rfl⟩
example : runsBody specU (State.init : State Nat Nat) ⟨1, 20, big, fun _ _ => false⟩ = true := by decide

end Cachelito.C10
