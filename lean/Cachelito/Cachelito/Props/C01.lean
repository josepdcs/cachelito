/-
  C01 — A cached call returns exactly what the uncached function would return.

  Part (a), engine level: *last store wins*.  Whatever operations (lookups, plain and memory-aware
  stores, clears, conditional invalidations, clock ticks), evictions and expirations came before,
  a lookup of `k` that serves a value serves the value of the LATEST store under `k` in the
  history — never a value stored under another key, never an older value of the same key.

  `lastStored h k` (defined in `Lemmas/Hist.lean`) is a pure function of the history prefix, the value
  component of `lastStore h k`, whose meaning is given by `lastStore_eq_some_iff`: the history splits as
  `pre ++ store :: post` with `store ∈ {insert k v, insertMem k v}` and no store under `k` in `post`.

  All statements quantify over every flavour (sync global, thread-local, async), every policy,
  limit, ttl, max_memory, every TLRU score algebra `tl`, every size function, every stream of
  random draws and every finite history.

  Part (b), wrapper level, is `Props/C01b.lean` (`returns_body_value`, `entry_provenance`).
-/
import Cachelito.Lemmas.Hist

namespace Cachelito.C01
open Cachelito Cachelito.Hist
variable {K V S : Type} [DecidableEq K]

/-- The history invariant is kept by every further history started in any state that
    satisfies it (`h0` is the history that led to `s`): every stored entry holds the value of the
    latest store of its key. -/
theorem store_holds_last_store_from (cfg : Cfg) (tl : Tlru S) (size : V → Nat) (h0 : List (Op K V × List Nat))
    (s : State K V) (hh : HInv cfg h0 s) (ops : List (Op K V × List Nat))
    (k : K) (e : Entry V) (h : lookup k (run cfg tl size s ops).1.store = some e) :
    lastStored (h0 ++ ops) k = some e.val := by
  obtain ⟨t, h1, _⟩ := (run_hinv cfg tl size h0 s ops hh).2 k e h
  unfold lastStored; rw [h1]; rfl

set_option linter.unusedVariables false in
/-- Last store wins for a history continued from any state that satisfies the history invariant for the
    history `h0` that led to it (`hi` is not needed: the history invariant does not rest on the
    bookkeeping invariant). -/
theorem get_returns_last_store_from (cfg : Cfg) (tl : Tlru S) (size : V → Nat) (h0 : List (Op K V × List Nat))
    (s : State K V) (hi : Inv s) (hh : HInv cfg h0 s) (ops : List (Op K V × List Nat))
    (i : Nat) (k : K) (rs : List Nat) (v : V) (hop : ops[i]? = some (.get k, rs))
    (hout : (run cfg tl size s ops).2[i]? = some (.val (some v))) :
    lastStored (h0 ++ ops.take i) k = some v := by
  rw [run_out_at cfg tl size _ ops i _ rs hop, step_get] at hout
  obtain ⟨e, he, _, hv⟩ := get_some_elim (Out.val.inj (Option.some.inj hout))
  rw [← hv]
  exact store_holds_last_store_from cfg tl size h0 s hh (ops.take i) k e he

/-- **C01 (a), last store wins.**  For every history from the empty cache: if the `i`-th operation is
    `get k` and it returns `some v`, then `v` is the value of the latest `insert k ·` / `insertMem k ·`
    among the first `i` operations. -/
theorem get_returns_last_store (cfg : Cfg) (tl : Tlru S) (size : V → Nat) (ops : List (Op K V × List Nat))
    (i : Nat) (k : K) (rs : List Nat) (v : V) (hop : ops[i]? = some (.get k, rs))
    (hout : (run cfg tl size (State.init : State K V) ops).2[i]? = some (.val (some v))) :
    lastStored (ops.take i) k = some v :=
  get_returns_last_store_from cfg tl size [] State.init inv_init (hinv_init cfg) ops i k rs v hop hout

/-- **C01 (a), spelled out.**  A served value was stored under the SAME key (not under another key)
    and by the LAST store under that key (not by an older one): the prefix before the lookup splits as
    `pre ++ store :: post` where `store` is `insert k v` or `insertMem k v` and `post` contains no
    store under `k`. -/
theorem get_returns_last_store_explicit (cfg : Cfg) (tl : Tlru S) (size : V → Nat)
    (ops : List (Op K V × List Nat)) (i : Nat) (k : K) (rs : List Nat) (v : V)
    (hop : ops[i]? = some (.get k, rs))
    (hout : (run cfg tl size (State.init : State K V) ops).2[i]? = some (.val (some v))) :
    ∃ pre post op rs', ops.take i = pre ++ (op, rs') :: post ∧ (op = .insert k v ∨ op = .insertMem k v) ∧
      ∀ k' v' rs'', (Op.insert k' v', rs'') ∈ post ∨ (Op.insertMem k' v', rs'') ∈ post → k' ≠ k := by
  obtain ⟨t, ht⟩ :=
    (lastStored_eq_some_iff (ops.take i) k v).mp (get_returns_last_store cfg tl size ops i k rs v hop hout)
  obtain ⟨pre, post, op, rs', h1, h2, h3, _⟩ := (lastStore_eq_some_iff (ops.take i) k v t).mp ht
  refine ⟨pre, post, op, rs', h1, h2, ?_⟩
  intro k' v' rs'' hm hk
  subst hk
  rcases hm with hm | hm
  · have := h3 _ hm; rw [storesOf_insert, if_pos rfl] at this; cases this
  · have := h3 _ hm; rw [storesOf_insertMem, if_pos rfl] at this; cases this

/-- Never an older value: if a later store under `k` (value `v2`) follows, with no further store under
    `k` before the lookup, a lookup that serves anything serves `v2`. -/
theorem replaced_value_never_served (cfg : Cfg) (tl : Tlru S) (size : V → Nat)
    (ops : List (Op K V × List Nat)) (i : Nat) (k : K) (rs : List Nat) (v v2 : V)
    (hop : ops[i]? = some (.get k, rs))
    (hout : (run cfg tl size (State.init : State K V) ops).2[i]? = some (.val (some v)))
    (pre post : List (Op K V × List Nat)) (op : Op K V) (rs' : List Nat)
    (hsplit : ops.take i = pre ++ (op, rs') :: post) (hstore : op = .insert k v2 ∨ op = .insertMem k v2)
    (hpost : ∀ p ∈ post, storesOf k p.1 = none) : v = v2 := by
  have h1 := get_returns_last_store cfg tl size ops i k rs v hop hout
  have h2 := (lastStored_eq_some_iff (ops.take i) k v2).mpr
    ⟨_, (lastStore_eq_some_iff (ops.take i) k v2 _).mpr ⟨pre, post, op, rs', hsplit, hstore, hpost, rfl⟩⟩
  rw [h1] at h2
  exact Option.some.inj h2

/-! ### Non-vacuity

  Two values are stored under key 1 (10, then 11) and one under key 2; the lookups serve 11 and 20 —
  the latest store of each key, and `lastStored` of the prefix says the same.  Checked for the
  async flavour (where the unrepaired code kept the FIRST value, finding F1) and for the sync global
  flavour, both with an entry limit of 2 that these three stores do not exceed; an eviction in between
  and a memory-aware re-store come with `exOpsEvict` below. -/

def exTl : Tlru Nat := ⟨fun a b => decide (a < b), fun _ h _ r => h * r⟩
def exOps : List (Op Nat Nat × List Nat) :=
  [(.insert 1 10, []), (.insert 2 20, []), (.insert 1 11, []), (.get 1, []), (.get 2, []), (.get 3, [])]
def exAsync : Cfg := ⟨.async, .lru, some 2, none, none⟩
def exGlobal : Cfg := ⟨.global, .fifo, some 2, none, some 5⟩
def exThread : Cfg := ⟨.threadLocal, .lfu, none, some 100, none⟩

example : ((run exAsync exTl (fun _ => 0) (State.init : State Nat Nat) exOps).2.map outVal) =
    [none, none, none, some (some 11), some (some 20), some none] := by decide
example : ((run exGlobal exTl (fun _ => 0) (State.init : State Nat Nat) exOps).2.map outVal) =
    [none, none, none, some (some 11), some (some 20), some none] := by decide
example : lastStored (exOps.take 3) 1 = some 11 ∧ lastStored (exOps.take 4) 2 = some 20 ∧
    lastStored (exOps.take 5) 3 = none := by decide
/-- the hypotheses of `get_returns_last_store` are satisfiable: operation 3 is `get 1` and serves 11 -/
example : exOps[3]? = some (.get 1, []) ∧
    ((run exAsync exTl (fun _ => 0) (State.init : State Nat Nat) exOps).2[3]?).map outVal = some (some (some 11)) :=
  ⟨rfl, by decide⟩

/-- a limit of 1 evicts key 1 before it is looked up: nothing is served (never a value of key 2) -/
def exOpsEvict : List (Op Nat Nat × List Nat) :=
  [(.insert 1 10, []), (.insert 2 20, []), (.get 1, []), (.insertMem 2 21, []), (.get 2, [])]
example : ((run ⟨.async, .fifo, some 1, none, none⟩ exTl (fun _ => 1) (State.init : State Nat Nat) exOpsEvict).2.map outVal)
    = [none, none, some none, none, some (some 21)] := by decide
example : ((run exThread exTl (fun _ => 1) (State.init : State Nat Nat) exOpsEvict).2.map outVal)
    = [none, none, some (some 10), none, some (some 21)] := by decide

end Cachelito.C01
