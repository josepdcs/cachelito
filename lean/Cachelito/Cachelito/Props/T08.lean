/-
  T08 — TRANSLATOR TIE, global_cache.rs: the STORE PATH of the sync global engine
  (`insert`, `handle_entry_limit_eviction`) — C01, C04, C07, C08, C18

  `Generated/PureGlobal.lean` is regenerated from /repo's CURRENT source on every check; the theorems are re-proved
  against whatever was generated.  `self` is the record `RustLite.GlobalCache` (the map behind its `RwLock`, the order
  queue behind its mutex, the configuration); guards (`let mut o = self.order.lock()`, `let mut map_write =
  self.map.write()`) are aliases of those fields written back where their block ends; the translation is SEQUENTIAL — what
  one thread computes when nothing interleaves (the interleavings are C18's model, whose micro-steps are cut out of
  exactly this function).  The helpers it calls are the translated `utils.rs` functions of `Props/T02.lean`.

  Main theorem `insert_eq`: for every cache content, configuration, key, value, clock and draw, the translated
  `GlobalCache::insert` leaves exactly the store and queue of the model's `Cachelito.insert` (global flavour).
-/
import Cachelito.Generated.PureGlobal
import Cachelito.Props.T02
-- not used below: a change to what is tied there re-checks this module as well
import Cachelito.Props.T07


namespace Cachelito.T08
open Cachelito Cachelito.RustLite Cachelito.Generated Cachelito.SourceLemmas
open Cachelito.Generated.Global

variable {K V F : Type} [DecidableEq K]

def cfgOf (c : GlobalCache K V F) : Cfg := ⟨.global, c.policy, c.limit, c.max_memory, c.ttl⟩

/-- the assumptions under which the float scores order like the documented score (DESIGN.md §9) -/
structure ScoresOK (A : F64 F) (c : GlobalCache K V F) : Prop where
  hitsBelowMax : ∀ p, p ∈ c.map → p.2.hits < u64Max
  arcBelowMax : ∀ a b, A.lt (A.mul (A.ofNat a) (A.ofNat b)) A.maxVal = true
  arcOrder : ∀ a b c d, A.lt (A.mul (A.ofNat a) (A.ofNat b)) (A.mul (A.ofNat c) (A.ofNat d)) = decide (a * b < c * d)
  tlruBelowMax : ∀ hits el rk, A.lt ((T02.srcTlru A c.frequency_weight).score (cfgOf c) hits el rk) A.maxVal = true

omit [DecidableEq K] in
/-- `ScoresOK` looks at the cache only through its configuration, its weight and its hit counters -/
theorem ScoresOK.congr {A : F64 F} {c c' : GlobalCache K V F} (ok : ScoresOK A c) (hc : cfgOf c' = cfgOf c)
    (hw : c'.frequency_weight = c.frequency_weight) (hh : ∀ p, p ∈ c'.map → p.2.hits < u64Max) : ScoresOK A c' :=
  ⟨hh, ok.arcBelowMax, ok.arcOrder, by rw [hc, hw]; exact ok.tlruBelowMax⟩

/-- **The entry-limit step of the sync global engine** is the model's `limitStep` -/
theorem handle_entry_limit_eviction_eq (A : F64 F) (c : GlobalCache K V F) (now r : Nat) (q : List K)
    (ok : ScoresOK A c) :
    handle_entry_limit_eviction A ⟨fun b => now - b, now⟩ r c q =
      ({ c with map := (limitStep (cfgOf c) (T02.srcTlru A c.frequency_weight) now r c.map q).1 },
       (limitStep (cfgOf c) (T02.srcTlru A c.frequency_weight) now r c.map q).2) := by
  obtain ⟨map, order, limit, mm, policy, ttl, fw, st⟩ := c
  unfold handle_entry_limit_eviction limitStep
  dsimp only [cfgOf]
  cases limit with
  | none => rfl
  | some n =>
    by_cases hfull : q.length > n
    · simp only [overLimit, hfull, decide_true, if_true]
      obtain ⟨hlfu, harc, htlru⟩ := T02.find_victim_eq A fw ⟨.global, policy, some n, mm, ttl⟩ now Flavour.noConfusion map q
        (hits_lookup ok.hitsBelowMax) ok.arcBelowMax ok.arcOrder ok.tlruBelowMax
      cases policy with
      | lfu | arc | tlru =>
        simp only [hlfu, harc, htlru, evictLimit, evictScored]
        cases victim _ _ now map q with
        | none => rfl
        | some key => simp only [(T02.remove_key_eq _ _ _).1, removeBoth]
      | random =>
        simp only [evictLimit, evictRandom, randBelow, dequeRemove, mapRemove]
        cases q with
        | nil => rfl
        | cons x xs =>
          obtain ⟨y, hy⟩ := random_slot r (List.cons_ne_nil x xs)
          simp only [hy, List.isEmpty_cons, Bool.not_false, if_true]
      | fifo | lru =>
        simp only [evictLimit]
        rw [whilePop_eq_popStored' (fun m : Store K V => m) (fun _ m => m) (fun _ => rfl)]
        intro a s; by_cases h : hasKey a s = true <;> simp only [h, mapRemove, if_true, if_false, Bool.false_eq_true]
    · simp only [overLimit, hfull, decide_false, if_false, Bool.false_eq_true]

/-- **The sync global engine's `insert` is the model's `insert`.**  For every cache content and configuration, key,
    value, clock and random draw: the translated `GlobalCache::insert` (store the fresh entry, re-queue the key at the
    back, entry-limit step) leaves exactly the store and the queue of `Cachelito.insert` for the global flavour, and does
    not touch the configuration. -/
theorem insert_eq (A : F64 F) (c : GlobalCache K V F) (now r hs ms : Nat) (k : K) (v : V) (ok : ScoresOK A c) :
    Global.insert A ⟨fun b => now - b, now⟩ r c k v =
      { c with
        map := (Cachelito.insert (cfgOf c) (T02.srcTlru A c.frequency_weight) r ⟨c.map, c.order, now, hs, ms⟩ k v).store,
        order := (Cachelito.insert (cfgOf c) (T02.srcTlru A c.frequency_weight) r ⟨c.map, c.order, now, hs, ms⟩ k v).queue } := by
  obtain ⟨map, order, limit, mm, policy, ttl, fw, st⟩ := c
  unfold Global.insert
  -- the leading `let`s of the translated text, in its order: the key, the fresh entry, the cache with the entry stored,
  -- then the guarded queue as read, with the key's slot removed, with the key pushed back (the text calls all three `o`)
  extract_lets +onlyGivenNames key_s entry self0 o1 o2 o3
  rw [show o3 = erasePush k order from requeue_eq k order]
  simp only [self0, entry, key_s, mapInsert, newEntry]
  have ok' : ScoresOK A (GlobalCache.mk (put k ⟨v, now, 0⟩ map) order limit mm policy ttl fw st) :=
    ok.congr rfl rfl (hits_put ok.hitsBelowMax k v now)
  rw [handle_entry_limit_eviction_eq A _ now r _ ok']
  rfl

end Cachelito.T08
