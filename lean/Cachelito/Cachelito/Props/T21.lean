/-
  T21 — TRANSLATOR TIE, cachelito-macro-utils/src/lib.rs: how the cache key is ASSEMBLED (C02, C03, C14, C19)

  `generate_key_expr_with_cacheable_key` (`#[cache]`) and `generate_key_expr` (`#[cache_async]`) are EVALUATED by
  `checklib/rust2lean.py` on /repo's CURRENT source for methods and free functions with 0..4 arguments and the resulting key
  expression is translated (`Generated/PureKeys.lean`, 20 definitions); the rendering of one part (`to_cache_key()` /
  `format!("{:?}", x)`) is taken as given — it is C02's subject, tied by the `keys` stream.

  Theorems: every generated key expression is the model's key — ALL parts, the receiver first, then the arguments in
  order, joined by `|`; the empty string when there are none (`Keys.keyOf`, the function C02's injectivity theorem is
  about).  A key builder that drops the receiver for some arity, reorders parts, changes the separator or abbreviates the
  joined string no longer satisfies these equalities.
-/
import Cachelito.Generated.PureKeys
import Cachelito.Props.C02

namespace Cachelito.T21
open Cachelito Cachelito.RustLite Cachelito.Generated Cachelito.Generated.KeyExpr Cachelito.Keys

/-- the model's key over already rendered parts -/
def keyOfParts (receiver : Option Text) (args : List Text) : Text := joinWith ['|'] (receiver.toList ++ args)

/-- `keyOf` is `keyOfParts` of the renderings -/
theorem keyOf_eq_keyOfParts {F : Type} (fm : Fmt F) (receiver : Option (Val F)) (args : List (Val F)) :
    keyOf fm receiver args = keyOfParts (receiver.map (render fm)) (args.map (render fm)) := by
  unfold keyOf keyOfParts keyVals
  cases receiver <;> simp

theorem foldl_pushBack {α : Type} (acc ps : List α) : ps.foldl pushBack acc = acc ++ ps := by
  induction ps generalizing acc with
  | nil => rw [List.foldl_nil, List.append_nil]
  | cons p ps ih => rw [List.foldl_cons, ih, pushBack, List.append_assoc, List.singleton_append]

/-- What every generated builder with at least one part computes: the receiver (if any) and the
    arguments are pushed onto an empty vector, which is then joined by `"|"`.  The generated `let`
    chains are instances of the left side by unfolding alone. -/
theorem joinWith_pushBack (receiver : Option Text) (args : List Text) :
    joinWith "|".toList ((receiver.toList ++ args).foldl pushBack []) = keyOfParts receiver args := by
  rw [foldl_pushBack]; rfl

/-! ## The 20 generated builders

One equation per generated definition `key{Sync,Async}_<h>_<n>` (`h = 1`: a method, `n` arguments).  Every
generated definition takes the rendered receiver as its first argument; the builders of free functions
(`h = 0`) ignore it, so their equations hold for every `s`. -/

theorem keySync_0_0_eq (s : Text) : keySync_0_0 s  = keyOfParts none [] :=
  rfl

theorem keySync_0_1_eq (s a0 : Text) : keySync_0_1 s a0 = keyOfParts none [a0] :=
  joinWith_pushBack none [a0]

theorem keySync_0_2_eq (s a0 a1 : Text) : keySync_0_2 s a0 a1 = keyOfParts none [a0, a1] :=
  joinWith_pushBack none [a0, a1]

theorem keySync_0_3_eq (s a0 a1 a2 : Text) : keySync_0_3 s a0 a1 a2 = keyOfParts none [a0, a1, a2] :=
  joinWith_pushBack none [a0, a1, a2]

theorem keySync_0_4_eq (s a0 a1 a2 a3 : Text) : keySync_0_4 s a0 a1 a2 a3 = keyOfParts none [a0, a1, a2, a3] :=
  joinWith_pushBack none [a0, a1, a2, a3]

theorem keySync_1_0_eq (s : Text) : keySync_1_0 s  = keyOfParts (some s) [] :=
  (List.append_nil s).symm

theorem keySync_1_1_eq (s a0 : Text) : keySync_1_1 s a0 = keyOfParts (some s) [a0] :=
  joinWith_pushBack (some s) [a0]

theorem keySync_1_2_eq (s a0 a1 : Text) : keySync_1_2 s a0 a1 = keyOfParts (some s) [a0, a1] :=
  joinWith_pushBack (some s) [a0, a1]

theorem keySync_1_3_eq (s a0 a1 a2 : Text) : keySync_1_3 s a0 a1 a2 = keyOfParts (some s) [a0, a1, a2] :=
  joinWith_pushBack (some s) [a0, a1, a2]

theorem keySync_1_4_eq (s a0 a1 a2 a3 : Text) : keySync_1_4 s a0 a1 a2 a3 = keyOfParts (some s) [a0, a1, a2, a3] :=
  joinWith_pushBack (some s) [a0, a1, a2, a3]

theorem keyAsync_0_0_eq (s : Text) : keyAsync_0_0 s  = keyOfParts none [] :=
  rfl

theorem keyAsync_0_1_eq (s a0 : Text) : keyAsync_0_1 s a0 = keyOfParts none [a0] :=
  joinWith_pushBack none [a0]

theorem keyAsync_0_2_eq (s a0 a1 : Text) : keyAsync_0_2 s a0 a1 = keyOfParts none [a0, a1] :=
  joinWith_pushBack none [a0, a1]

theorem keyAsync_0_3_eq (s a0 a1 a2 : Text) : keyAsync_0_3 s a0 a1 a2 = keyOfParts none [a0, a1, a2] :=
  joinWith_pushBack none [a0, a1, a2]

theorem keyAsync_0_4_eq (s a0 a1 a2 a3 : Text) : keyAsync_0_4 s a0 a1 a2 a3 = keyOfParts none [a0, a1, a2, a3] :=
  joinWith_pushBack none [a0, a1, a2, a3]

theorem keyAsync_1_0_eq (s : Text) : keyAsync_1_0 s  = keyOfParts (some s) [] :=
  (List.append_nil s).symm

theorem keyAsync_1_1_eq (s a0 : Text) : keyAsync_1_1 s a0 = keyOfParts (some s) [a0] :=
  joinWith_pushBack (some s) [a0]

theorem keyAsync_1_2_eq (s a0 a1 : Text) : keyAsync_1_2 s a0 a1 = keyOfParts (some s) [a0, a1] :=
  joinWith_pushBack (some s) [a0, a1]

theorem keyAsync_1_3_eq (s a0 a1 a2 : Text) : keyAsync_1_3 s a0 a1 a2 = keyOfParts (some s) [a0, a1, a2] :=
  joinWith_pushBack (some s) [a0, a1, a2]

theorem keyAsync_1_4_eq (s a0 a1 a2 a3 : Text) : keyAsync_1_4 s a0 a1 a2 a3 = keyOfParts (some s) [a0, a1, a2, a3] :=
  joinWith_pushBack (some s) [a0, a1, a2, a3]

/-! ## C02 on the generated key expressions: distinct argument tuples never share a key -/

theorem keyOfParts_injective {F : Type} (fm : Fmt F) (hf : FloatOK fm.float) (sig : Sig)
    (ra rb : Option (Val F)) (a b : List (Val F)) (ha : sig.wt ra a = true) (hb : sig.wt rb b = true)
    (h : keyOfParts (ra.map (render fm)) (a.map (render fm)) =
      keyOfParts (rb.map (render fm)) (b.map (render fm))) : ra = rb ∧ a = b :=
  C02.key_injective fm hf sig ra rb a b ha hb (by rw [keyOf_eq_keyOfParts, keyOf_eq_keyOfParts]; exact h)

/-- a method with two arguments under `#[cache]`: if two calls get the same GENERATED key, receiver and arguments are equal
    (for every signature the values inhabit; `FloatOK`: C02's assumption on the float printer) -/
theorem keySync_1_2_injective {F : Type} (fm : Fmt F) (hf : FloatOK fm.float) (sig : Sig)
    (r r' a0 a0' a1 a1' : Val F) (ha : sig.wt (some r) [a0, a1] = true) (hb : sig.wt (some r') [a0', a1'] = true)
    (h : keySync_1_2 (render fm r) (render fm a0) (render fm a1) = keySync_1_2 (render fm r') (render fm a0') (render fm a1')) :
    r = r' ∧ a0 = a0' ∧ a1 = a1' := by
  rw [keySync_1_2_eq, keySync_1_2_eq] at h
  obtain ⟨h1, h2⟩ := keyOfParts_injective fm hf sig (some r) (some r') [a0, a1] [a0', a1'] ha hb h
  cases h1; cases h2
  exact ⟨rfl, rfl, rfl⟩

/-- a method with ONE argument (the arity a "single-argument fast path" would special-case): the receiver is part of the key -/
theorem keySync_1_1_injective {F : Type} (fm : Fmt F) (hf : FloatOK fm.float) (sig : Sig)
    (r r' a0 a0' : Val F) (ha : sig.wt (some r) [a0] = true) (hb : sig.wt (some r') [a0'] = true)
    (h : keySync_1_1 (render fm r) (render fm a0) = keySync_1_1 (render fm r') (render fm a0')) :
    r = r' ∧ a0 = a0' := by
  rw [keySync_1_1_eq, keySync_1_1_eq] at h
  obtain ⟨h1, h2⟩ := keyOfParts_injective fm hf sig (some r) (some r') [a0] [a0'] ha hb h
  cases h1; cases h2
  exact ⟨rfl, rfl⟩

/-- an async free function with three arguments (the ignored receiver argument is given as `[]`) -/
theorem keyAsync_0_3_injective {F : Type} (fm : Fmt F) (hf : FloatOK fm.float) (sig : Sig)
    (a0 a0' a1 a1' a2 a2' : Val F) (ha : sig.wt none [a0, a1, a2] = true) (hb : sig.wt none [a0', a1', a2'] = true)
    (h : keyAsync_0_3 [] (render fm a0) (render fm a1) (render fm a2) = keyAsync_0_3 [] (render fm a0') (render fm a1') (render fm a2')) :
    a0 = a0' ∧ a1 = a1' ∧ a2 = a2' := by
  rw [keyAsync_0_3_eq, keyAsync_0_3_eq] at h
  obtain ⟨_, h2⟩ := keyOfParts_injective fm hf sig none none [a0, a1, a2] [a0', a1', a2'] ha hb h
  cases h2
  exact ⟨rfl, rfl, rfl⟩

/-- non-vacuity / what the separator is for: a method `m(&self, x)` and the same method on another receiver get different
    keys as soon as the receivers render differently -/
example : keySync_1_1 "A".toList "7".toList ≠ keySync_1_1 "B".toList "7".toList := by decide

/-- … and the key of a method with ONE argument contains the receiver (a builder with a single-argument fast path that
    forgets `self` would return just the argument) -/
example : keySync_1_1 "R".toList "7".toList = "R|7".toList ∧ keyAsync_1_1 "R".toList "7".toList = "R|7".toList := by decide

end Cachelito.T21
