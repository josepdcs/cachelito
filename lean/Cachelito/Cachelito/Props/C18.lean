/-
  C18 — Concurrent use keeps values correct and the cache consistent.

  "Under every interleaving of concurrent calls and invalidations on a global or async cache, each call
   still returns the function's value for its own arguments.  Once all callers have returned, the cache
   holds at most `limit` entries (at most `max_memory` bytes), every entry it holds can still be evicted,
   expired and invalidated, and subsequent sequential use again respects the bounds and returns correct
   values."

  Model: `Cachelito.ConcData` — any number of threads, each running an arbitrary program of engine
  operations (`get`, `insert`, `insertMem`, `clear`, `invalidateWith p`, `tick`), every operation split into
  the atomic micro-steps (= critical sections) of the real code; `crun sch c` runs the schedule `sch`
  (ANY list of thread ids).  All theorems quantify over every number of threads, every program, every
  schedule, every policy, `tl : Tlru S`, `size`, and every stream of random draws (they are part of the
  programs).  "Calls of a function `f`" = every store operation of every program writes `(k, f k)`
  (`OpOK f`), as the generated wrapper does (key = rendering of the arguments, C02).

    (a) values                      : `calls_return_function_value`, `records_are_own_operations`,
                                      `one_thread_is_sequential` (model sanity: 1 thread = `Cachelito.run`)
    (b) async engine, EVERY point   : `async_consistent_at_every_point`, `async_limit_at_every_point`,
                                      `async_memory_at_every_point`, `async_then_sequential`
    (c) sync engine                 : `sync_inflight_invariant`, `sync_bound_inflight` (every point),
                                      `sync_quiescent` , `sync_quiescent_memory` (quiescence),
                                      `allDone_quiescent`
    (d) sequential use afterwards   : `sync_then_sequential`, `sync_then_sequential_memory`
    from the empty cache            : `sync_all_returned`, `async_always`
    refutations of the unfixed code : examples F6, F8 at the end;  non-vacuity examples.

  Nothing is `_partial`.  Limits of the MODEL (not of the proofs), see the header of `ConcData.lean`: in THIS
  file the queue section of the sync `insert_with_memory` (several nested store-lock sections inside one
  queue-mutex section) is one micro-step — `Props/C18f.lean` re-proves (a), (c), (d) for the FINE model
  `ConcDataFine` in which every one of those store-lock sections is its own micro-step, other threads' store-only
  sections may fall between them, and the queue mutex is modelled explicitly; DashMap operations are atomic;
  the clock is read in the micro-step that uses it.

  Helper lemmas: `Cachelito/Lemmas/ConcData.lean`.
-/
import Cachelito.Lemmas.ConcData

namespace Cachelito.C18
open Cachelito Cachelito.ConcData

variable {K V S : Type} [DecidableEq K]

/-! ## (a) Values -/

/-- **Each call returns the function's value for its own arguments** — under every interleaving, in the
    sync and the async engine (and even in the unfixed code, `legacy = true`).  If the cache starts with
    pairs `(k, f k)` only and every store operation of every thread writes `(k, f k)`, then after ANY
    schedule every stored pair is `(k, f k)`, and every finished lookup `get k` of every thread that
    returned a value returned `f k`. -/
theorem calls_return_function_value (legacy : Bool) (f : K → V) (cfg : Cfg) (tl : Tlru S) (size : V → Nat)
    (s0 : State K V) (progs : List (List (Op K V × List Nat)))
    (hs0 : ValOK f s0.store) (hprogs : ∀ prog, prog ∈ progs → ∀ x, x ∈ prog → OpOK f x.1)
    (sch : List ThreadId) :
    ValOK f (crunWith legacy cfg tl size sch (CState.start s0 progs)).shared.store ∧
    ∀ t, t ∈ (crunWith legacy cfg tl size sch (CState.start s0 progs)).threads →
      ∀ op o, (op, o) ∈ t.done → ∀ k v, op = .get k → o = .val (some v) → v = f k := by
  have h := crunWith_invariant legacy cfg tl size (ValInv f)
    (fun c i c' hc hs => cstepWith_val c i c' hc hs) sch _ (valInv_start s0 progs hs0 hprogs)
  exact ⟨h.1, fun t ht op o hr => (h.2 t ht).2.2 (op, o) hr⟩

/-- **The records are the program's own operations**: at every point of every schedule, what a thread
    has finished followed by what it still has to run is exactly its program — so the lookup a record
    `(get k, value)` speaks about is the thread's own call with its own key. -/
theorem records_are_own_operations (legacy : Bool) (cfg : Cfg) (tl : Tlru S) (size : V → Nat)
    (s0 : State K V) (progs : List (List (Op K V × List Nat))) (sch : List ThreadId) :
    (crunWith legacy cfg tl size sch (CState.start s0 progs)).threads.map fullOps =
      progs.map (fun p => p.map (·.1)) := by
  have h := crunWith_invariant legacy cfg tl size
    (fun c => Fits legacy cfg c ∧ c.threads.map fullOps = progs.map (fun p => p.map (·.1)))
    (fun c i c' hc hs => by
      have := cstepWith_fits c i c' hc.1 hs
      exact ⟨this.1, this.2.trans hc.2⟩)
    sch _ ⟨fits_start legacy cfg s0 progs, fullOps_start s0 progs⟩
  exact h.2

/-- **Model sanity: one thread = the sequential model.**  A system with one thread running `prog` to
    completion ends in exactly the state, and reports exactly the outputs, that `Cachelito.run` computes
    (both engines, every policy): the micro-step transcription adds nothing but the preemption points. -/
theorem one_thread_is_sequential (cfg : Cfg) (tl : Tlru S) (size : V → Nat) (prog : List (Op K V × List Nat))
    (s0 : State K V) (N : Nat) (hN : 3 * prog.length ≤ N) :
    (crun cfg tl size (List.replicate N 0) (CState.start s0 [prog])).shared = (run cfg tl size s0 prog).1 ∧
    (crun cfg tl size (List.replicate N 0) (CState.start s0 [prog])).threads.map (fun t => t.done.map (·.2))
      = [(run cfg tl size s0 prog).2] := by
  have h := single_thread_is_run cfg tl size prog s0 [] N hN
  have hs : (CState.start s0 [prog] : CState K V) = ⟨s0, [⟨prog, none, []⟩]⟩ := rfl
  rw [hs, h]
  refine ⟨rfl, ?_⟩
  simp only [List.map_cons, List.map_nil, List.nil_append, List.cons.injEq, and_true]
  rw [List.map_snd_zip]
  simp [run_length]

/-! ## (b) Async engine: consistent at EVERY point of every interleaving -/

/-- **Async: the queue is a duplicate-free enumeration of the stored keys after every critical section**
    (not only at quiescence): every micro-step of every operation preserves the sequential invariant `Inv`. -/
theorem async_consistent_at_every_point (cfg : Cfg) (tl : Tlru S) (size : V → Nat) (hf : cfg.flavour = .async)
    (s0 : State K V) (hi : Inv s0) (progs : List (List (Op K V × List Nat))) (sch : List ThreadId) :
    Inv (crun cfg tl size sch (CState.start s0 progs)).shared := by
  refine crunWith_invariant false cfg tl size (fun c => Inv c.shared) ?_ sch _ hi
  intro c i c' hc hs
  obtain ⟨t, op, rs, _, _, hsh⟩ := cstepWith_shared hs
  rw [hsh]; exact micro_async_inv cfg tl size c.shared op rs t.pend hf hc

/-- **Async: never more than `limit` entries, at every point of every interleaving** (`limit = n ≥ 1`). -/
theorem async_limit_at_every_point (cfg : Cfg) (tl : Tlru S) (size : V → Nat) (hf : cfg.flavour = .async)
    (n : Nat) (hl : cfg.limit = some n) (hn : 1 ≤ n)
    (s0 : State K V) (hi : Inv s0) (hb : s0.store.length ≤ n)
    (progs : List (List (Op K V × List Nat))) (sch : List ThreadId) :
    (crun cfg tl size sch (CState.start s0 progs)).shared.store.length ≤ n := by
  have h := crunWith_invariant false cfg tl size
    (fun c => Inv c.shared ∧ c.shared.store.length ≤ n) ?_ sch (CState.start s0 progs) ⟨hi, hb⟩
  · exact h.2
  · intro c i c' hc hs
    obtain ⟨t, op, rs, _, _, hsh⟩ := cstepWith_shared hs
    rw [hsh]
    exact ⟨micro_async_inv cfg tl size c.shared op rs t.pend hf hc.1,
           micro_async_bound cfg tl size c.shared op rs t.pend hf n hl hn hc.1 hc.2⟩

/-- **Async: never more than `max_memory` bytes, at every point of every interleaving**, when all stores
    go through `insert_with_memory` (as in the generated code when `max_memory` is set). -/
theorem async_memory_at_every_point (cfg : Cfg) (tl : Tlru S) (size : V → Nat) (hf : cfg.flavour = .async)
    (M : Nat) (hM : cfg.maxMem = some M)
    (s0 : State K V) (hi : Inv s0) (hb : totalMem size s0.store ≤ M)
    (progs : List (List (Op K V × List Nat)))
    (hvia : ∀ prog, prog ∈ progs → ∀ x, x ∈ prog → x.1.viaMem = true) (sch : List ThreadId) :
    totalMem size (crun cfg tl size sch (CState.start s0 progs)).shared.store ≤ M := by
  have h := crunWith_invariant false cfg tl size
    (fun c => Inv c.shared ∧ totalMem size c.shared.store ≤ M ∧ NoPlain c)
    ?_ sch (CState.start s0 progs) ⟨hi, hb, forall_start s0 fun prog hprog => ⟨hvia prog hprog, nofun⟩⟩
  · exact h.2.1
  · intro c i c' hc hs
    obtain ⟨t, op, rs, ht, hop, hsh⟩ := cstepWith_shared hs
    refine ⟨?_, ?_, cstep_noPlain c i c' hc.2.2 hs⟩
    · rw [hsh]; exact micro_async_inv cfg tl size c.shared op rs t.pend hf hc.1
    · rw [hsh]
      exact micro_async_mem cfg tl size c.shared op rs t.pend hf M hM ((hc.2.2 t ht).1 (op, rs) hop) hc.1 hc.2.1

/-- **Async: sequential use after (or in the middle of) any interleaving.**  The shared state reached by
    any schedule is a state of the sequential model satisfying `Inv` with at most `n` entries, so every
    sequential theorem stated for "any state satisfying `Inv`" (C04 `step_bound`, C05, C06–C08, C13) applies
    to every sequential continuation; in particular the continuation keeps `Inv` and the entry bound, and
    its lookups return `f` of their key. -/
theorem async_then_sequential (f : K → V) (cfg : Cfg) (tl : Tlru S) (size : V → Nat) (hf : cfg.flavour = .async)
    (n : Nat) (hl : cfg.limit = some n) (hn : 1 ≤ n)
    (s0 : State K V) (hi : Inv s0) (hb : s0.store.length ≤ n) (hs0 : ValOK f s0.store)
    (progs : List (List (Op K V × List Nat))) (hprogs : ∀ prog, prog ∈ progs → ∀ x, x ∈ prog → OpOK f x.1)
    (sch : List ThreadId) (ops : List (Op K V × List Nat)) (hops : ∀ x, x ∈ ops → OpOK f x.1) :
    Inv (run cfg tl size (crun cfg tl size sch (CState.start s0 progs)).shared ops).1 ∧
    (run cfg tl size (crun cfg tl size sch (CState.start s0 progs)).shared ops).1.store.length ≤ n ∧
    (∀ rs op, (step cfg tl size rs (crun cfg tl size sch (CState.start s0 progs)).shared op).1.store.length ≤ n) ∧
    ∀ a o, (a, o) ∈ ops.zip (run cfg tl size (crun cfg tl size sch (CState.start s0 progs)).shared ops).2 →
      ∀ k v, a.1 = .get k → o = .val (some v) → v = f k := by
  have h1 := async_consistent_at_every_point cfg tl size hf s0 hi progs sch
  have h2 := async_limit_at_every_point cfg tl size hf n hl hn s0 hi hb progs sch
  have h3 := (calls_return_function_value false f cfg tl size s0 progs hs0 hprogs sch).1
  exact ⟨run_inv cfg tl size _ ops h1, run_bound_from cfg tl size n hl hn ops _ h1 h2,
         fun rs op => C04.step_bound cfg tl size rs _ op n hl hn h1 h2,
         (run_val cfg tl size ops _ h3 hops).2⟩

/-! ## (c) Sync engine: the store write of a store precedes its queue section -/

/-- **Sync: the in-flight invariant holds at every point of every interleaving.**  Stored keys are
    distinct, the queue is duplicate-free, and every stored key that is missing from the queue is the key
    of a thread that has written the store and has not yet run its queue section (`pendKeys`).  Queue keys
    that are not stored (orphans) may exist. -/
theorem sync_inflight_invariant (cfg : Cfg) (tl : Tlru S) (size : V → Nat) (hf : cfg.flavour ≠ .async)
    (s0 : State K V) (h0 : WeakInv s0) (progs : List (List (Op K V × List Nat))) (sch : List ThreadId) :
    SyncInv (crun cfg tl size sch (CState.start s0 progs)).shared.store
            (crun cfg tl size sch (CState.start s0 progs)).shared.queue
            (pendKeys (crun cfg tl size sch (CState.start s0 progs)).threads) := by
  refine crunWith_invariant false cfg tl size SyncSys ?_ sch _ ?_
  · intro c i c' hc hs; exact (cstep_sync hf c i c' hc hs).1
  · unfold SyncSys; rw [pendKeys_start]; exact h0

/-- **Sync: the capacity invariant holds at every point of every interleaving** (`limit = n`, any `n`):
    under EVERY policy the store holds at most `n` entries plus one per store in flight; under FIFO, LRU
    and Random moreover the queue has at most `n` slots whenever the queue mutex is free.  (Inductive
    form: for every policy but Random the entry count is the invariant; for Random — whose victim may be an
    orphan slot — the slot count is, and the entry count follows from it.) -/
theorem sync_bound_inflight (cfg : Cfg) (tl : Tlru S) (size : V → Nat) (hf : cfg.flavour ≠ .async)
    (n : Nat) (hl : cfg.limit = some n)
    (s0 : State K V) (h0 : WeakInv s0) (hb0 : WeakBound cfg n s0)
    (progs : List (List (Op K V × List Nat))) (sch : List ThreadId) :
    (crun cfg tl size sch (CState.start s0 progs)).shared.store.length
        ≤ n + (pendKeys (crun cfg tl size sch (CState.start s0 progs)).threads).length ∧
    (cfg.policy = .fifo ∨ cfg.policy = .lru ∨ cfg.policy = .random →
      (crun cfg tl size sch (CState.start s0 progs)).shared.queue.length ≤ n) := by
  have h := crunWith_invariant false cfg tl size
    (fun c => SyncSys c ∧ SyncSysBound cfg n c) ?_ sch (CState.start s0 progs) ?_
  · exact ⟨sync_entries_le h.1 h.2, h.2.slots⟩
  · intro c i c' hc hs
    have := cstep_sync hf c i c' hc.1 hs
    exact ⟨this.1, this.2 n hl hc.2⟩
  · unfold SyncSys SyncSysBound; rw [pendKeys_start]; exact ⟨h0, hb0⟩

/-- a thread list in which everybody has returned is quiescent (no operation in progress) -/
theorem allDone_quiescent (cfg : Cfg) (tl : Tlru S) (size : V → Nat)
    (s0 : State K V) (progs : List (List (Op K V × List Nat))) (sch : List ThreadId)
    (hd : AllDone (crun cfg tl size sch (CState.start s0 progs))) :
    Quiescent (crun cfg tl size sch (CState.start s0 progs)) := by
  refine quiescent_of_allDone (legacy := false) (cfg := cfg) ?_ hd
  exact crunWith_invariant false cfg tl size (Fits false cfg)
    (fun c i c' hc hs => (cstepWith_fits c i c' hc hs).1) sch _ (fits_start false cfg s0 progs)

/-- **Sync, at quiescence** (no operation in progress — in particular once all callers have returned):
    stored keys distinct, queue duplicate-free, EVERY stored key is in the queue (so every entry can still
    be evicted, expired and invalidated), and, with `limit = n`, at most `n` entries — under every policy,
    Random included.  The state again satisfies the hypotheses `WeakInv` / `WeakBound` of this theorem's
    own family, so concurrent phases compose. -/
theorem sync_quiescent (cfg : Cfg) (tl : Tlru S) (size : V → Nat) (hf : cfg.flavour ≠ .async)
    (s0 : State K V) (h0 : WeakInv s0) (progs : List (List (Op K V × List Nat))) (sch : List ThreadId)
    (hq : Quiescent (crun cfg tl size sch (CState.start s0 progs))) :
    ((keys (crun cfg tl size sch (CState.start s0 progs)).shared.store).Nodup ∧
     (crun cfg tl size sch (CState.start s0 progs)).shared.queue.Nodup ∧
     ∀ x, x ∈ keys (crun cfg tl size sch (CState.start s0 progs)).shared.store →
          x ∈ (crun cfg tl size sch (CState.start s0 progs)).shared.queue) ∧
    WeakInv (crun cfg tl size sch (CState.start s0 progs)).shared ∧
    ∀ n, cfg.limit = some n → WeakBound cfg n s0 →
      (crun cfg tl size sch (CState.start s0 progs)).shared.store.length ≤ n ∧
      WeakBound cfg n (crun cfg tl size sch (CState.start s0 progs)).shared := by
  have h1 := sync_inflight_invariant cfg tl size hf s0 h0 progs sch
  rw [pendKeys_of_quiescent hq] at h1
  refine ⟨⟨h1.keysNodup, h1.queueNodup, h1.queued⟩, h1, fun n hl hb0 => ?_⟩
  have h2 := sync_bound_inflight cfg tl size hf n hl s0 h0 hb0 progs sch
  rw [pendKeys_of_quiescent hq] at h2
  have hwb : WeakBound cfg n (crun cfg tl size sch (CState.start s0 progs)).shared :=
    ⟨fun _ => h2.1, h2.2⟩
  exact ⟨weak_length_le h1 hwb, hwb⟩

/-- **Sync, memory at quiescence** (`max_memory = M`, all stores through `insert_with_memory`, values
    `f k`): at every point of every interleaving the footprint exceeds `M` by at most the sizes of the
    values whose queue section (with its memory loop) has not run yet — the last thread to run its
    memory loop sees every value — hence at quiescence the footprint is at most `M`. -/
theorem sync_quiescent_memory (f : K → V) (cfg : Cfg) (tl : Tlru S) (size : V → Nat) (hf : cfg.flavour ≠ .async)
    (M : Nat) (hM : cfg.maxMem = some M)
    (s0 : State K V) (h0 : WeakInv s0) (hs0 : ValOK f s0.store) (hb0 : totalMem size s0.store ≤ M)
    (progs : List (List (Op K V × List Nat)))
    (hprogs : ∀ prog, prog ∈ progs → ∀ x, x ∈ prog → OpOK f x.1)
    (hvia : ∀ prog, prog ∈ progs → ∀ x, x ∈ prog → x.1.viaMem = true) (sch : List ThreadId) :
    totalMem size (crun cfg tl size sch (CState.start s0 progs)).shared.store
      ≤ M + ((pendKeys (crun cfg tl size sch (CState.start s0 progs)).threads).map (fun k => size (f k))).sum ∧
    (Quiescent (crun cfg tl size sch (CState.start s0 progs)) →
      totalMem size (crun cfg tl size sch (CState.start s0 progs)).shared.store ≤ M) := by
  have h := crunWith_invariant false cfg tl size
    (fun c => SyncSys c ∧ ValInv f c ∧ NoPlain c ∧ MemSys size f M c) ?_ sch (CState.start s0 progs) ?_
  · refine ⟨h.2.2.2, fun hq => ?_⟩
    have := h.2.2.2
    unfold MemSys at this
    rw [show pendKeys (crunWith false cfg tl size sch (CState.start s0 progs)).threads = [] from
      pendKeys_of_quiescent hq] at this
    exact this
  · intro c i c' hc hs
    exact ⟨(cstep_sync hf c i c' hc.1 hs).1, cstepWith_val c i c' hc.2.1 hs, cstep_noPlain c i c' hc.2.2.1 hs,
           cstep_sync_mem hf f M hM c i c' hc.1 hc.2.1 hc.2.2.1 hc.2.2.2 hs⟩
  · refine ⟨?_, valInv_start s0 progs hs0 hprogs, ?_, ?_⟩
    · unfold SyncSys; rw [pendKeys_start]; exact h0
    · exact forall_start s0 fun prog hprog => ⟨hvia prog hprog, nofun⟩
    · unfold MemSys MemInv; rw [pendKeys_start]; simpa [CState.start] using hb0

/-! ## (d) Sequential use after quiescence -/

/-- **Sync: subsequent sequential use respects the bound and returns correct values.**  From the state
    left by any schedule at quiescence — every stored key queued, no duplicates, orphan queue keys possibly
    present, i.e. a state that need NOT satisfy the sequential invariant `Inv` — every sequential history of
    ALL engine operations, under EVERY policy, keeps that consistency, never holds more than `limit = n`
    entries after any operation, and every lookup that returns a value returns `f` of its key. -/
theorem sync_then_sequential (f : K → V) (cfg : Cfg) (tl : Tlru S) (size : V → Nat) (hf : cfg.flavour ≠ .async)
    (n : Nat) (hl : cfg.limit = some n)
    (s0 : State K V) (h0 : WeakInv s0) (hb0 : WeakBound cfg n s0) (hs0 : ValOK f s0.store)
    (progs : List (List (Op K V × List Nat))) (hprogs : ∀ prog, prog ∈ progs → ∀ x, x ∈ prog → OpOK f x.1)
    (sch : List ThreadId) (hq : Quiescent (crun cfg tl size sch (CState.start s0 progs)))
    (ops : List (Op K V × List Nat)) (hops : ∀ x, x ∈ ops → OpOK f x.1) :
    WeakInv (run cfg tl size (crun cfg tl size sch (CState.start s0 progs)).shared ops).1 ∧
    (∀ i, (run cfg tl size (crun cfg tl size sch (CState.start s0 progs)).shared (ops.take i)).1.store.length ≤ n) ∧
    ∀ a o, (a, o) ∈ ops.zip (run cfg tl size (crun cfg tl size sch (CState.start s0 progs)).shared ops).2 →
      ∀ k v, a.1 = .get k → o = .val (some v) → v = f k := by
  obtain ⟨_, hw, hb⟩ := sync_quiescent cfg tl size hf s0 h0 progs sch hq
  obtain ⟨_, hwb⟩ := hb n hl hb0
  have h3 := (calls_return_function_value false f cfg tl size s0 progs hs0 hprogs sch).1
  refine ⟨(run_weak hf tl size ops _ hw).1, ?_, (run_val cfg tl size ops _ h3 hops).2⟩
  intro i
  have hr := run_weak hf tl size (ops.take i) _ hw
  exact weak_length_le hr.1 (hr.2 n hl hwb)

/-- **Sync: … and the memory bound**, for sequential histories whose stores go through `insert_with_memory`. -/
theorem sync_then_sequential_memory (f : K → V) (cfg : Cfg) (tl : Tlru S) (size : V → Nat)
    (hf : cfg.flavour ≠ .async) (M : Nat) (hM : cfg.maxMem = some M)
    (s0 : State K V) (h0 : WeakInv s0) (hs0 : ValOK f s0.store) (hb0 : totalMem size s0.store ≤ M)
    (progs : List (List (Op K V × List Nat)))
    (hprogs : ∀ prog, prog ∈ progs → ∀ x, x ∈ prog → OpOK f x.1)
    (hvia : ∀ prog, prog ∈ progs → ∀ x, x ∈ prog → x.1.viaMem = true)
    (sch : List ThreadId) (hq : Quiescent (crun cfg tl size sch (CState.start s0 progs)))
    (ops : List (Op K V × List Nat)) (hops : AllViaMem ops) (i : Nat) :
    totalMem size (run cfg tl size (crun cfg tl size sch (CState.start s0 progs)).shared (ops.take i)).1.store ≤ M := by
  obtain ⟨_, hw, _⟩ := sync_quiescent cfg tl size hf s0 h0 progs sch hq
  have hm := (sync_quiescent_memory f cfg tl size hf M hM s0 h0 hs0 hb0 progs hprogs hvia sch).2 hq
  exact run_weak_mem hf tl size M hM (ops.take i) (hops.take i) _ hw hm

/-! ## Corollaries from the empty cache -/

/-- sync, from the empty cache, once all callers have returned: consistent and within `limit` -/
theorem sync_all_returned (cfg : Cfg) (tl : Tlru S) (size : V → Nat) (hf : cfg.flavour ≠ .async)
    (n : Nat) (hl : cfg.limit = some n) (progs : List (List (Op K V × List Nat))) (sch : List ThreadId)
    (hd : AllDone (crun cfg tl size sch (CState.init progs))) :
    (∀ x, x ∈ keys (crun cfg tl size sch (CState.init progs)).shared.store →
          x ∈ (crun cfg tl size sch (CState.init progs)).shared.queue) ∧
    (crun cfg tl size sch (CState.init progs)).shared.queue.Nodup ∧
    (crun cfg tl size sch (CState.init progs)).shared.store.length ≤ n := by
  have hq := allDone_quiescent cfg tl size State.init progs sch hd
  obtain ⟨⟨_, h2, h3⟩, _, hb⟩ := sync_quiescent cfg tl size hf State.init (WeakInv.of_inv inv_init) progs sch hq
  exact ⟨h3, h2, (hb n hl (WeakBound.of_inv inv_init (Nat.zero_le n))).1⟩

/-- async, from the empty cache, at every point: consistent and within `limit` -/
theorem async_always (cfg : Cfg) (tl : Tlru S) (size : V → Nat) (hf : cfg.flavour = .async)
    (n : Nat) (hl : cfg.limit = some n) (hn : 1 ≤ n) (progs : List (List (Op K V × List Nat))) (sch : List ThreadId) :
    Inv (crun cfg tl size sch (CState.init progs)).shared ∧
    (crun cfg tl size sch (CState.init progs)).shared.store.length ≤ n :=
  ⟨async_consistent_at_every_point cfg tl size hf _ inv_init progs sch,
   async_limit_at_every_point cfg tl size hf n hl hn _ inv_init (by simp [State.init]) progs sch⟩

/-! ## Refutations of the unfixed code (concrete two-thread schedules) and non-vacuity -/

def exTl : Tlru Nat := ⟨fun a b => decide (a < b), fun _ h _ r => h * r⟩
def exF (k : Nat) : Nat := k * 10
def cfgSync : Cfg := ⟨.global, .fifo, some 2, none, none⟩
def cfgSync1 : Cfg := ⟨.global, .lfu, some 1, none, none⟩
def cfgAsync : Cfg := ⟨.async, .fifo, some 1, none, some 1⟩
def cfgAsync2 : Cfg := ⟨.async, .lru, some 2, none, none⟩

/-- F6: thread 0 stores keys 1, 2, 3; thread 1 runs the clear callback -/
def progsF6 : List (List (Op Nat Nat × List Nat)) :=
  [[(.insert 1 10, []), (.insert 2 20, []), (.insert 3 30, [])], [(.clear, [])]]

/-- **F6 (legacy clear in two critical sections).**  `clear` empties the store, thread 0 stores key 1
    (both sections), `clear` empties the queue: key 1 is stored and missing from the queue; two more stores
    later the `limit = 2` cache holds 3 entries at quiescence. -/
example :
    keys (crunWith true cfgSync exTl (fun _ => 0) [1, 0, 0, 1] (CState.init progsF6)).shared.store = [1] ∧
    (crunWith true cfgSync exTl (fun _ => 0) [1, 0, 0, 1] (CState.init progsF6)).shared.queue = [] ∧
    allDoneB (crunWith true cfgSync exTl (fun _ => 0) [1, 0, 0, 1, 0, 0, 0, 0] (CState.init progsF6)) = true ∧
    keys (crunWith true cfgSync exTl (fun _ => 0) [1, 0, 0, 1, 0, 0, 0, 0] (CState.init progsF6)).shared.store = [1, 2, 3] ∧
    (crunWith true cfgSync exTl (fun _ => 0) [1, 0, 0, 1, 0, 0, 0, 0] (CState.init progsF6)).shared.queue = [2, 3] := by
  decide +kernel

/-- the same schedule on the fixed code (clear is one section): consistent, 2 entries -/
example :
    allDoneB (crun cfgSync exTl (fun _ => 0) [1, 0, 0, 1, 0, 0, 0, 0] (CState.init progsF6)) = true ∧
    keys (crun cfgSync exTl (fun _ => 0) [1, 0, 0, 1, 0, 0, 0, 0] (CState.init progsF6)).shared.store = [2, 3] ∧
    (crun cfgSync exTl (fun _ => 0) [1, 0, 0, 1, 0, 0, 0, 0] (CState.init progsF6)).shared.queue = [2, 3] := by
  decide +kernel

/-- F8: key 1 stored at time 0, now = 5 s, ttl = 1 s; thread 0 looks key 1 up, thread 1 re-stores it, then key 2 -/
def stateF8 : State Nat Nat := ⟨[(1, ⟨10, 0, 0⟩)], [1], 5000, 0, 0⟩
def progsF8 : List (List (Op Nat Nat × List Nat)) := [[(.get 1, [])], [(.insert 1 10, []), (.insert 2 20, [])]]

/-- **F8 (legacy async expired lookup removes from the store before taking the queue mutex).**
    A: read (expired), shard remove · B: `insert 1` · A: `retain` ⇒ key 1 stored, missing from the queue;
    B's next store then leaves 2 entries in the `limit = 1` FIFO cache. -/
example :
    keys (crunWith true cfgAsync exTl (fun _ => 0) [0, 0, 1, 0] (CState.start stateF8 progsF8)).shared.store = [1] ∧
    (crunWith true cfgAsync exTl (fun _ => 0) [0, 0, 1, 0] (CState.start stateF8 progsF8)).shared.queue = [] ∧
    allDoneB (crunWith true cfgAsync exTl (fun _ => 0) [0, 0, 1, 0, 1] (CState.start stateF8 progsF8)) = true ∧
    keys (crunWith true cfgAsync exTl (fun _ => 0) [0, 0, 1, 0, 1] (CState.start stateF8 progsF8)).shared.store = [1, 2] := by
  decide +kernel

/-- the fixed code on the corresponding schedule (read · B `insert 1` · A remove-both · B `insert 2`) -/
example :
    allDoneB (crun cfgAsync exTl (fun _ => 0) [0, 1, 0, 1] (CState.start stateF8 progsF8)) = true ∧
    keys (crun cfgAsync exTl (fun _ => 0) [0, 1, 0, 1] (CState.start stateF8 progsF8)).shared.store = [2] ∧
    (crun cfgAsync exTl (fun _ => 0) [0, 1, 0, 1] (CState.start stateF8 progsF8)).shared.queue = [2] := by
  decide +kernel

/-- Non-vacuity, sync, 2 threads: the two micro-steps of `insert 1` are separated by the other thread's
    `clear`; the end state is consistent — the store is empty and key 1 is an ORPHAN of the queue (allowed). -/
def progsOrphan : List (List (Op Nat Nat × List Nat)) := [[(.insert 1 10, [])], [(.clear, [])]]
example :
    pendKeys (crun cfgSync exTl (fun _ => 0) [0] (CState.init progsOrphan)).threads = [1] ∧
    keys (crun cfgSync exTl (fun _ => 0) [0] (CState.init progsOrphan)).shared.store = [1] ∧
    (crun cfgSync exTl (fun _ => 0) [0] (CState.init progsOrphan)).shared.queue = [] ∧
    allDoneB (crun cfgSync exTl (fun _ => 0) [0, 1, 0] (CState.init progsOrphan)) = true ∧
    keys (crun cfgSync exTl (fun _ => 0) [0, 1, 0] (CState.init progsOrphan)).shared.store = [] ∧
    (crun cfgSync exTl (fun _ => 0) [0, 1, 0] (CState.init progsOrphan)).shared.queue = [1] := by
  decide +kernel

/-- Non-vacuity, sync, in-flight slack: `limit = 1`, LFU; both threads write the store first — 2 entries
    with 2 stores in flight (`n + |pending|` is attained) — then run their queue sections; at quiescence 1
    entry, tracked.  Thread 2 looks key 2 up afterwards and gets `f 2 = 20`. -/
def progsSlack : List (List (Op Nat Nat × List Nat)) :=
  [[(.insert 1 (exF 1), [])], [(.insert 2 (exF 2), [])], [(.get 2, [])]]
example :
    (crun cfgSync1 exTl (fun _ => 0) [0, 1] (CState.init progsSlack)).shared.store.length = 2 ∧
    pendKeys (crun cfgSync1 exTl (fun _ => 0) [0, 1] (CState.init progsSlack)).threads = [1, 2] ∧
    allDoneB (crun cfgSync1 exTl (fun _ => 0) [0, 1, 0, 1, 2, 2] (CState.init progsSlack)) = true ∧
    keys (crun cfgSync1 exTl (fun _ => 0) [0, 1, 0, 1, 2, 2] (CState.init progsSlack)).shared.store = [2] ∧
    (crun cfgSync1 exTl (fun _ => 0) [0, 1, 0, 1, 2, 2] (CState.init progsSlack)).shared.queue = [2] ∧
    ((crun cfgSync1 exTl (fun _ => 0) [0, 1, 0, 1, 2, 2] (CState.init progsSlack)).threads.map
      (fun t => t.done.map (fun r => match r.2 with | .val o => o | .unit => none))) = [[none], [none], [some 20]] := by
  decide +kernel

/-- Non-vacuity, async, 3 threads (LRU, `limit = 2`): stores; a refreshing hit of key 1 whose two sections
    are separated by the store of key 3 that evicts key 1 (the refresh re-checks and does nothing, the call
    still returns `f 1 = 10`); a conditional invalidation split into collect / remove.  The queue
    enumerates the store after every micro-step. -/
def progsAsync3 : List (List (Op Nat Nat × List Nat)) :=
  [[(.insert 1 (exF 1), []), (.get 1, [])], [(.insert 2 (exF 2), []), (.insert 3 (exF 3), [])],
   [(.invalidateWith (fun k => k == 2), [])]]
example :
    keys (crun cfgAsync2 exTl (fun _ => 0) [0, 1, 0, 2] (CState.init progsAsync3)).shared.store = [1, 2] ∧
    (crun cfgAsync2 exTl (fun _ => 0) [0, 1, 0, 2] (CState.init progsAsync3)).shared.queue = [1, 2] ∧
    keys (crun cfgAsync2 exTl (fun _ => 0) [0, 1, 0, 2, 1] (CState.init progsAsync3)).shared.store = [2, 3] ∧
    (crun cfgAsync2 exTl (fun _ => 0) [0, 1, 0, 2, 1] (CState.init progsAsync3)).shared.queue = [2, 3] ∧
    allDoneB (crun cfgAsync2 exTl (fun _ => 0) [0, 1, 0, 2, 1, 0, 2] (CState.init progsAsync3)) = true ∧
    keys (crun cfgAsync2 exTl (fun _ => 0) [0, 1, 0, 2, 1, 0, 2] (CState.init progsAsync3)).shared.store = [3] ∧
    (crun cfgAsync2 exTl (fun _ => 0) [0, 1, 0, 2, 1, 0, 2] (CState.init progsAsync3)).shared.queue = [3] ∧
    ((crun cfgAsync2 exTl (fun _ => 0) [0, 1, 0, 2, 1, 0, 2] (CState.init progsAsync3)).threads.map
      (fun t => t.done.map (fun r => match r.2 with | .val o => o | .unit => none)))
        = [[none, some 10], [none, none], [none]] := by
  decide +kernel

end Cachelito.C18
