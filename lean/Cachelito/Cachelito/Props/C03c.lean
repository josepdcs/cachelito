/-
  C03 (concurrent clause) — "When several callers miss concurrently the body may run once per such caller,
  but never again once any call that stored the result has returned."

  Model: `Cachelito.ConcCalls` — any number of caller threads over ONE shared cache of the data-carrying
  interleaving model `Cachelito.ConcData`; a call for key `k` is  lookup (`get k`, its micro-steps) ; on a
  miss: body (no cache access) ; store (`insert k (f k)`, its micro-steps) ; both engines, every policy,
  ANY schedule `sch : List ThreadId` (`callRun`).  Ghost state: per caller the body runs (`bodies`), a global
  event log, NEWEST FIRST (`read k found` / `write k` / `ret k v stored`), so "`e` happened after `e'`" reads
  "`log = later ++ e' :: earlier` and `e ∈ later`".

  Configuration of the property (`Plain cfg`): `limit = none`, `maxMem = none`, `ttl = none`; callers only
  call (no clear, no conditional invalidation).  Start: any cache state whose pairs are `(k, f k)`.

    (a) `stored_key_stays`, `written_key_is_stored`
    (b) `lookup_after_store_write_hits`, `no_body_after_storing_call_returned`,
        `no_more_body_runs_once_stored`, `calls_return_function_value`
    (c) `body_runs_eq_missed_lookups`, `body_runs_le_lookups_before_first_write`, `body_runs_le_lookups`
  Nothing is partial.  The invariant `CallInv` (`Lemmas/ConcCalls.lean`) holds along every run because `ConcCalls` is the
  deterministic, always-storing instance of `ConcCallsR` (`Lemmas/ConcCallsR.lean` §4).
-/
import Cachelito.Lemmas.ConcCallsR

namespace Cachelito.C03c
open Cachelito Cachelito.ConcData Cachelito.ConcCalls

variable {K V S : Type} [DecidableEq K]

/-! ## (a) Stability -/

/-- **A stored key stays stored**: in the plain configuration nothing removes entries — from any reachable
    point on (`sch₁`), a key held by the cache is held after every further schedule (`sch₂`). -/
theorem stored_key_stays (f : K → V) (cfg : Cfg) (hp : Plain cfg) (tl : Tlru S) (size : V → Nat)
    (s0 : State K V) (hs0 : ValOK f s0.store) (callss : List (List (K × List Nat))) (sch₁ sch₂ : List ThreadId)
    (k : K) (hk : k ∈ keys (callRun f cfg tl size sch₁ (CallState.start s0 callss)).shared.store) :
    k ∈ keys (callRun f cfg tl size sch₂ (callRun f cfg tl size sch₁ (CallState.start s0 callss))).shared.store :=
  (callRun_stable f hp tl size s0 hs0 callss sch₁ sch₂ k hk).1

/-- **Once the store-write micro-step of `insert k _` of some caller has executed, `k` is in the store at
    every later point** (the log only grows, so "`write k` is in the log" = "it has executed"). -/
theorem written_key_is_stored (f : K → V) (cfg : Cfg) (hp : Plain cfg) (tl : Tlru S) (size : V → Nat)
    (s0 : State K V) (hs0 : ValOK f s0.store) (callss : List (List (K × List Nat))) (sch : List ThreadId)
    (k : K) (hw : Ev.write k ∈ (callRun f cfg tl size sch (CallState.start s0 callss)).log) :
    k ∈ keys (callRun f cfg tl size sch (CallState.start s0 callss)).shared.store :=
  (callInv_run f hp tl size s0 hs0 callss sch).logInv.written k hw

/-! ## (b) Never again -/

/-- **Every lookup of `k` whose read micro-step executes after a store-write of `k` finds it**: no missed
    lookup of `k` (hence no body run for `k`) is logged after a `write k`. -/
theorem lookup_after_store_write_hits (f : K → V) (cfg : Cfg) (hp : Plain cfg) (tl : Tlru S) (size : V → Nat)
    (s0 : State K V) (hs0 : ValOK f s0.store) (callss : List (List (K × List Nat))) (sch : List ThreadId)
    (k : K) (later earlier : List (Ev K V))
    (hlog : (callRun f cfg tl size sch (CallState.start s0 callss)).log = later ++ Ev.write k :: earlier) :
    Ev.read k false ∉ later :=
  (callInv_run f hp tl size s0 hs0 callss sch).logInv.after later earlier k hlog

/-- **Never again once a call that stored the result has returned**: after the return of a call for `k`
    that ran the body and stored (`ret k v true`), `k` is in the store and no lookup of `k` misses — so a
    call that STARTS after that return is served from the cache and does not run the body. -/
theorem no_body_after_storing_call_returned (f : K → V) (cfg : Cfg) (hp : Plain cfg) (tl : Tlru S) (size : V → Nat)
    (s0 : State K V) (hs0 : ValOK f s0.store) (callss : List (List (K × List Nat))) (sch : List ThreadId)
    (k : K) (v : V) (later earlier : List (Ev K V))
    (hlog : (callRun f cfg tl size sch (CallState.start s0 callss)).log = later ++ Ev.ret k v true :: earlier) :
    Ev.read k false ∉ later ∧ k ∈ keys (callRun f cfg tl size sch (CallState.start s0 callss)).shared.store := by
  have hi := (callInv_run f hp tl size s0 hs0 callss sch)
  have hw := hi.logInv.stored later earlier k v hlog
  obtain ⟨e1, e2, he⟩ := List.append_of_mem hw
  have hlog' : (callRun f cfg tl size sch (CallState.start s0 callss)).log
      = (later ++ Ev.ret k v true :: e1) ++ Ev.write k :: e2 := by
    rw [hlog, he]; simp
  refine ⟨?_, hi.logInv.written k (by rw [hlog']; simp)⟩
  intro hh
  exact hi.logInv.after _ _ k hlog' (List.mem_append_left _ hh)

/-- **State form of "never again"**: from any reachable point at which `k` is in the store, no further
    schedule runs the body for `k` — the number of body runs for `k` does not change any more. -/
theorem no_more_body_runs_once_stored (f : K → V) (cfg : Cfg) (hp : Plain cfg) (tl : Tlru S) (size : V → Nat)
    (s0 : State K V) (hs0 : ValOK f s0.store) (callss : List (List (K × List Nat))) (sch₁ sch₂ : List ThreadId)
    (k : K) (hk : k ∈ keys (callRun f cfg tl size sch₁ (CallState.start s0 callss)).shared.store) :
    totalBodies k (callRun f cfg tl size sch₂ (callRun f cfg tl size sch₁ (CallState.start s0 callss))).callers
      = totalBodies k (callRun f cfg tl size sch₁ (CallState.start s0 callss)).callers :=
  (callRun_stable f hp tl size s0 hs0 callss sch₁ sch₂ k hk).2

/-- every call returns the function's value for its key, whether served from the cache or computed -/
theorem calls_return_function_value (f : K → V) (cfg : Cfg) (hp : Plain cfg) (tl : Tlru S) (size : V → Nat)
    (s0 : State K V) (hs0 : ValOK f s0.store) (callss : List (List (K × List Nat))) (sch : List ThreadId)
    (k : K) (v : V) (b : Bool) (hr : Ev.ret k v b ∈ (callRun f cfg tl size sch (CallState.start s0 callss)).log) :
    v = f k :=
  (callInv_run f hp tl size s0 hs0 callss sch).logInv.value k v b hr

/-! ## (c) At most once per caller that missed before the first store -/

/-- the body runs for `k` exactly as often as a lookup of `k` missed -/
theorem body_runs_eq_missed_lookups (f : K → V) (cfg : Cfg) (hp : Plain cfg) (tl : Tlru S) (size : V → Nat)
    (s0 : State K V) (hs0 : ValOK f s0.store) (callss : List (List (K × List Nat))) (sch : List ThreadId) (k : K) :
    totalBodies k (callRun f cfg tl size sch (CallState.start s0 callss)).callers
      = (callRun f cfg tl size sch (CallState.start s0 callss)).log.countP (isMiss k) :=
  (callInv_run f hp tl size s0 hs0 callss sch).bodies k

/-- **The body runs at most once per call whose lookup read executed before the first store-write of `k`**:
    if a store-write of `k` has executed (`log = later ++ write k :: earlier`; take the first one), every
    body run for `k` belongs to a lookup in `earlier`, and there are at most as many as lookups of `k` in
    `earlier`. -/
theorem body_runs_le_lookups_before_first_write (f : K → V) (cfg : Cfg) (hp : Plain cfg) (tl : Tlru S)
    (size : V → Nat) (s0 : State K V) (hs0 : ValOK f s0.store) (callss : List (List (K × List Nat)))
    (sch : List ThreadId) (k : K) (later earlier : List (Ev K V))
    (hlog : (callRun f cfg tl size sch (CallState.start s0 callss)).log = later ++ Ev.write k :: earlier) :
    totalBodies k (callRun f cfg tl size sch (CallState.start s0 callss)).callers = earlier.countP (isMiss k) ∧
    earlier.countP (isMiss k) ≤ earlier.countP (isRead k) := by
  have hb := body_runs_eq_missed_lookups f cfg hp tl size s0 hs0 callss sch k
  have ha := lookup_after_store_write_hits f cfg hp tl size s0 hs0 callss sch k later earlier hlog
  refine ⟨?_, countP_isMiss_le_isRead k earlier⟩
  rw [hb, hlog, List.countP_append, List.countP_cons]
  have h0 : later.countP (isMiss k) = 0 :=
    List.countP_eq_zero.mpr fun e he hm => ha (eq_read_of_isMiss hm ▸ he)
  have h1 : isMiss k (Ev.write k : Ev K V) = false := rfl
  rw [h0, h1]; simp

/-- in any case the body runs for `k` at most once per lookup of `k` (once per caller that missed) -/
theorem body_runs_le_lookups (f : K → V) (cfg : Cfg) (hp : Plain cfg) (tl : Tlru S) (size : V → Nat)
    (s0 : State K V) (hs0 : ValOK f s0.store) (callss : List (List (K × List Nat))) (sch : List ThreadId) (k : K) :
    totalBodies k (callRun f cfg tl size sch (CallState.start s0 callss)).callers
      ≤ (callRun f cfg tl size sch (CallState.start s0 callss)).log.countP (isRead k) := by
  rw [body_runs_eq_missed_lookups f cfg hp tl size s0 hs0 callss sch k]
  exact countP_isMiss_le_isRead k _

/-! ## Non-vacuity: two callers miss concurrently (two body runs), then a third caller hits -/

def exTl : Tlru Nat := ⟨fun a b => decide (a < b), fun _ h _ r => h * r⟩
def exF (k : Nat) : Nat := k * 10
def cfgSync : Cfg := ⟨.global, .lru, none, none, none⟩
def cfgAsync : Cfg := ⟨.async, .lru, none, none, none⟩
def three : List (List (Nat × List Nat)) := [[(1, [])], [(1, [])], [(1, [])]]

/-- readable form of an event -/
def Ev.code : Ev Nat Nat → Nat × Nat × Nat
  | .read k b => (0, k, if b then 1 else 0)
  | .write k => (1, k, 0)
  | .ret k v b => (2, k, v * 2 + (if b then 1 else 0))

/-- sync engine: callers 0 and 1 both read before either writes (two misses, two body runs, two stores);
    caller 2 starts after caller 0 has returned: hit, no body run; everybody gets `f 1 = 10`.
    Chronological log: R1-miss, R1-miss, W1, ret(stored), W1, ret(stored), R1-hit, ret(served). -/
example :
    allReturnedB (callRun exF cfgSync exTl (fun _ => 0) [0, 1, 0, 0, 1, 1, 2, 2] (CallState.init three)) = true ∧
    totalBodies 1 (callRun exF cfgSync exTl (fun _ => 0) [0, 1, 0, 0, 1, 1, 2, 2] (CallState.init three)).callers = 2 ∧
    (callRun exF cfgSync exTl (fun _ => 0) [0, 1, 0, 0, 1, 1, 2, 2] (CallState.init three)).callers.map (·.rets)
      = [[(1, 10)], [(1, 10)], [(1, 10)]] ∧
    (callRun exF cfgSync exTl (fun _ => 0) [0, 1, 0, 0, 1, 1, 2, 2] (CallState.init three)).callers.map (·.bodies)
      = [[1], [1], []] ∧
    (callRun exF cfgSync exTl (fun _ => 0) [0, 1, 0, 0, 1, 1, 2, 2] (CallState.init three)).log.reverse.map Ev.code
      = [(0, 1, 0), (0, 1, 0), (1, 1, 0), (2, 1, 21), (1, 1, 0), (2, 1, 21), (0, 1, 1), (2, 1, 20)] ∧
    keys (callRun exF cfgSync exTl (fun _ => 0) [0, 1, 0, 0, 1, 1, 2, 2] (CallState.init three)).shared.store = [1] := by
  decide +kernel

/-- async engine, same story (the store is one micro-step; no bound is configured, so the LRU hit is a single
    micro-step as well, and the last entry of the schedule finds caller 2 with nothing left to do) -/
example :
    allReturnedB (callRun exF cfgAsync exTl (fun _ => 0) [0, 1, 0, 1, 2, 2] (CallState.init three)) = true ∧
    totalBodies 1 (callRun exF cfgAsync exTl (fun _ => 0) [0, 1, 0, 1, 2, 2] (CallState.init three)).callers = 2 ∧
    (callRun exF cfgAsync exTl (fun _ => 0) [0, 1, 0, 1, 2, 2] (CallState.init three)).callers.map (·.rets)
      = [[(1, 10)], [(1, 10)], [(1, 10)]] ∧
    (callRun exF cfgAsync exTl (fun _ => 0) [0, 1, 0, 1, 2, 2] (CallState.init three)).log.reverse.map Ev.code
      = [(0, 1, 0), (0, 1, 0), (1, 1, 0), (2, 1, 21), (1, 1, 0), (2, 1, 21), (0, 1, 1), (2, 1, 20)] := by
  decide +kernel

/-- sequential schedule of the same callers: one body run only -/
example :
    totalBodies 1 (callRun exF cfgSync exTl (fun _ => 0) [0, 0, 0, 1, 1, 2, 2] (CallState.init three)).callers = 1 ∧
    allReturnedB (callRun exF cfgSync exTl (fun _ => 0) [0, 0, 0, 1, 1, 2, 2] (CallState.init three)) = true := by
  decide +kernel

end Cachelito.C03c
