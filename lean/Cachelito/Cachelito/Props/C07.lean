/-
  C07 — FIFO evicts the oldest store, LRU the least recently used entry.

  Property theorems only (helper lemmas and the ghost definitions live in `Cachelito/Lemmas/Order.lean`).

  Ghost stamps: `stamps cfg tl size ops : Ghost K` is computed from the history `ops` and the outputs
  that `run` produced for it, nothing else (`Ghost`, `gstep`, `ghostOf`, `stamps` in `Lemmas/Order.lean`):
    * `n`            number of operations performed,
    * `lastStore k`  1-based index of the latest `insert` / `insert_with_memory` of `k` (0 = never),
    * `lastUse k`    1-based index of the latest store of `k` or lookup of `k` that returned a value.
  A lookup never changes `lastStore` (`reads_do_not_touch_lastStore`), so "stored longest ago" is
  independent of how often an entry was read.

  All statements quantify over every flavour (sync global, thread-local, async), every TLRU score
  algebra `tl`, every size function, every stream of random draws and every finite history.
-/
import Cachelito.Lemmas.Order

namespace Cachelito.C07
open Cachelito
variable {K V S : Type} [DecidableEq K]

/-! ### The ghost does not influence the model -/

/-- The ghost-augmented run, with the ghost projected away, is exactly `run` (same final state, same
    outputs), and its ghost component is the fold `ghostOf` over the operations and the outputs of
    `run`: the stamps are a pure function of the history and the model's outputs. -/
theorem ghost_erasure (cfg : Cfg) (tl : Tlru S) (size : V → Nat) (s : State K V) (g : Ghost K)
    (ops : List (Op K V × List Nat)) :
    (grun cfg tl size (s, g) ops).1.1 = (run cfg tl size s ops).1 ∧
    (grun cfg tl size (s, g) ops).2 = (run cfg tl size s ops).2 ∧
    (grun cfg tl size (s, g) ops).1.2 = ghostOf g (ops.map (·.1)) (run cfg tl size s ops).2 := by
  rw [grun_eq]; exact ⟨rfl, rfl, rfl⟩

/-- The stamps after a history extended by one operation are the previous stamps updated by `gstep`
    with that operation and the output the model gave for it. -/
theorem stamps_step (cfg : Cfg) (tl : Tlru S) (size : V → Nat) (ops : List (Op K V × List Nat))
    (op : Op K V) (rs : List Nat) :
    (stamps cfg tl size (ops ++ [(op, rs)]) : Ghost K) =
      gstep (stamps cfg tl size ops) op
        (step cfg tl size rs (run cfg tl size (State.init : State K V) ops).1 op).2 :=
  stamps_snoc cfg tl size ops op rs

/-- A lookup — hit, miss or expired — never changes any key's `lastStore` stamp: the FIFO age of an
    entry does not depend on how often it was read. -/
theorem reads_do_not_touch_lastStore (g : Ghost K) (k : K) (o : Out V) :
    (gstep g (.get k : Op K V) o).lastStore = g.lastStore := by
  unfold gstep
  simp only
  split <;> rfl

/-- A store gives its key the freshest stamp (both `lastStore` and `lastUse` equal the new step
    counter), and leaves the stamps of all other keys alone. -/
theorem store_stamps_newcomer (g : Ghost K) (k : K) (v : V) (o : Out V) :
    (gstep g (.insert k v : Op K V) o).lastStore k = (gstep g (.insert k v : Op K V) o).n ∧
    (gstep g (.insert k v : Op K V) o).lastUse k = (gstep g (.insert k v : Op K V) o).n ∧
    (gstep g (.insertMem k v : Op K V) o).lastStore k = (gstep g (.insertMem k v : Op K V) o).n ∧
    (gstep g (.insertMem k v : Op K V) o).lastUse k = (gstep g (.insertMem k v : Op K V) o).n ∧
    ∀ x, x ≠ k →
      (gstep g (.insert k v : Op K V) o).lastStore x = g.lastStore x ∧
      (gstep g (.insert k v : Op K V) o).lastUse x = g.lastUse x ∧
      (gstep g (.insertMem k v : Op K V) o).lastStore x = g.lastStore x ∧
      (gstep g (.insertMem k v : Op K V) o).lastUse x = g.lastUse x := by
  simp only [gstep, upd, if_true, true_and]
  intro x hx
  simp only [hx, if_false, and_self]

/-! ### The queue is sorted by the policy's stamp in every reachable state -/

/-- **FIFO order invariant.**  After every history, in all three flavours, the eviction queue is
    strictly increasing (front to back) in the step index of each key's latest store. -/
theorem fifo_queue_sorted (cfg : Cfg) (hp : cfg.policy = .fifo) (tl : Tlru S) (size : V → Nat)
    (ops : List (Op K V × List Nat)) :
    (run cfg tl size (State.init : State K V) ops).1.queue.Pairwise
      (fun a b => (stamps cfg tl size ops : Ghost K).lastStore a < (stamps cfg tl size ops : Ghost K).lastStore b) := by
  have := (run_ordInv (Or.inl hp) (RefreshOK.of_fifo hp) tl size ops).2.2
  rw [hp] at this
  exact this

/-- **LRU order invariant.**  After every history the eviction queue is strictly increasing (front to
    back) in the step index of each key's latest use (store or successful lookup).  For the async
    flavour this needs a configured bound (`limit` or `max_memory`), because the async engine skips the
    recency refresh on a hit otherwise (`async_global_cache.rs:369-383`); without any bound nothing is
    ever evicted (`unbounded_store_removes_nothing`), and the hypothesis cannot be dropped
    (`async_unbounded_lru_queue_not_sorted` below). -/
theorem lru_queue_sorted (cfg : Cfg) (hp : cfg.policy = .lru)
    (hb : cfg.flavour = .async → (cfg.limit.isSome || cfg.maxMem.isSome) = true)
    (tl : Tlru S) (size : V → Nat) (ops : List (Op K V × List Nat)) :
    (run cfg tl size (State.init : State K V) ops).1.queue.Pairwise
      (fun a b => (stamps cfg tl size ops : Ghost K).lastUse a < (stamps cfg tl size ops : Ghost K).lastUse b) := by
  have hok : RefreshOK cfg := fun hf _ => hb hf
  have := (run_ordInv (Or.inr hp) hok tl size ops).2.2
  rw [hp] at this
  exact this

/-- The order invariant is inductive from ANY consistent state, not only from the empty cache: if the
    bookkeeping invariant `Inv` and the order invariant `OrdInv` (stamps in the past, queue sorted by
    `lastStore` under FIFO / `lastUse` under LRU) hold, they hold after any operation. -/
theorem order_invariant_step (cfg : Cfg) (hp : cfg.policy = .fifo ∨ cfg.policy = .lru)
    (hb : cfg.flavour = .async → cfg.policy = .lru → (cfg.limit.isSome || cfg.maxMem.isSome) = true)
    (tl : Tlru S) (size : V → Nat) (rs : List Nat) (s : State K V) (g : Ghost K) (hi : Inv s)
    (ho : OrdInv cfg s g) (op : Op K V) :
    Inv (step cfg tl size rs s op).1 ∧
      OrdInv cfg (step cfg tl size rs s op).1 (gstep g op (step cfg tl size rs s op).2) :=
  ⟨step_inv cfg tl size rs s op hi, step_ordInv hp hb tl size rs hi ho op⟩

/-! ### Every FIFO/LRU eviction removes the queue head -/

/-- In a consistent store, one eviction under FIFO or LRU — in the entry-limit step and in an
    iteration of the memory loop, in every flavour — removes exactly the key at the front of the queue
    from both structures. -/
theorem eviction_pops_head (cfg : Cfg) (hp : cfg.policy = .fifo ∨ cfg.policy = .lru) (tl : Tlru S)
    (now r : Nat) (m : Store K V) (k : K) (rest : List K) (h : InvMQ m (k :: rest)) :
    evictLimit cfg tl now r m (k :: rest) = (eraseKey k m, rest, true) ∧
    evictMem cfg tl now r m (k :: rest) = (eraseKey k m, rest, true) :=
  ⟨evictLimit_head hp tl now r h, evictMem_head hp tl now r h⟩

/-- **Entry-limit pressure (component level).**  In a consistent store whose queue is sorted by a
    stamp `f`, every key removed by the FIFO/LRU entry-limit step has a strictly smaller stamp than
    every key that survives it: the victim is the minimum of `f` among the entries present. -/
theorem limit_victim_is_oldest (cfg : Cfg) (hp : cfg.policy = .fifo ∨ cfg.policy = .lru) (tl : Tlru S)
    (now r : Nat) (m : Store K V) (q : List K) (h : InvMQ m q) (f : K → Nat)
    (hs : q.Pairwise (fun a b => f a < f b)) :
    ∀ x y, x ∈ keys m → x ∉ keys (limitStep cfg tl now r m q).1 → y ∈ keys (limitStep cfg tl now r m q).1 →
      f x < f y :=
  victims_oldest h hs (limitStep_shrunk h cfg tl now r) (limitStep_suffix hp tl now r m q)

/-- **Memory pressure (component level).**  In a consistent store whose queue is sorted by a stamp `f`,
    every key removed by the FIFO/LRU memory loop — it may remove several — has a strictly smaller
    stamp than every key that survives the loop. -/
theorem memory_victims_are_oldest (cfg : Cfg) (hp : cfg.policy = .fifo ∨ cfg.policy = .lru) (tl : Tlru S)
    (size : V → Nat) (now maxM extra fuel : Nat) (rs : List Nat) (m : Store K V) (q : List K) (h : InvMQ m q)
    (f : K → Nat) (hs : q.Pairwise (fun a b => f a < f b)) :
    ∀ x y, x ∈ keys m → x ∉ keys (memLoop cfg tl size now maxM extra fuel rs m q).1 →
      y ∈ keys (memLoop cfg tl size now maxM extra fuel rs m q).1 → f x < f y :=
  victims_oldest h hs (memLoop_inv_shrunk cfg tl size now maxM extra fuel rs h).2
    (memLoop_suffix hp tl size now maxM extra fuel rs m q)

/-- Without `limit` and without `max_memory` a store never removes an entry (any flavour, any policy).
    This is why the bound hypothesis of `lru_queue_sorted` is harmless. -/
theorem unbounded_store_removes_nothing (cfg : Cfg) (hl : cfg.limit = none) (hm : cfg.maxMem = none)
    (tl : Tlru S) (size : V → Nat) (rs : List Nat) (s : State K V) (op : Op K V) (k : K)
    (hop : IsStore cfg size op k) :
    ∀ x, x ∈ keys s.store → x ∈ keys (step cfg tl size rs s op).1.store :=
  store_unbounded_keeps cfg hl hm tl size rs s hop

/-! ### Who is evicted, for every history

  `IsStore cfg size op k` says that `op` is `insert k v`, or `insert_with_memory k v` with a value that
  is not larger than `max_memory` (the oversize path does not cache the value and drops the key's old
  entry; it is not an eviction).  A plain `insert` can only be under entry-limit pressure; an
  `insert_with_memory` runs the memory loop and then the entry-limit step, so the statements below
  cover `limit`-only, `max_memory`-only and combined pressure. -/

/-- **C07, FIFO.**  After any history, when a store operation removes entries (because of `limit`,
    of `max_memory`, or both), every removed key was stored strictly longer ago than every key held
    afterwards — the survivors and the newcomer, which carries the freshest stamp.  So the victims are
    exactly the oldest stores, however often they were read (`lastStore` ignores lookups).  All three
    flavours, no side condition. -/
theorem fifo_evicts_oldest_store (cfg : Cfg) (hp : cfg.policy = .fifo) (tl : Tlru S) (size : V → Nat)
    (ops : List (Op K V × List Nat)) (op : Op K V) (rs : List Nat) (k : K) (hop : IsStore cfg size op k) :
    ∀ x y,
      x ∈ keys (run cfg tl size (State.init : State K V) ops).1.store →
      x ∉ keys (step cfg tl size rs (run cfg tl size (State.init : State K V) ops).1 op).1.store →
      y ∈ keys (step cfg tl size rs (run cfg tl size (State.init : State K V) ops).1 op).1.store →
      (stamps cfg tl size (ops ++ [(op, rs)]) : Ghost K).lastStore x <
        (stamps cfg tl size (ops ++ [(op, rs)]) : Ghost K).lastStore y := by
  have hi := run_inv cfg tl size (State.init : State K V) ops inv_init
  have ho := run_ordInv (Or.inl hp) (RefreshOK.of_fifo hp) tl size ops
  have := store_victims_older (Or.inl hp) tl size rs hi ho hop
  rw [stamps_snoc]
  rw [hp] at this
  exact this

/-- **C07, LRU.**  After any history, when a store operation removes entries (because of `limit`,
    of `max_memory`, or both), every removed key was last used (stored or successfully looked up)
    strictly longer ago than every key held afterwards — the survivors and the newcomer.  All three
    flavours and NO side condition: for an async cache without any bound the queue order may be stale,
    but then nothing is ever removed. -/
theorem lru_evicts_least_recently_used (cfg : Cfg) (hp : cfg.policy = .lru) (tl : Tlru S) (size : V → Nat)
    (ops : List (Op K V × List Nat)) (op : Op K V) (rs : List Nat) (k : K) (hop : IsStore cfg size op k) :
    ∀ x y,
      x ∈ keys (run cfg tl size (State.init : State K V) ops).1.store →
      x ∉ keys (step cfg tl size rs (run cfg tl size (State.init : State K V) ops).1 op).1.store →
      y ∈ keys (step cfg tl size rs (run cfg tl size (State.init : State K V) ops).1 op).1.store →
      (stamps cfg tl size (ops ++ [(op, rs)]) : Ghost K).lastUse x <
        (stamps cfg tl size (ops ++ [(op, rs)]) : Ghost K).lastUse y := by
  by_cases hok : RefreshOK cfg
  -- either the queue order is kept up to date, or no bound is configured and nothing is ever removed
  · have hi := run_inv cfg tl size (State.init : State K V) ops inv_init
    have ho := run_ordInv (Or.inr hp) hok tl size ops
    have := store_victims_older (Or.inr hp) tl size rs hi ho hop
    rw [stamps_snoc]
    rw [hp] at this
    exact this
  · have hl : cfg.limit = none := by
      cases h : cfg.limit with
      | none => rfl
      | some n => exact absurd (RefreshOK.of_bound (by simp [h])) hok
    have hm : cfg.maxMem = none := by
      cases h : cfg.maxMem with
      | none => rfl
      | some n => exact absurd (RefreshOK.of_bound (by simp [h])) hok
    intro x y hx hnx _
    exact absurd (store_unbounded_keeps cfg hl hm tl size rs _ hop x hx) hnx

/-- **One store from any consistent, sorted state** (not only states reachable from the empty cache):
    every key removed by a FIFO/LRU store has a smaller policy stamp (`lastStore` under FIFO, `lastUse`
    under LRU) than every key held afterwards. -/
theorem store_evicts_min_stamp (cfg : Cfg) (hp : cfg.policy = .fifo ∨ cfg.policy = .lru) (tl : Tlru S)
    (size : V → Nat) (rs : List Nat) (s : State K V) (g : Ghost K) (hi : Inv s) (ho : OrdInv cfg s g)
    (op : Op K V) (k : K) (hop : IsStore cfg size op k) :
    ∀ x y, x ∈ keys s.store → x ∉ keys (step cfg tl size rs s op).1.store →
      y ∈ keys (step cfg tl size rs s op).1.store →
      (gstep g op (step cfg tl size rs s op).2).stamp cfg.policy x <
        (gstep g op (step cfg tl size rs s op).2).stamp cfg.policy y :=
  store_victims_older hp tl size rs hi ho hop

/-! ### Non-vacuity

  Concrete histories over `K = V = Nat`; the value is its own size estimate. -/

def exTl : Tlru Nat := ⟨fun a b => decide (a < b), fun _ h _ r => h * r⟩

/-- FIFO, limit 2, sync global: key 1 is read three times and is still the victim -/
def fifoCfg : Cfg := ⟨.global, .fifo, some 2, none, none⟩
def fifoOps : List (Op Nat Nat × List Nat) :=
  [(.insert 1 10, []), (.insert 2 20, []), (.get 1, []), (.get 1, []), (.get 1, [])]

example : keys (run fifoCfg exTl id (State.init : State Nat Nat) fifoOps).1.store = [1, 2] := by decide
example : (run fifoCfg exTl id (State.init : State Nat Nat) fifoOps).2 =
    [.unit, .unit, .val (some 10), .val (some 10), .val (some 10)] := by rfl
example : keys (step fifoCfg exTl id [] (run fifoCfg exTl id (State.init : State Nat Nat) fifoOps).1
    (.insert 3 30)).1.store = [2, 3] := by decide
example : IsStore fifoCfg id (.insert 3 30 : Op Nat Nat) 3 := Or.inl ⟨30, rfl⟩
/-- stamps: key 1 stored at step 1 (used last at step 5), key 2 at step 2, key 3 at step 6 -/
example : ((stamps fifoCfg exTl id (fifoOps ++ [(.insert 3 30, [])]) : Ghost Nat).lastStore 1,
           (stamps fifoCfg exTl id (fifoOps ++ [(.insert 3 30, [])]) : Ghost Nat).lastStore 2,
           (stamps fifoCfg exTl id (fifoOps ++ [(.insert 3 30, [])]) : Ghost Nat).lastStore 3,
           (stamps fifoCfg exTl id (fifoOps ++ [(.insert 3 30, [])]) : Ghost Nat).lastUse 1) = (1, 2, 6, 5) := by
  -- `stamps` runs the whole history: plain `decide` would evaluate it in the elaborator and again in the kernel
  decide +kernel

/-- the hypotheses of `fifo_evicts_oldest_store` are satisfiable: instantiated at this history with victim 1
    and survivor 2 (resp. newcomer 3) it yields the concrete stamp inequalities -/
example : (stamps fifoCfg exTl id (fifoOps ++ [(.insert 3 30, [])]) : Ghost Nat).lastStore 1 <
    (stamps fifoCfg exTl id (fifoOps ++ [(.insert 3 30, [])]) : Ghost Nat).lastStore 2 :=
  fifo_evicts_oldest_store fifoCfg rfl exTl id fifoOps (.insert 3 30) [] 3 (Or.inl ⟨30, rfl⟩) 1 2
    (by decide) (by decide) (by decide)
example : (stamps fifoCfg exTl id (fifoOps ++ [(.insert 3 30, [])]) : Ghost Nat).lastStore 1 <
    (stamps fifoCfg exTl id (fifoOps ++ [(.insert 3 30, [])]) : Ghost Nat).lastStore 3 :=
  fifo_evicts_oldest_store fifoCfg rfl exTl id fifoOps (.insert 3 30) [] 3 (Or.inl ⟨30, rfl⟩) 1 3
    (by decide) (by decide) (by decide)

/-- LRU, limit 2, thread-local: the lookup of key 1 saves it, key 2 is the victim -/
def lruCfg : Cfg := ⟨.threadLocal, .lru, some 2, none, none⟩
def lruOps : List (Op Nat Nat × List Nat) :=
  [(.insert 1 10, []), (.insert 2 20, []), (.get 1, [])]

example : keys (run lruCfg exTl id (State.init : State Nat Nat) lruOps).1.store = [1, 2] := by decide
example : keys (step lruCfg exTl id [] (run lruCfg exTl id (State.init : State Nat Nat) lruOps).1
    (.insert 3 30)).1.store = [1, 3] := by decide
example : ((stamps lruCfg exTl id (lruOps ++ [(.insert 3 30, [])]) : Ghost Nat).lastUse 1,
           (stamps lruCfg exTl id (lruOps ++ [(.insert 3 30, [])]) : Ghost Nat).lastUse 2,
           (stamps lruCfg exTl id (lruOps ++ [(.insert 3 30, [])]) : Ghost Nat).lastUse 3) = (3, 2, 4) := by
  decide +kernel

example : (stamps lruCfg exTl id (lruOps ++ [(.insert 3 30, [])]) : Ghost Nat).lastUse 2 <
    (stamps lruCfg exTl id (lruOps ++ [(.insert 3 30, [])]) : Ghost Nat).lastUse 1 :=
  lru_evicts_least_recently_used lruCfg rfl exTl id lruOps (.insert 3 30) [] 3 (Or.inl ⟨30, rfl⟩) 2 1
    (by decide) (by decide) (by decide)

/-- LRU under memory pressure only, async (`max_memory = 30`, no `limit`): three entries of size 10,
    key 1 is read, then a value of size 20 arrives: the memory loop removes TWO victims, keys 2 and 3
    (the two least recently used); key 1 survives. -/
def memCfg : Cfg := ⟨.async, .lru, none, some 30, none⟩
def memOps : List (Op Nat Nat × List Nat) :=
  [(.insertMem 1 10, []), (.insertMem 2 10, []), (.insertMem 3 10, []), (.get 1, [])]

example : keys (run memCfg exTl id (State.init : State Nat Nat) memOps).1.store = [1, 2, 3] := by decide
example : keys (step memCfg exTl id [] (run memCfg exTl id (State.init : State Nat Nat) memOps).1
    (.insertMem 4 20)).1.store = [1, 4] := by decide
example : IsStore memCfg id (.insertMem 4 20 : Op Nat Nat) 4 := Or.inr ⟨20, rfl, by decide⟩
example : ((stamps memCfg exTl id (memOps ++ [(.insertMem 4 20, [])]) : Ghost Nat).lastUse 1,
           (stamps memCfg exTl id (memOps ++ [(.insertMem 4 20, [])]) : Ghost Nat).lastUse 2,
           (stamps memCfg exTl id (memOps ++ [(.insertMem 4 20, [])]) : Ghost Nat).lastUse 3,
           (stamps memCfg exTl id (memOps ++ [(.insertMem 4 20, [])]) : Ghost Nat).lastUse 4) = (4, 2, 3, 5) := by
  decide +kernel

/-- both victims (2 and 3) are older than the survivor 1, by the theorem -/
example : (stamps memCfg exTl id (memOps ++ [(.insertMem 4 20, [])]) : Ghost Nat).lastUse 2 <
      (stamps memCfg exTl id (memOps ++ [(.insertMem 4 20, [])]) : Ghost Nat).lastUse 1 ∧
    (stamps memCfg exTl id (memOps ++ [(.insertMem 4 20, [])]) : Ghost Nat).lastUse 3 <
      (stamps memCfg exTl id (memOps ++ [(.insertMem 4 20, [])]) : Ghost Nat).lastUse 1 :=
  ⟨lru_evicts_least_recently_used memCfg rfl exTl id memOps (.insertMem 4 20) [] 4
      (Or.inr ⟨20, rfl, by decide⟩) 2 1 (by decide) (by decide) (by decide),
   lru_evicts_least_recently_used memCfg rfl exTl id memOps (.insertMem 4 20) [] 4
      (Or.inr ⟨20, rfl, by decide⟩) 3 1 (by decide) (by decide) (by decide)⟩

/-- FIFO under memory pressure, sync global: the same history evicts keys 1 and 2 although key 1 was
    just read. -/
def memFifoCfg : Cfg := ⟨.global, .fifo, none, some 30, none⟩
example : keys (step memFifoCfg exTl id [] (run memFifoCfg exTl id (State.init : State Nat Nat) memOps).1
    (.insertMem 4 20)).1.store = [3, 4] := by decide +kernel

/-- The bound hypothesis of `lru_queue_sorted` cannot be dropped: an async LRU cache with neither
    `limit` nor `max_memory` does not refresh the queue on a hit, so after `insert 1; insert 2; get 1`
    the queue is `[1, 2]` while key 1 is the more recently used one. -/
def unboundedCfg : Cfg := ⟨.async, .lru, none, none, none⟩
theorem async_unbounded_lru_queue_not_sorted :
    (run unboundedCfg exTl id (State.init : State Nat Nat) lruOps).1.queue = [1, 2] ∧
    ¬ (stamps unboundedCfg exTl id lruOps : Ghost Nat).lastUse 1 <
        (stamps unboundedCfg exTl id lruOps : Ghost Nat).lastUse 2 := by
  decide

end Cachelito.C07
