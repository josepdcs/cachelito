/-
  X01 — The thread-local engine and the sync global engine are the same machine.

  `Core.lean` transcribes `global_cache.rs` and `thread_local_cache.rs` into ONE `step` function with a
  flavour switch.  Every flavour-dependent definition (`elapsedMs`, `expired`, `stamp`, `rank`,
  `removeBoth`, `overLimit`, `hitUpdate`, `insert`, `insertMem`) branches `| .async => … | _ => …`, so
  `.global` and `.threadLocal` take the same branch.  The ONLY textual difference is the FIFO/LRU arm of
  one iteration of the memory loop (`evictMem`): the global engine pops queue keys until it finds a
  stored one (`popStored`, `global_cache.rs:835-852`), the thread-local engine pops exactly one
  (`popOne`, `thread_local_cache.rs:642-651`).

  The proofs are in `Lemmas/Extra.lean` (lemmas `*_gt`: global versus thread-local, `*_gt_any`: on every
  state); this file states the results.

  Results.
  * On consistent states (`InvMQ`: queue and store track the same keys) the two iterations coincide, and
    so do the whole memory loops INCLUDING the random draws they leave over
    (`evictMem_global_eq_threadLocal`, `memLoop_global_eq_threadLocal`).
  * Without the invariant one iteration differs, and the loops differ in the number of iterations and
    of draws consumed (examples at the end: a state with one orphan queue key) — this is why the model
    keeps the two arms separate: the per-iteration behaviour on the inconsistent states that concurrent
    use can leave behind is different code.
  * But the difference never reaches an operation's result: popping an orphan frees no memory, so the
    thread-local loop goes on popping until it has removed the very key `popStored` removes, and FIFO/LRU
    use no random draws.  Hence `step` (state AND output) agrees on EVERY state, consistent or not
    (`step_global_eq_threadLocal`), and so does every history from every start state
    (`run_global_eq_threadLocal`; the argument is `Extra.insertMem_gt_any`).  The version with `Inv s`
    asked for by the design (`step_global_eq_threadLocal_of_inv`) is the special case.

  One hypothesis is unavoidable: the TLRU scorer `tl.score` receives the whole `Cfg`, so an arbitrary
  scorer could inspect the flavour.  `SyncBlind tl cfg` (`Lemmas/Extra.lean`) says it does not distinguish `.global` from
  `.threadLocal`; it is only needed for `policy = .tlru`, it holds for every scorer of the development
  (`exactTlru`, `linearTlru`, the driver's `tlruFloat` — `syncBlind_*` below), and it cannot be dropped
  (last example).
-/
import Cachelito.Lemmas.Extra
import Cachelito.Lemmas.Score
import Cachelito.Driver

namespace Cachelito.X01
open Cachelito Cachelito.Extra
variable {K V S : Type} [DecidableEq K]

/-- **One memory-loop iteration, consistent states.**  If queue and store track the same keys, the
    global engine's "pop until a stored key" and the thread-local engine's "pop one key" are the same
    eviction (all policies: the other arms are shared code). -/
theorem evictMem_global_eq_threadLocal (cfg : Cfg) (tl : Tlru S)
    (htl : cfg.policy = .tlru → SyncBlind tl cfg) (now r : Nat) (m : Store K V) (q : List K) (h : InvMQ m q) :
    evictMem { cfg with flavour := .global } tl now r m q =
      evictMem { cfg with flavour := .threadLocal } tl now r m q :=
  evictMem_gt cfg tl htl now r h

/-- **The memory loop, consistent states.**  Started on a consistent store/queue the two loops pass
    through the same intermediate states (each is consistent again, `Evicted.inv`) and return the same
    store, queue AND left-over random draws, for every fuel. -/
theorem memLoop_global_eq_threadLocal (cfg : Cfg) (tl : Tlru S)
    (htl : cfg.policy = .tlru → SyncBlind tl cfg) (size : V → Nat) (now maxM extra fuel : Nat) (rs : List Nat)
    (m : Store K V) (q : List K) (h : InvMQ m q) :
    memLoop { cfg with flavour := .global } tl size now maxM extra fuel rs m q =
      memLoop { cfg with flavour := .threadLocal } tl size now maxM extra fuel rs m q :=
  memLoop_gt cfg tl htl size now maxM extra fuel rs h

/-- **X01, one operation, every state.**  For every configuration, scorer (flavour-blind if the policy
    is TLRU), size function, random draws, operation and EVERY state — consistent or not — the sync
    global engine and the thread-local engine produce the same successor state and the same output. -/
theorem step_global_eq_threadLocal (cfg : Cfg) (tl : Tlru S)
    (htl : cfg.policy = .tlru → SyncBlind tl cfg) (size : V → Nat) (rs : List Nat) (s : State K V) (op : Op K V) :
    step { cfg with flavour := .global } tl size rs s op =
      step { cfg with flavour := .threadLocal } tl size rs s op :=
  step_gt_any cfg tl htl size rs s op

/-- **X01 as stated in the design** (states satisfying `Inv`): the special case of
    `step_global_eq_threadLocal`; the invariant is not needed. -/
theorem step_global_eq_threadLocal_of_inv (cfg : Cfg) (tl : Tlru S)
    (htl : cfg.policy = .tlru → SyncBlind tl cfg) (size : V → Nat) (rs : List Nat) (s : State K V) (op : Op K V)
    (h : Inv s) :
    step { cfg with flavour := .global } tl size rs s op =
      step { cfg with flavour := .threadLocal } tl size rs s op :=
  step_gt cfg tl htl size rs s op h

/-- **X01, whole histories, from every start state.**  Equal final states and equal output lists. -/
theorem run_global_eq_threadLocal (cfg : Cfg) (tl : Tlru S)
    (htl : cfg.policy = .tlru → SyncBlind tl cfg) (size : V → Nat) (s : State K V)
    (ops : List (Op K V × List Nat)) :
    run { cfg with flavour := .global } tl size s ops =
      run { cfg with flavour := .threadLocal } tl size s ops :=
  run_gt_any cfg tl htl size s ops

/-- **X01, whole histories from the empty cache**: the same final state and the same outputs for every
    history. -/
theorem run_init_global_eq_threadLocal (cfg : Cfg) (tl : Tlru S)
    (htl : cfg.policy = .tlru → SyncBlind tl cfg) (size : V → Nat) (ops : List (Op K V × List Nat)) :
    (run { cfg with flavour := .global } tl size (State.init : State K V) ops).1 =
      (run { cfg with flavour := .threadLocal } tl size (State.init : State K V) ops).1 ∧
    (run { cfg with flavour := .global } tl size (State.init : State K V) ops).2 =
      (run { cfg with flavour := .threadLocal } tl size (State.init : State K V) ops).2 := by
  rw [run_global_eq_threadLocal cfg tl htl size State.init ops]
  exact ⟨rfl, rfl⟩

/-- For FIFO, LRU, LFU, ARC and Random no assumption about the scorer is needed: every scorer, every
    state, every history. -/
theorem run_global_eq_threadLocal_of_not_tlru (cfg : Cfg) (hp : cfg.policy ≠ .tlru) (tl : Tlru S)
    (size : V → Nat) (s : State K V) (ops : List (Op K V × List Nat)) :
    run { cfg with flavour := .global } tl size s ops =
      run { cfg with flavour := .threadLocal } tl size s ops :=
  run_global_eq_threadLocal cfg tl (fun h => absurd h hp) size s ops

/-- Same statement for configurations given with their flavour: two configurations that differ only in
    the flavour field, one `.global` and one `.threadLocal`, run every history alike. -/
theorem run_eq_of_sync_flavours (cg ct : Cfg) (hg : cg.flavour = .global) (ht : ct.flavour = .threadLocal)
    (hpol : cg.policy = ct.policy) (hlim : cg.limit = ct.limit) (hmem : cg.maxMem = ct.maxMem)
    (httl : cg.ttl = ct.ttl) (tl : Tlru S) (htl : cg.policy = .tlru → SyncBlind tl cg) (size : V → Nat)
    (s : State K V) (ops : List (Op K V × List Nat)) :
    run cg tl size s ops = run ct tl size s ops := by
  have e1 : cg = { cg with flavour := .global } := by
    cases cg; simp only at hg; subst hg; rfl
  have e2 : ct = { cg with flavour := .threadLocal } := by
    cases cg; cases ct; simp only at ht hpol hlim hmem httl; subst ht hpol hlim hmem httl; rfl
  rw [e2, e1]
  exact run_global_eq_threadLocal cg tl htl size s ops

/-! ### The scorers of the development are flavour-blind -/

/-- the exact-arithmetic TLRU scorer (`Lemmas/Score.lean`) ignores the flavour -/
theorem syncBlind_exactTlru (w : Nat) (cfg : Cfg) : SyncBlind (exactTlru w) cfg := fun _ _ _ => rfl

/-- the linear-weight exact scorer ignores the flavour -/
theorem syncBlind_linearTlru (w : Nat) (cfg : Cfg) : SyncBlind (linearTlru w) cfg := fun _ _ _ => rfl

/-- the `f64` scorer the correspondence driver runs against the real engines distinguishes only
    async from sync -/
theorem syncBlind_tlruFloat (fw : Option Float) (cfg : Cfg) : SyncBlind (Driver.tlruFloat fw) cfg :=
  fun _ _ _ => rfl

/-! ### Non-vacuity and the precise non-equivalence -/

def exTl : Tlru Nat := exactTlru 1
def exSize : Nat → Nat := fun _ => 1
def fifoMem (maxM : Nat) : Cfg := ⟨.global, .fifo, none, some maxM, none⟩
/-- store `{2}`, queue `[1, 2]`: key 1 is an orphan (in the queue, not in the store) — a state no
    single-threaded history reaches, but concurrent use can leave behind -/
def orphanStore : Store Nat Nat := [(2, ⟨20, 0, 0⟩)]
def orphanQueue : List Nat := [1, 2]
def orphanState : State Nat Nat := ⟨orphanStore, orphanQueue, 0, 0, 0⟩

/-- the orphan state violates the invariant -/
example : ¬ Inv orphanState := by
  intro h
  have := (h.2.2 1).mp (by decide)
  revert this; decide

/-- **Non-equivalence of one iteration without the invariant.**  On the orphan state the global
    iteration skips the orphan and removes key 2 (store and queue empty), the thread-local iteration
    pops only the orphan (store untouched, queue `[2]`). -/
example :
    (keys (evictMem { fifoMem 0 with flavour := .global } exTl 0 0 orphanStore orphanQueue).1,
      (evictMem { fifoMem 0 with flavour := .global } exTl 0 0 orphanStore orphanQueue).2.1) = ([], []) ∧
    (keys (evictMem { fifoMem 0 with flavour := .threadLocal } exTl 0 0 orphanStore orphanQueue).1,
      (evictMem { fifoMem 0 with flavour := .threadLocal } exTl 0 0 orphanStore orphanQueue).2.1) = ([2], [2]) := by
  decide

/-- **Non-equivalence of the loop without the invariant.**  Same state, bound 0, draws `[7, 8, 9]`: both
    loops end with an empty store and queue, but the global loop ran one eviction (draws `[8, 9]` left),
    the thread-local loop two (`[9]` left).  So `memLoop_global_eq_threadLocal` needs `InvMQ`. -/
example :
    (memLoop { fifoMem 0 with flavour := .global } exTl exSize 0 0 0 3 [7, 8, 9] orphanStore orphanQueue).2 =
      ([], [8, 9]) ∧
    (memLoop { fifoMem 0 with flavour := .threadLocal } exTl exSize 0 0 0 3 [7, 8, 9] orphanStore orphanQueue).2 =
      ([], [9]) ∧
    keys (memLoop { fifoMem 0 with flavour := .global } exTl exSize 0 0 0 3 [7, 8, 9] orphanStore orphanQueue).1 = [] ∧
    keys (memLoop { fifoMem 0 with flavour := .threadLocal } exTl exSize 0 0 0 3 [7, 8, 9] orphanStore orphanQueue).1 = [] := by
  decide +kernel

/-- … and yet a whole operation on the orphan state ends alike (instance of
    `step_global_eq_threadLocal`): a memory-aware store of key 3 under bound 1 evicts key 2 and drops
    the orphan in both engines. -/
example :
    let sg := (step { fifoMem 1 with flavour := .global } exTl exSize [] orphanState (.insertMem 3 30)).1
    let st := (step { fifoMem 1 with flavour := .threadLocal } exTl exSize [] orphanState (.insertMem 3 30)).1
    (keys sg.store, sg.queue) = ([3], [3]) ∧ (keys st.store, st.queue) = ([3], [3]) := by
  decide

/-- the theorem is not about trivial runs: a consistent history with memory evictions, a hit, an
    invalidation and a tick, LRU with both bounds; both engines end with keys `[4, 5]` and serve 20
    for the lookup -/
def exOps : List (Op Nat Nat × List Nat) :=
  [(.insertMem 1 10, []), (.insertMem 2 20, []), (.get 2, []), (.insertMem 3 30, []), (.tick 5, []),
   (.invalidateWith (fun k => k == 3), []), (.insertMem 4 40, []), (.insertMem 5 50, [])]
def exCfg : Cfg := ⟨.global, .lru, some 3, some 2, none⟩
example :
    let rg := run { exCfg with flavour := .global } exTl exSize (State.init : State Nat Nat) exOps
    let rt := run { exCfg with flavour := .threadLocal } exTl exSize (State.init : State Nat Nat) exOps
    (keys rg.1.store, rg.1.queue) = ([4, 5], [4, 5]) ∧ (keys rt.1.store, rt.1.queue) = ([4, 5], [4, 5]) := by
  decide +kernel

/-- **`SyncBlind` cannot be dropped.**  A scorer that inspects the flavour (ascending in the hit count
    for `.global`, descending otherwise) makes the two engines evict different keys under TLRU, from a
    consistent state: limit 1, store `{1 (0 hits), 2 (5 hits)}`, store key 3. -/
def flavourTl : Tlru Nat :=
  ⟨fun a b => decide (a < b), fun cfg h _ _ => match cfg.flavour with | .global => h | _ => 100 - h⟩
def twoState : State Nat Nat := ⟨[(1, ⟨10, 0, 0⟩), (2, ⟨20, 0, 5⟩)], [1, 2], 0, 0, 0⟩
def tlruCfg : Cfg := ⟨.global, .tlru, some 1, none, none⟩
example :
    (step { tlruCfg with flavour := .global } flavourTl exSize [] twoState (.insert 3 30)).1.queue = [2, 3] ∧
    (step { tlruCfg with flavour := .threadLocal } flavourTl exSize [] twoState (.insert 3 30)).1.queue = [1, 3] := by
  decide

end Cachelito.X01
