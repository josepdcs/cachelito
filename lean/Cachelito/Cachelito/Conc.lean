/-
  Conc — the abstract concurrency theory behind C17 (and C20 (a)).

  Data is abstracted away: only LOCK EVENTS matter.  An operation of the library is described by its
  *skeleton* (`Skel`): the RAII guard scopes it opens, in which order, nested how, with which choices and
  loops.  A thread is a sequence of operations; once the thread has made its choices (`alt`, `star`) its
  behaviour is a finite list of lock events (`Ev`); a system is a list of threads, and a step of the system
  lets one enabled thread perform its next lock event.

  This file is the executable model (core Lean only, linked into the driver):
    * `Lock`, `Mode`, `Ev`, `Skel`, `Runs` (the event lists of a skeleton), `Skel.wf` (rank discipline),
    * `Rx` + derivatives and the matcher `accepts : Skel → List Ev → Bool`,
    * `Thread`, `State`, `enabledB`, `enabledWPB` (writer preference), `stepThread`, `runSchedule`,
      `explore` (exhaustive search for a stuck state),
    * `checkTrace` (is a recorded trace rank-ordered and balanced?), `WfFrom` and friends,
    * `Table`: the lock skeleton of every operation of cachelito (after the fixes F5, F6, F8), the legacy
      skeletons, and `opTable`.
  Theorems are in `Cachelito/Lemmas/Conc.lean` and `Cachelito/Props/C17.lean`.
-/

namespace Cachelito.Conc

/-! ## Locks, modes, events -/

/-- A lock.  `rank` is its level in the lock hierarchy, `id` tells locks of the same level apart (the queue
    mutexes of two different caches have the same rank and different ids).  Two locks are the same lock iff
    both fields agree. -/
structure Lock where
  rank : Nat
  id : Nat
deriving DecidableEq, Repr

/-- `Mutex::lock` and `RwLock::write` are `excl`; `RwLock::read` is `shared`. -/
inductive Mode | shared | excl
deriving DecidableEq, Repr

/-- Two holders of the same lock are compatible only when both are readers. -/
def Mode.compat : Mode → Mode → Bool
  | .shared, .shared => true
  | _, _ => false

/-- A lock event: a guard is created (`acq`) or dropped (`rel`). -/
inductive Ev
  | acq (l : Lock) (m : Mode)
  | rel (l : Lock)
deriving DecidableEq, Repr

/-! ## Skeletons -/

/-- The lock skeleton of an operation, mirroring RAII guard scopes.
    `crit l m body` = acquire `l` in mode `m`, run `body` while holding it, release `l`. -/
inductive Skel
  | done
  | crit (l : Lock) (m : Mode) (body : Skel)
  | seq (a b : Skel)
  | alt (a b : Skel)
  | star (body : Skel)
deriving DecidableEq, Repr

namespace Skel

/-- optional part -/
def opt (s : Skel) : Skel := .alt .done s
/-- sequence of several skeletons -/
def seqs : List Skel → Skel
  | [] => .done
  | s :: ss => .seq s (seqs ss)
/-- choice between several skeletons (the empty choice does nothing) -/
def alts : List Skel → Skel
  | [] => .done
  | s :: ss => .alt s (alts ss)

/-- Rank discipline: every `crit l` is entered while all locks held have rank strictly below `l.rank`.
    `held` = the locks held by the enclosing scopes. -/
def wf (held : List Lock) : Skel → Bool
  | .done => true
  | .crit l _ b => held.all (fun h => decide (h.rank < l.rank)) && b.wf (l :: held)
  | .seq a b => a.wf held && b.wf held
  | .alt a b => a.wf held && b.wf held
  | .star b => b.wf held

/-- Some of the event lists of a skeleton: every choice explored, every loop unrolled `0..n` times.
    Used by the correspondence check for branch coverage and to generate thread programs. -/
def paths (n : Nat) : Skel → List (List Ev)
  | .done => [[]]
  | .crit l m b => (b.paths n).map fun t => .acq l m :: t ++ [.rel l]
  | .seq a b => (a.paths n).flatMap fun t₁ => (b.paths n).map fun t₂ => t₁ ++ t₂
  | .alt a b => a.paths n ++ b.paths n
  | .star b =>
      let once := b.paths n
      let rec rep : Nat → List (List Ev)
        | 0 => [[]]
        | k + 1 => [] :: once.flatMap fun t₁ => (rep k).map fun t₂ => t₁ ++ t₂
      rep n

end Skel

/-- `Runs s t`: `t` is one of the lock-event lists the skeleton `s` can produce. -/
inductive Runs : Skel → List Ev → Prop
  | done : Runs .done []
  | crit {l m b t} : Runs b t → Runs (.crit l m b) (.acq l m :: t ++ [.rel l])
  | seq {a b t₁ t₂} : Runs a t₁ → Runs b t₂ → Runs (.seq a b) (t₁ ++ t₂)
  | altL {a b t} : Runs a t → Runs (.alt a b) t
  | altR {a b t} : Runs b t → Runs (.alt a b) t
  | starNil {b} : Runs (.star b) []
  | starCons {b t₁ t₂} : Runs b t₁ → Runs (.star b) t₂ → Runs (.star b) (t₁ ++ t₂)

/-! ## The matcher: regular expressions over events, Brzozowski derivatives -/

/-- Plain regular expressions over lock events (a skeleton with its brackets flattened). -/
inductive Rx
  | empty
  | eps
  | ev (e : Ev)
  | seq (a b : Rx)
  | alt (a b : Rx)
  | star (a : Rx)
deriving DecidableEq, Repr

namespace Rx

inductive Matches : Rx → List Ev → Prop
  | eps : Matches .eps []
  | ev (e : Ev) : Matches (.ev e) [e]
  | seq {a b t₁ t₂} : Matches a t₁ → Matches b t₂ → Matches (.seq a b) (t₁ ++ t₂)
  | altL {a b t} : Matches a t → Matches (.alt a b) t
  | altR {a b t} : Matches b t → Matches (.alt a b) t
  | starNil {a} : Matches (.star a) []
  | starCons {a t₁ t₂} : Matches a t₁ → Matches (.star a) t₂ → Matches (.star a) (t₁ ++ t₂)

def nullable : Rx → Bool
  | .empty => false
  | .eps => true
  | .ev _ => false
  | .seq a b => a.nullable && b.nullable
  | .alt a b => a.nullable || b.nullable
  | .star _ => true

/-- `seq` that simplifies `∅·b = ∅` and `ε·b = b` (keeps derivatives small) -/
def mkSeq : Rx → Rx → Rx
  | .empty, _ => .empty
  | .eps, b => b
  | a, b => .seq a b

/-- `alt` that simplifies `∅ + b = b`, `a + ∅ = a` -/
def mkAlt : Rx → Rx → Rx
  | .empty, b => b
  | a, .empty => a
  | a, b => .alt a b

/-- Brzozowski derivative: the expression matching `t` iff the original matches `e :: t`. -/
def deriv (e : Ev) : Rx → Rx
  | .empty => .empty
  | .eps => .empty
  | .ev e' => if e = e' then .eps else .empty
  | .seq a b => if a.nullable then mkAlt (mkSeq (a.deriv e) b) (b.deriv e) else mkSeq (a.deriv e) b
  | .alt a b => mkAlt (a.deriv e) (b.deriv e)
  | .star a => mkSeq (a.deriv e) (.star a)

def derivs : Rx → List Ev → Rx
  | r, [] => r
  | r, e :: t => derivs (r.deriv e) t

def matchesB (r : Rx) (t : List Ev) : Bool := (r.derivs t).nullable

end Rx

def Skel.toRx : Skel → Rx
  | .done => .eps
  | .crit l m b => .seq (.ev (.acq l m)) (.seq b.toRx (.ev (.rel l)))
  | .seq a b => .seq a.toRx b.toRx
  | .alt a b => .alt a.toRx b.toRx
  | .star b => .star b.toRx

/-- Is the recorded lock-event trace `t` one of the event lists of skeleton `s`?
    (`accepts s t = true ↔ Runs s t`, theorem `accepts_iff`.) -/
def accepts (s : Skel) (t : List Ev) : Bool := s.toRx.matchesB t

def Rx.nonEmptyB : Rx → Bool
  | .empty => false
  | .eps => true
  | .ev _ => true
  | .seq a b => a.nonEmptyB && b.nonEmptyB
  | .alt a b => a.nonEmptyB || b.nonEmptyB
  | .star _ => true
/-- Is `t` a PREFIX of one of the event lists of `s`?  (for traces of operations cut short) -/
def acceptsPrefix (s : Skel) (t : List Ev) : Bool := (s.toRx.derivs t).nonEmptyB

/-! ## Traces: rank order and balance -/

/-- what a thread holds after performing `e` -/
def heldAfter (held : List (Lock × Mode)) : Ev → List (Lock × Mode)
  | .acq l m => (l, m) :: held
  | .rel l => held.filter (fun x => decide (x.1 ≠ l))

/-- Starting with `held`, every acquisition in the trace is of a lock ranked strictly above everything
    held at that moment (in particular a held lock is never re-acquired). -/
def RankedFrom : List (Lock × Mode) → List Ev → Prop
  | _, [] => True
  | held, .acq l m :: p => (∀ x ∈ held, x.1.rank < l.rank) ∧ RankedFrom ((l, m) :: held) p
  | held, .rel l :: p => RankedFrom (held.filter (fun x => decide (x.1 ≠ l))) p

/-- Starting with `held`, only held locks are released and nothing is held at the end. -/
def BalancedFrom : List (Lock × Mode) → List Ev → Prop
  | held, [] => held = []
  | held, .acq l m :: p => BalancedFrom ((l, m) :: held) p
  | held, .rel l :: p => (∃ m, (l, m) ∈ held) ∧ BalancedFrom (held.filter (fun x => decide (x.1 ≠ l))) p

/-- rank-ordered and balanced -/
def WfFrom : List (Lock × Mode) → List Ev → Prop
  | held, [] => held = []
  | held, .acq l m :: p => (∀ x ∈ held, x.1.rank < l.rank) ∧ WfFrom ((l, m) :: held) p
  | held, .rel l :: p => (∃ m, (l, m) ∈ held) ∧ WfFrom (held.filter (fun x => decide (x.1 ≠ l))) p

/-- A complete trace of an operation (or of a whole thread) is well ranked / balanced. -/
def WellRanked (t : List Ev) : Prop := RankedFrom [] t
def Balanced (t : List Ev) : Prop := BalancedFrom [] t

/-- executable version of `WfFrom` (monitor for recorded traces; `checkTrace_iff`) -/
def checkTrace : List (Lock × Mode) → List Ev → Bool
  | held, [] => held.isEmpty
  | held, .acq l m :: p => held.all (fun x => decide (x.1.rank < l.rank)) && checkTrace ((l, m) :: held) p
  | held, .rel l :: p =>
      held.any (fun x => decide (x.1 = l)) && checkTrace (held.filter (fun x => decide (x.1 ≠ l))) p

/-! ## Systems of threads -/

/-- A thread: what it holds and the lock events it still has to perform (its choices already made —
    the thread itself, not the scheduler, resolves `alt` and `star`; every theorem quantifies over all the
    event lists the thread's skeletons can produce). -/
structure Thread where
  held : List (Lock × Mode) := []
  todo : List Ev
deriving DecidableEq, Repr

abbrev State := List Thread
abbrev ThreadId := Nat

def Thread.finished (t : Thread) : Bool := t.todo.isEmpty

/-- the thread after performing its next event -/
def Thread.advance (t : Thread) : Thread :=
  match t.todo with
  | [] => t
  | e :: p => ⟨heldAfter t.held e, p⟩

/-- the lock a thread is about to acquire -/
def Thread.wanted (t : Thread) : Option Lock :=
  match t.todo with
  | .acq l _ :: _ => some l
  | _ => none

/-- May `l` be granted in mode `m`, given what the threads `others` hold?
    `excl` needs nobody else on `l`; `shared` needs no exclusive holder. -/
def grantable (l : Lock) (m : Mode) (others : List Thread) : Bool :=
  others.all fun o => o.held.all fun x => !(decide (x.1 = l)) || m.compat x.2

/-- Thread `i` can take its next step: it is unfinished and its next event is a release, or an
    acquisition compatible with what the OTHER threads hold. -/
def enabledB (s : State) (i : ThreadId) : Bool :=
  match s[i]? with
  | none => false
  | some th =>
    match th.todo with
    | [] => false
    | .rel _ :: _ => true
    | .acq l m :: _ => grantable l m (s.eraseIdx i)

/-- thread is about to write-lock `l` -/
def Thread.wantsExcl (l : Lock) (t : Thread) : Bool :=
  match t.todo with
  | .acq l' .excl :: _ => decide (l' = l)
  | _ => false

/-- Writer preference (parking_lot's `RwLock`, taken at its most restrictive): a NEW reader is also refused
    while some other thread is about to write-lock the same lock. -/
def enabledWPB (s : State) (i : ThreadId) : Bool :=
  match s[i]? with
  | none => false
  | some th =>
    match th.todo with
    | [] => false
    | .rel _ :: _ => true
    | .acq l .excl :: _ => grantable l .excl (s.eraseIdx i)
    | .acq l .shared :: _ =>
        grantable l .shared (s.eraseIdx i) && !((s.eraseIdx i).any (Thread.wantsExcl l))

/-- perform the next event of thread `i`, no questions asked -/
def advanceAt (s : State) (i : ThreadId) : Option State :=
  match s[i]? with
  | some th => some (s.set i th.advance)
  | none => none

/-- one step under a lock-granting policy `E` (`E s i` = may thread `i` move in state `s`?) -/
def stepWith (E : State → ThreadId → Bool) (s : State) (i : ThreadId) : Option State :=
  if E s i then advanceAt s i else none

/-- replay a schedule under policy `E` -/
def runScheduleWith (E : State → ThreadId → Bool) : List ThreadId → State → Option State
  | [], s => some s
  | i :: is, s => (stepWith E s i).bind (runScheduleWith E is)

/-- one step of the system: thread `i` performs its next lock event, if enabled -/
def stepThread (s : State) (i : ThreadId) : Option State := stepWith enabledB s i

/-- the same under writer preference -/
def stepThreadWP (s : State) (i : ThreadId) : Option State := stepWith enabledWPB s i

/-- replay a recorded schedule (one thread id per lock event); `none` if some step was not enabled -/
def runSchedule (sched : List ThreadId) (s : State) : Option State := runScheduleWith enabledB sched s

def runScheduleWP (sched : List ThreadId) (s : State) : Option State := runScheduleWith enabledWPB sched s

def allFinished (s : State) : Bool := s.all Thread.finished

/-- number of lock events still to be performed -/
def remaining : State → Nat
  | [] => 0
  | t :: s => t.todo.length + remaining s

/-- all threads at the start of their event lists, holding nothing -/
def State.init (paths : List (List Ev)) : State := paths.map fun p => { held := [], todo := p }

/-- the threads that can move -/
def enabledThreads (s : State) : List ThreadId := (List.range s.length).filter (enabledB s)

/-- unfinished, and nobody can move -/
def stuck (s : State) : Bool := !allFinished s && (enabledThreads s).isEmpty

/-- Run a scheduler `pick` under policy `E` for at most `n` steps, stopping when everybody has finished. -/
def runPickWith (E : State → ThreadId → Bool) (pick : State → ThreadId) : Nat → State → Option State
  | 0, s => some s
  | n + 1, s => if allFinished s then some s else (stepWith E s (pick s)).bind (runPickWith E pick n)

def runPick (pick : State → ThreadId) (n : Nat) (s : State) : Option State := runPickWith enabledB pick n s

/-- Exhaustive exploration: `true` iff no state reachable from `s` within `fuel` steps is stuck
    (use `fuel = remaining s`). -/
def explore : Nat → State → Bool
  | 0, s => !stuck s
  | n + 1, s =>
      let en := enabledThreads s
      if en.isEmpty then allFinished s
      else en.all fun i =>
        match advanceAt s i with
        | some s' => explore n s'
        | none => false

/-- Search for a schedule leading to a stuck state (the replayable deadlock witness). -/
def findStuck : Nat → State → Option (List ThreadId)
  | 0, s => if stuck s then some [] else none
  | n + 1, s =>
      if stuck s then some [] else
        (enabledThreads s).findSome? fun i =>
          match stepThread s i with
          | some s' => (findStuck n s').map (i :: ·)
          | none => none

/-! ## The skeleton table of cachelito -/

namespace Table
open Skel

/-!
  Lock hierarchy (ranks).  Strictly increasing rank on every nested acquisition is what `Skel.wf` demands,
  so two locks may share a rank exactly when no operation ever holds both — e.g. the queue mutexes of two
  caches (registry callbacks release everything of one cache before touching the next).

    0  the `Once`/`OnceCell` of a function's first-call registrations (three per function)
    1  STATS            stats_registry::STATS_REGISTRY
    2  Rt  3 Re  4 Rd   tag/event/dependency → caches
    5  Rm               cache_metadata
    6  Rc               clear_callbacks                 (held, shared, while clear callbacks run)
    7  Rk               invalidation_check_callbacks    (held, shared, while conditional callbacks run)
    8  O c              order-queue mutex of cache c
    9  M c              store RwLock of (sync) cache c
   10  S c              DashMap shard guards of (async) cache c — leaf locks, never held across an await

  Two levels of detail: `full = false` is what the H1 hook records (registry locks, queue mutex, store
  lock); `full = true` also shows the `Once` cells (as mutexes: more blocking than the real thing) and the
  DashMap shard guards (coarsened to one leaf lock per cache, one guard at a time).
  `once_cell::Lazy`/`OnceLock` initialisers of the statics acquire nothing and are atomic steps.
-/

def onceStats (c : Nat) : Lock := ⟨0, 3 * c⟩
def onceInv (c : Nat) : Lock := ⟨0, 3 * c + 1⟩
def onceCb (c : Nat) : Lock := ⟨0, 3 * c + 2⟩
def STATS : Lock := ⟨1, 0⟩
def Rt : Lock := ⟨2, 0⟩
def Re : Lock := ⟨3, 0⟩
def Rd : Lock := ⟨4, 0⟩
def Rm : Lock := ⟨5, 0⟩
def Rc : Lock := ⟨6, 0⟩
def Rk : Lock := ⟨7, 0⟩
def O (c : Nat) : Lock := ⟨8, c⟩
def M (c : Nat) : Lock := ⟨9, c⟩
def S (c : Nat) : Lock := ⟨10, c⟩

/-- `[l.r]`, `[l.w]`: a critical section with nothing nested -/
def rd (l : Lock) : Skel := .crit l .shared .done
def wr (l : Lock) : Skel := .crit l .excl .done

/-- DashMap operations of async cache `c`: any number of shard guards, one at a time (hidden at hook level) -/
def shards (full : Bool) (c : Nat) : Skel := if full then .star (wr (S c)) else .done

/-- `Once::call_once(body)` / `OnceCell::get_or_init(body)`: already done | wait for the initialiser |
    be the initialiser -/
def once (full : Bool) (l : Lock) (body : Skel) : Skel :=
  if full then .alt .done (.alt (wr l) (.crit l .excl body)) else opt body

/-- policy classes of the sync hit path -/
inductive PolClass | fifoRandom | lru | lfu | arcTlru
deriving DecidableEq, Repr

/-- `GlobalCache::get` (global_cache.rs 348-434): `[M.r]`; expired ⇒ `[O{[M.w]}]`;
    hit ⇒ LRU `[O]`, LFU `[M.w]`, ARC/TLRU `[O];[M.w]`. -/
def syncGet (c : Nat) (pc : PolClass) : Skel :=
  .seq (rd (M c)) <| .alt (.crit (O c) .excl (wr (M c))) <|
    match pc with
    | .fifoRandom => .done
    | .lru => opt (wr (O c))
    | .lfu => opt (wr (M c))
    | .arcTlru => opt (.seq (wr (O c)) (wr (M c)))

/-- entry-limit eviction, inside the queue mutex (557-633): at most one `[M.w]` -/
def entryLimit (c : Nat) : Skel := opt (wr (M c))

/-- `GlobalCache::insert` (503-524): `[M.w] ; [O{ ([M.w])? }]` -/
def syncInsert (c : Nat) : Skel := .seq (wr (M c)) (.crit (O c) .excl (entryLimit c))

/-- `GlobalCache::insert_with_memory` (705-863):
    `[M.w] ; [O{ entryLimit | [M.r] ; ( [M.w]  |  ([M.r][M.w])* ; [M.r] ; ([M.w])? ; entryLimit ) }]` -/
def syncInsertMem (c : Nat) : Skel :=
  .seq (wr (M c)) <| .crit (O c) .excl <|
    .alt (entryLimit c) <|
      .seq (rd (M c)) <|
        .alt (wr (M c)) <|
          seqs [.star (.seq (rd (M c)) (wr (M c))), rd (M c), opt (wr (M c)), entryLimit c]

/-- clear callback, conditional-invalidation callback (user predicate runs inside), `GlobalCache::clear`:
    `[O{ [M.w] }]` -/
def syncClearCb (c : Nat) : Skel := .crit (O c) .excl (wr (M c))
def syncCondCb (c : Nat) : Skel := .crit (O c) .excl (wr (M c))
def globalClear (c : Nat) : Skel := .crit (O c) .excl (wr (M c))

/-- LEGACY (before the fixes): clear in two sections `[M.w];[O]` (F6, no rank problem) and the
    conditional-invalidation callback `[M.w{ [O] }]` (F5: store before queue — rank inversion). -/
def legacyClearCb (c : Nat) : Skel := .seq (wr (M c)) (wr (O c))
def legacyCondCb (c : Nat) : Skel := .crit (M c) .excl (wr (O c))

/-- `AsyncGlobalCache::get`: `⟨shard⟩ ; ( [O{⟨shard⟩}] )?` -/
def asyncGet (full : Bool) (c : Nat) : Skel :=
  .seq (shards full c) (opt (.crit (O c) .excl (shards full c)))
/-- `AsyncGlobalCache::insert` / `insert_with_memory`: `[O{ ⟨shard ops⟩ }]` -/
def asyncInsert (full : Bool) (c : Nat) : Skel := .crit (O c) .excl (shards full c)
def asyncInsertMem (full : Bool) (c : Nat) : Skel := .crit (O c) .excl (shards full c)
/-- async clear callback `[O{ ⟨clear⟩ }]`, async conditional callback `⟨iter⟩ ; [O{ ⟨removes⟩ }]` -/
def asyncClearCb (full : Bool) (c : Nat) : Skel := .crit (O c) .excl (shards full c)
def asyncCondCb (full : Bool) (c : Nat) : Skel :=
  .seq (shards full c) (.crit (O c) .excl (shards full c))
/-- LEGACY async: expired lookup and clear touched the map before taking the queue mutex (F8, F6) -/
def legacyAsyncExpired (full : Bool) (c : Nat) : Skel := .seq (shards full c) (wr (O c))

/-- first call of a `#[cache]`/`#[cache_async]` function:
    `Once{ [STATS.w] } ; ( Once{ [Rt.w];[Re.w];[Rd.w];[Rm.w];[Rc.w] } )? ; Once{ [Rk.w] }` -/
def firstCall (full : Bool) (c : Nat) : Skel :=
  seqs [ once full (onceStats c) (wr STATS),
         opt (once full (onceInv c) (seqs [wr Rt, wr Re, wr Rd, wr Rm, wr Rc])),
         once full (onceCb c) (wr Rk) ]

/-- `invalidate_by_tag|event|dependency` (invalidation.rs 220-275, 308-324): `[Rx.r] ; [Rc.r{ (clear cb)* }]` -/
def invalidateBy (x : Lock) (clearCbs : List Skel) : Skel :=
  .seq (rd x) (.crit Rc .shared (.star (alts clearCbs)))
/-- `invalidate_cache` (286-297): `[Rc.r{ (clear cb)? }]` -/
def invalidateCache (clearCb : Skel) : Skel := .crit Rc .shared (opt clearCb)
/-- `invalidate_with` (382-396): `[Rk.r{ (cond cb)? }]` -/
def invalidateWith (condCb : Skel) : Skel := .crit Rk .shared (opt condCb)
/-- `invalidate_all_with` (420-438): `[Rk.r{ (cond cb)* }]` -/
def invalidateAllWith (condCbs : List Skel) : Skel := .crit Rk .shared (.star (alts condCbs))
/-- `stats_registry::get|get_ref|list|reset|…` : `[STATS.r]`; `stats_registry::clear`: `[STATS.w]` -/
def statsQuery : Skel := rd STATS
def statsClear : Skel := wr STATS
/-- readers `get_caches_by_tag|event`, `get_dependent_caches` -/
def registryQuery (x : Lock) : Skel := rd x
/-- `InvalidationRegistry::clear` (441-460): six write sections one after the other -/
def registryClear : Skel := seqs [wr Rt, wr Re, wr Rd, wr Rm, wr Rc, wr Rk]

def clearCbs (full : Bool) (syncs asyncs : List Nat) : List Skel :=
  syncs.map syncClearCb ++ asyncs.map (asyncClearCb full)
def condCbs (full : Bool) (syncs asyncs : List Nat) : List Skel :=
  syncs.map syncCondCb ++ asyncs.map (asyncCondCb full)

/-- operations on sync cache `c` -/
def syncOps (full : Bool) (c : Nat) : List (String × Skel) :=
  [ (s!"sync_get_fifo_random@{c}", syncGet c .fifoRandom),
    (s!"sync_get_lru@{c}", syncGet c .lru),
    (s!"sync_get_lfu@{c}", syncGet c .lfu),
    (s!"sync_get_arc_tlru@{c}", syncGet c .arcTlru),
    (s!"sync_insert@{c}", syncInsert c),
    (s!"sync_insert_mem@{c}", syncInsertMem c),
    (s!"sync_clear_cb@{c}", syncClearCb c),
    (s!"sync_cond_cb@{c}", syncCondCb c),
    (s!"global_clear@{c}", globalClear c),
    (s!"first_call@{c}", firstCall full c),
    (s!"invalidate_cache@{c}", invalidateCache (syncClearCb c)),
    (s!"invalidate_with@{c}", invalidateWith (syncCondCb c)) ]

/-- operations on async cache `c` -/
def asyncOps (full : Bool) (c : Nat) : List (String × Skel) :=
  [ (s!"async_get@{c}", asyncGet full c),
    (s!"async_insert@{c}", asyncInsert full c),
    (s!"async_insert_mem@{c}", asyncInsertMem full c),
    (s!"async_clear_cb@{c}", asyncClearCb full c),
    (s!"async_cond_cb@{c}", asyncCondCb full c),
    (s!"first_call@{c}", firstCall full c),
    (s!"invalidate_cache@{c}", invalidateCache (asyncClearCb full c)),
    (s!"invalidate_with@{c}", invalidateWith (asyncCondCb full c)) ]

/-- operations of the registries, over the universe of caches `syncs ∪ asyncs` -/
def registryOps (full : Bool) (syncs asyncs : List Nat) : List (String × Skel) :=
  [ ("invalidate_by_tag", invalidateBy Rt (clearCbs full syncs asyncs)),
    ("invalidate_by_event", invalidateBy Re (clearCbs full syncs asyncs)),
    ("invalidate_by_dependency", invalidateBy Rd (clearCbs full syncs asyncs)),
    ("invalidate_cache@none", invalidateCache .done),
    ("invalidate_with@none", invalidateWith .done),
    ("invalidate_all_with", invalidateAllWith (condCbs full syncs asyncs)),
    ("stats_get", statsQuery), ("stats_list", statsQuery), ("stats_reset", statsQuery),
    ("stats_clear", statsClear),
    ("registry_query_tag", registryQuery Rt), ("registry_query_event", registryQuery Re),
    ("registry_query_dependency", registryQuery Rd),
    ("registry_clear", registryClear) ]

/-- the whole table for a universe of sync caches `syncs` and async caches `asyncs` (disjoint numbers) -/
def opTableOf (full : Bool) (syncs asyncs : List Nat) : List (String × Skel) :=
  syncs.flatMap (syncOps full) ++ asyncs.flatMap (asyncOps full) ++ registryOps full syncs asyncs

/-- THE TABLE at hook level for two sync caches (0, 1) and one async cache (2). -/
def opTable : List (String × Skel) := opTableOf false [0, 1] [2]
/-- the same with `Once` cells and DashMap shard guards shown -/
def opTableFull : List (String × Skel) := opTableOf true [0, 1] [2]

/-- the legacy (pre-fix) callbacks and the operations that run them -/
def legacyTable : List (String × Skel) :=
  [ ("legacy_sync_clear_cb@0", legacyClearCb 0),
    ("legacy_sync_cond_cb@0", legacyCondCb 0),
    ("legacy_invalidate_with@0", invalidateWith (legacyCondCb 0)),
    ("legacy_invalidate_all_with", invalidateAllWith [legacyCondCb 0, legacyCondCb 1]),
    ("legacy_async_expired@2", legacyAsyncExpired false 2) ]

def lookupIn (tbl : List (String × Skel)) (name : String) : Option Skel :=
  (tbl.find? (·.1 == name)).map (·.2)
def lookup (name : String) : Option Skel := lookupIn opTable name

/-- a thread's program (a list of operations) as one skeleton -/
def program (ops : List Skel) : Skel := seqs ops

/-- lock by name and cache number, for the line protocol: `STATS Rt Re Rd Rm Rc Rk` (cache number ignored),
    `O M S` (of cache `c`), `OnceStats OnceInv OnceCb` (of function `c`) -/
def lockNamed (name : String) (c : Nat) : Option Lock :=
  match name with
  | "STATS" => some STATS | "Rt" => some Rt | "Re" => some Re | "Rd" => some Rd
  | "Rm" => some Rm | "Rc" => some Rc | "Rk" => some Rk
  | "O" => some (O c) | "M" => some (M c) | "S" => some (S c)
  | "OnceStats" => some (onceStats c) | "OnceInv" => some (onceInv c) | "OnceCb" => some (onceCb c)
  | _ => none

/-- one event token: `acq.<lock>.<c>.<r|w>` or `rel.<lock>.<c>`, e.g. `acq.M.0.r`, `rel.Rk.0` -/
def parseEv (tok : String) : Option Ev :=
  match tok.splitOn "." with
  | ["acq", n, c, "r"] => (lockNamed n c.toNat!).map (Ev.acq · .shared)
  | ["acq", n, c, "w"] => (lockNamed n c.toNat!).map (Ev.acq · .excl)
  | ["rel", n, c] => (lockNamed n c.toNat!).map Ev.rel
  | _ => none

/-- a whole trace: tokens separated by blanks (`none` if any token is malformed) -/
def parseTrace (line : String) : Option (List Ev) :=
  ((line.splitOn " ").filter (· ≠ "")).mapM parseEv

end Table

/-! ## Sample threads (used by the examples of `Props/C17.lean`) -/

namespace Sample
open Table

/-- thread A: a call on sync cache 0 (LRU) that misses and stores with an eviction:
    `get` = `[M.r]`, `insert` = `[M.w] ; [O{ [M.w] }]` -/
def pathCall : List Ev :=
  [.acq (M 0) .shared, .rel (M 0),
   .acq (M 0) .excl, .rel (M 0), .acq (O 0) .excl, .acq (M 0) .excl, .rel (M 0), .rel (O 0)]
/-- thread A': a call on sync cache 0 (LRU) that hits: `[M.r] ; [O]` -/
def pathHit : List Ev := [.acq (M 0) .shared, .rel (M 0), .acq (O 0) .excl, .rel (O 0)]
/-- thread B: `invalidate_with` on cache 0: `[Rk.r{ [O{ [M.w] }] }]` -/
def pathInvalidateWith : List Ev :=
  [.acq Rk .shared, .acq (O 0) .excl, .acq (M 0) .excl, .rel (M 0), .rel (O 0), .rel Rk]
/-- thread C: a statistics query `[STATS.r]` -/
def pathStats : List Ev := [.acq STATS .shared, .rel STATS]
/-- thread B before the fix of F5: `[Rk.r{ [M.w{ [O] }] }]` -/
def pathLegacyInvalidateWith : List Ev :=
  [.acq Rk .shared, .acq (M 0) .excl, .acq (O 0) .excl, .rel (O 0), .rel (M 0), .rel Rk]

def progs3 : List (List Skel) :=
  [[syncGet 0 .lru, syncInsert 0], [invalidateWith (syncCondCb 0)], [statsQuery]]
/-- evicting call ‖ invalidate_with ‖ stats query -/
def sys3 : State := State.init [pathCall, pathInvalidateWith, pathStats]
/-- hit with recency update ‖ invalidate_with ‖ stats query -/
def sys3' : State := State.init [pathHit, pathInvalidateWith, pathStats]
/-- the legacy system: an evicting store against the pre-fix conditional invalidation -/
def sysLegacy : State := State.init [pathCall.drop 2, pathLegacyInvalidateWith]

end Sample

end Cachelito.Conc
