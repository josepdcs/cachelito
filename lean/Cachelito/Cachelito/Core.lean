/-
  Cachelito.Core — executable model of the three cache engines
  (`global_cache.rs`, `thread_local_cache.rs`, `async_global_cache.rs`, `utils.rs`).

  One `step` function with the flavour-dependent differences transcribed.  Source line numbers
  refer to the pinned commit of josepdcs/cachelito plus the `fix:` commits (see DESIGN.md §8).
  Imports nothing outside core Lean, so that the driver links as an executable.
-/
import Cachelito.Basic

namespace Cachelito

inductive Policy | fifo | lru | lfu | arc | random | tlru
  deriving DecidableEq, Repr

inductive Flavour | global | threadLocal | async
  deriving DecidableEq, Repr

/-- Configuration of one cache (`GlobalCache::new` / `ThreadLocalCache::new` / `AsyncGlobalCache::new`).
    `ttl` in seconds.  The TLRU `frequency_weight` lives in the `Tlru` scorer. -/
structure Cfg where
  flavour : Flavour
  policy : Policy
  limit : Option Nat
  maxMem : Option Nat
  ttl : Option Nat
  deriving DecidableEq, Repr

/-- The TLRU score is computed in `f64` by the implementation.  The model is generic in the score
    type: `lt` is `score < best_score`, `score cfg hits elapsedMs rank` transcribes
    `utils.rs:463-515` (sync: linear weight, real-valued elapsed) and
    `async_global_cache.rs:591-638` (power weight, whole seconds; `elapsedMs` is then a multiple of 1000). -/
structure Tlru (S : Type) where
  lt : S → S → Bool
  score : Cfg → (hits elapsedMs rank : Nat) → S

structure State (K V : Type) where
  store : Store K V
  queue : List K
  now : Nat            -- virtual clock, ms
  hitStat : Nat
  missStat : Nat

inductive Op (K V : Type)
  | get (k : K)
  | insert (k : K) (v : V)
  | insertMem (k : K) (v : V)
  | clear
  | invalidateWith (p : K → Bool)
  | tick (ms : Nat)

inductive Out (V : Type)
  | val (o : Option V)
  | unit
  deriving Repr

variable {K V S : Type} [DecidableEq K]

def State.init : State K V := ⟨[], [], 0, 0, 0⟩

/-! ### Expiry (`cache_entry.rs:89-95`, `async_global_cache.rs:326-334`) -/

/-- elapsed time as the engine sees it, in ms.  Sync: `Instant::elapsed` (saturating).
    Async: difference of whole unix seconds (`saturating_sub`). -/
def elapsedMs (cfg : Cfg) (now : Nat) (birth : Nat) : Nat :=
  match cfg.flavour with
  | .async => (now / 1000 - birth / 1000) * 1000
  | _ => now - birth

def expired (cfg : Cfg) (now : Nat) (e : Entry V) : Bool :=
  match cfg.ttl with
  | none => false
  | some t => decide (elapsedMs cfg now e.birth / 1000 ≥ t)

/-- the birth stamp recorded by a store: `Instant::now()` (sync) or whole unix seconds (async) -/
def stamp (cfg : Cfg) (now : Nat) : Nat :=
  match cfg.flavour with
  | .async => now / 1000 * 1000
  | _ => now

/-! ### Victim selection -/

/-- the `if score < best { best = score; key = k }` scan, continued from a current best -/
def firstMinAux (lt : S → S → Bool) : K × S → List (K × S) → K × S
  | b, [] => b
  | b, c :: cs => if lt c.2 b.2 then firstMinAux lt c cs else firstMinAux lt b cs

/-- first minimum in list order (the initial `best = MAX` is modelled as "the first candidate
    always wins"; scores never reach `f64::MAX` / `u64::MAX`, see DESIGN.md §0, `ScoresOK`) -/
def firstMin (lt : S → S → Bool) : List (K × S) → Option K
  | [] => none
  | c :: cs => some (firstMinAux lt c cs).1

/-- scored candidates: queue keys that are stored, in queue order, with their position `idx`
    in the *whole* queue (orphans count for `idx` and `len`, as in the code) -/
def candsFrom (score : Entry V → Nat → Nat → S) (m : Store K V) (len : Nat) : Nat → List K → List (K × S)
  | _, [] => []
  | i, k :: q =>
    match lookup k m with
    | some e => (k, score e i len) :: candsFrom score m len (i + 1) q
    | none => candsFrom score m len (i + 1) q

def cands (score : Entry V → Nat → Nat → S) (m : Store K V) (q : List K) : List (K × S) :=
  candsFrom score m q.length 0 q

/-- recency rank.  Sync `utils.rs:379,482`: `total_len - idx`.  Async (after the rank fix): `idx + 1`. -/
def rank (cfg : Cfg) (idx len : Nat) : Nat :=
  match cfg.flavour with
  | .async => idx + 1
  | _ => len - idx

/-- victim of the LFU / ARC / TLRU scans -/
def victim (cfg : Cfg) (tl : Tlru S) (now : Nat) (m : Store K V) (q : List K) : Option K :=
  match cfg.policy with
  | .lfu => firstMin (fun a b => decide (a < b)) (cands (fun e _ _ => e.hits) m q)
  | .arc => firstMin (fun a b => decide (a < b)) (cands (fun e i len => e.hits * rank cfg i len) m q)
  | .tlru => firstMin tl.lt
      (cands (fun e i len => tl.score cfg e.hits (elapsedMs cfg now e.birth) (rank cfg i len)) m q)
  | _ => none

/-- FIFO/LRU: pop from the front until a stored key is found, remove it
    (`global_cache.rs:615-629,835-852`, `thread_local_cache.rs:506-520`, `async_global_cache.rs:686-695`) -/
def popStored (m : Store K V) : List K → Store K V × List K × Bool
  | [] => (m, [], false)
  | k :: q => if hasKey k m then (eraseKey k m, q, true) else popStored m q

/-- FIFO/LRU in the thread-local and async memory loops: pop ONE front key
    (`thread_local_cache.rs:642-651`, `async_global_cache.rs:894-901`) -/
def popOne (m : Store K V) : List K → Store K V × List K × Bool
  | [] => (m, [], false)
  | k :: q => (eraseKey k m, q, true)

/-- removal of a scored victim from both structures.  Sync: `remove_from_maps` (first queue
    occurrence); async: `cache.remove` + `order.retain`. -/
def removeBoth (cfg : Cfg) (k : K) (m : Store K V) (q : List K) : Store K V × List K :=
  match cfg.flavour with
  | .async => (eraseKey k m, q.filter (fun x => x ≠ k))
  | _ => (eraseKey k m, q.erase k)

/-- Random: `pos = fastrand::usize(..len)`; `order.remove(pos)`; `map.remove(key)`.  `r` is the raw draw. -/
def evictRandom (r : Nat) (m : Store K V) (q : List K) : Store K V × List K × Bool :=
  match q[r % q.length]? with
  | none => (m, q, false)                      -- only when the queue is empty (guarded by `!is_empty()`)
  | some k => (eraseKey k m, q.eraseIdx (r % q.length), true)

def evictScored (cfg : Cfg) (tl : Tlru S) (now : Nat) (m : Store K V) (q : List K) :
    Store K V × List K × Bool :=
  match victim cfg tl now m q with
  | none => (m, q, false)
  | some k => let (m', q') := removeBoth cfg k m q; (m', q', true)

/-- one eviction of the entry-limit step (all engines) -/
def evictLimit (cfg : Cfg) (tl : Tlru S) (now r : Nat) (m : Store K V) (q : List K) :
    Store K V × List K × Bool :=
  match cfg.policy with
  | .fifo | .lru => popStored m q
  | .random => evictRandom r m q
  | _ => evictScored cfg tl now m q

/-- one iteration of the memory loop -/
def evictMem (cfg : Cfg) (tl : Tlru S) (now r : Nat) (m : Store K V) (q : List K) :
    Store K V × List K × Bool :=
  match cfg.policy with
  | .fifo | .lru =>
    (match cfg.flavour with
     | .global => popStored m q
     | _ => popOne m q)
  | .random => evictRandom r m q
  | _ => evictScored cfg tl now m q

/-- `Σ estimate_memory(values)` -/
def totalMem (size : V → Nat) (m : Store K V) : Nat := (m.map (fun p => size p.2.val)).sum

/-- entry-limit step.  Sync (`global_cache.rs:557-633`, `thread_local_cache.rs:458-524`):
    after the store, `order.len() > limit`.  Async (`async_global_cache.rs:655-699`): before the
    store, `cache.len() >= limit`. -/
def overLimit (cfg : Cfg) (n : Nat) (m : Store K V) (q : List K) : Bool :=
  match cfg.flavour with
  | .async => decide (m.length ≥ n)
  | _ => decide (q.length > n)

def limitStep (cfg : Cfg) (tl : Tlru S) (now r : Nat) (m : Store K V) (q : List K) : Store K V × List K :=
  match cfg.limit with
  | none => (m, q)
  | some n =>
    if overLimit cfg n m q then
      let res := evictLimit cfg tl now r m q
      (res.1, res.2.1)
    else (m, q)

/-- the memory loop, `extra` = size of the value about to be stored (async) or 0 (sync, where the
    value is already in the store).  `fuel` bounds the iterations; `memLoop_fuel` (Lemmas) shows
    `q.length + 1` always suffices because every successful eviction shortens the queue.
    `rs` is the stream of random draws, one per iteration. -/
def memLoop (cfg : Cfg) (tl : Tlru S) (size : V → Nat) (now maxM extra : Nat) :
    Nat → List Nat → Store K V → List K → Store K V × List K × List Nat
  | 0, rs, m, q => (m, q, rs)
  | fuel + 1, rs, m, q =>
    if totalMem size m + extra ≤ maxM then (m, q, rs)
    else
      let (m', q', ev) := evictMem cfg tl now (rs.headD 0) m q
      if ev then memLoop cfg tl size now maxM extra fuel rs.tail m' q' else (m', q', rs.tail)

/-! ### Operations -/

/-- policies whose hits increment the frequency counter (`global_cache.rs:406-426`,
    `thread_local_cache.rs:274-290`, `async_global_cache.rs:340-354`) -/
def Policy.bumps : Policy → Bool
  | .lfu | .arc | .tlru => true
  | _ => false

/-- policies whose hits move the key to the back of the queue -/
def Policy.refreshes : Policy → Bool
  | .lru | .arc | .tlru => true
  | _ => false

/-- effect of a hit on store and queue.  Sync (`global_cache.rs:397-431`, `thread_local_cache.rs:267-295`):
    LRU moves, LFU bumps, ARC/TLRU move then bump.  Async (`async_global_cache.rs:336-390`): bump inside
    the shard guard, then — only if a bound is configured — `retain` + `push_back` if still stored. -/
def hitUpdate (cfg : Cfg) (k : K) (m : Store K V) (q : List K) : Store K V × List K :=
  let m1 := if cfg.policy.bumps then bumpHits k m else m
  match cfg.flavour with
  | .async =>
    let refresh := (cfg.limit.isSome || cfg.maxMem.isSome) && cfg.policy.refreshes && hasKey k m1
    (m1, if refresh then retainPush k q else q)
  | _ => (m1, if cfg.policy.refreshes then moveToEnd k q else q)

def get (cfg : Cfg) (s : State K V) (k : K) : State K V × Option V :=
  match lookup k s.store with
  | none => ({ s with missStat := s.missStat + 1 }, none)
  | some e =>
    if expired cfg s.now e then
      -- `global_cache.rs:368-385`, `thread_local_cache.rs:250-255`, `async_global_cache.rs:392-403`
      let r := removeBoth cfg k s.store s.queue
      ({ s with store := r.1, queue := r.2, missStat := s.missStat + 1 }, none)
    else
      let r := hitUpdate cfg k s.store s.queue
      ({ s with store := r.1, queue := r.2, hitStat := s.hitStat + 1 }, some e.val)

/-- `insert` (no memory estimator).  `r` = random draw for the entry-limit step. -/
def insert (cfg : Cfg) (tl : Tlru S) (r : Nat) (s : State K V) (k : K) (v : V) : State K V :=
  match cfg.flavour with
  | .async =>
    -- `async_global_cache.rs:452-477` (after the replace fix)
    let (m0, q0) := if hasKey k s.store then (eraseKey k s.store, s.queue.filter (fun x => x ≠ k))
                    else (s.store, s.queue)
    let (m1, q1) := limitStep cfg tl s.now r m0 q0
    { s with store := put k ⟨v, stamp cfg s.now, 0⟩ m1, queue := q1 ++ [k] }
  | _ =>
    -- `global_cache.rs:503-524`, `thread_local_cache.rs:348-366`
    let m0 := put k ⟨v, stamp cfg s.now, 0⟩ s.store
    let q0 := erasePush k s.queue
    let (m1, q1) := limitStep cfg tl s.now r m0 q0
    { s with store := m1, queue := q1 }

/-- `insert_with_memory`.  `rs` = random draws (memory loop iterations first, then the limit step). -/
def insertMem (cfg : Cfg) (tl : Tlru S) (size : V → Nat) (rs : List Nat) (s : State K V) (k : K) (v : V) :
    State K V :=
  match cfg.flavour with
  | .async =>
    -- `async_global_cache.rs:808-918`
    let (m0, q0) := if hasKey k s.store then (eraseKey k s.store, s.queue.filter (fun x => x ≠ k))
                    else (s.store, s.queue)
    match cfg.maxMem with
    | some maxM =>
      if size v > maxM then { s with store := m0, queue := q0 }
      else
        let (m1, q1, rs1) := memLoop cfg tl size s.now maxM (size v) (q0.length + 1) rs m0 q0
        let (m2, q2) := limitStep cfg tl s.now (rs1.headD 0) m1 q1
        { s with store := put k ⟨v, stamp cfg s.now, 0⟩ m2, queue := q2 ++ [k] }
    | none =>
      let (m2, q2) := limitStep cfg tl s.now (rs.headD 0) m0 q0
      { s with store := put k ⟨v, stamp cfg s.now, 0⟩ m2, queue := q2 ++ [k] }
  | _ =>
    -- `global_cache.rs:705-863`, `thread_local_cache.rs:536-663`
    let m0 := put k ⟨v, stamp cfg s.now, 0⟩ s.store
    let q0 := erasePush k s.queue
    match cfg.maxMem with
    | some maxM =>
      if size v > maxM then { s with store := eraseKey k m0, queue := q0.dropLast }
      else
        let (m1, q1, rs1) := memLoop cfg tl size s.now maxM 0 (q0.length + 1) rs m0 q0
        let (m2, q2) := limitStep cfg tl s.now (rs1.headD 0) m1 q1
        { s with store := m2, queue := q2 }
    | none =>
      let (m2, q2) := limitStep cfg tl s.now (rs.headD 0) m0 q0
      { s with store := m2, queue := q2 }

/-- `clear` (macro clear callbacks, `GlobalCache::clear`) -/
def clear (s : State K V) : State K V := { s with store := [], queue := [] }

/-- conditional invalidation callback (`cachelito-macros/src/lib.rs:341-373`,
    `cachelito-async-macros/src/lib.rs:463-490`): collect stored keys satisfying `p`, remove each
    from the store and (first occurrence) from the queue. -/
def invalidateWith (p : K → Bool) (s : State K V) : State K V :=
  let ks := (keys s.store).filter p
  { s with store := s.store.filter (fun e => !p e.1), queue := ks.foldl (fun q k => q.erase k) s.queue }

def step (cfg : Cfg) (tl : Tlru S) (size : V → Nat) (rs : List Nat) (s : State K V) :
    Op K V → State K V × Out V
  | .get k => let (s', o) := get cfg s k; (s', .val o)
  | .insert k v => (insert cfg tl (rs.headD 0) s k v, .unit)
  | .insertMem k v => (insertMem cfg tl size rs s k v, .unit)
  | .clear => (clear s, .unit)
  | .invalidateWith p => (invalidateWith p s, .unit)
  | .tick ms => ({ s with now := s.now + ms }, .unit)

/-- run a whole history; each operation comes paired with the random draws of its step -/
def run (cfg : Cfg) (tl : Tlru S) (size : V → Nat) :
    State K V → List (Op K V × List Nat) → State K V × List (Out V)
  | s, [] => (s, [])
  | s, (op, rs) :: ops =>
    let (s1, o) := step cfg tl size rs s op
    let (s2, os) := run cfg tl size s1 ops
    (s2, o :: os)

end Cachelito
