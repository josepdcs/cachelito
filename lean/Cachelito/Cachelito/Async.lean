/-
  Cachelito.Async — the three phases of a `#[cache_async]` call and calls that are suspended at an
  await inside their body, resumed later, or dropped there.

  `cachelito-async-macros/src/lib.rs:103-146`: `lookup` (get + invalidate_on check, synchronous),
  `(async body).await` (no cache access, no guard alive), `store` (synchronous).  A suspended call is a
  value of type `PendingCall`: it holds the key and the trace so far — and no lock (see
  `Cachelito.C17.suspended_holds_nothing`).
-/
import Cachelito.System

namespace Cachelito

variable {K V S : Type} [DecidableEq K]

/-- phase 1: lookup and staleness check.  `inl (v, trace)` = served from the cache, the call is over;
    `inr pre` = the body has to run, `pre` is the trace so far. -/
def callLookup (spec : FnSpec) (s : State K V) (c : CallIn K V) :
    State K V × (V × List (TraceEv K V) ⊕ List (TraceEv K V)) :=
  let (s1, o) := get spec.cfg s c.key
  match o with
  | some cached =>
    if spec.hasInvalidateOn then
      let stale := c.invalidateOn c.key cached
      if stale then (s1, .inr [TraceEv.checkCalled c.key cached true])
      else (s1, .inl (cached, [TraceEv.checkCalled c.key cached false, TraceEv.returned cached true]))
    else (s1, .inl (cached, [TraceEv.returned cached true]))
  | none => (s1, .inr [])

/-- phase 3: the body has produced `c.bodyVal`; predicate, store, return — on the CURRENT state of the cache -/
def callFinish (spec : FnSpec) (tl : Tlru S) (size : V → Nat) (isOk : V → Bool) (rs : List Nat)
    (s : State K V) (c : CallIn K V) (pre : List (TraceEv K V)) : State K V × V × List (TraceEv K V) :=
  let r := c.bodyVal
  let accept := c.cacheIf c.key r
  let t1 := pre ++ [TraceEv.bodyRun] ++ (if spec.hasCacheIf then [TraceEv.predCalled c.key r accept] else [])
  if shouldStore spec isOk accept r then
    let s2 := if spec.useMem then insertMem spec.cfg tl size rs s c.key r
              else insert spec.cfg tl (rs.headD 0) s c.key r
    (s2, r, t1 ++ [TraceEv.stored c.key r, TraceEv.returned r false])
  else (s, r, t1 ++ [TraceEv.returned r false])

/-- a call suspended inside its body -/
structure PendingCall (K V : Type) where
  id : Nat
  fn : Nat
  c : CallIn K V
  pre : List (TraceEv K V)

structure ASys (K V : Type) where
  sys : Sys K V
  pending : List (PendingCall K V)

inductive AOp (K V : Type)
  | base (op : SysOp K V)
  | callBegin (id : Nat) (fn : Nat) (c : CallIn K V)     -- poll until the body's await suspends (or the call returns)
  | callResume (id : Nat)                                -- poll the suspended call to completion
  | callDrop (id : Nat)                                  -- drop the suspended future

inductive AOut (K V : Type)
  | base (o : SysOut K V)
  | ret (v : V) (trace : List (TraceEv K V))
  | suspended (trace : List (TraceEv K V))
  | unit
  | noSuchCall

def ASys.init : ASys K V := ⟨Sys.init, []⟩

def aStep (fns : List FnSpec) (tls : Nat → Tlru S) (size : V → Nat) (isOk : V → Bool) (rs : List Nat)
    (a : ASys K V) : AOp K V → ASys K V × AOut K V
  | .base op => let (s', o) := sysStep fns tls size isOk rs a.sys op; ({ a with sys := s' }, .base o)
  | .callBegin id fn c =>
    match fns[fn]? with
    | none => (a, .noSuchCall)
    | some spec =>
      let cid : CacheId := ⟨fn, none⟩          -- async functions always use the shared instance
      let (s1, r) := callLookup spec (a.sys.getCache cid) c
      let sys1 := a.sys.setCache cid s1
      let sys1 := if sys1.called.contains fn then sys1 else { sys1 with called := fn :: sys1.called }
      match r with
      | .inl (v, tr) => ({ a with sys := sys1 }, .ret v tr)
      | .inr pre => ({ sys := sys1, pending := ⟨id, fn, c, pre⟩ :: a.pending }, .suspended pre)
  | .callResume id =>
    match a.pending.find? (fun p => p.id = id) with
    | none => (a, .noSuchCall)
    | some p =>
      match fns[p.fn]? with
      | none => (a, .noSuchCall)
      | some spec =>
        let cid : CacheId := ⟨p.fn, none⟩
        let (s2, v, tr) := callFinish spec (tls p.fn) size isOk rs (a.sys.getCache cid) p.c p.pre
        ({ sys := a.sys.setCache cid s2, pending := a.pending.filter (fun q => q.id ≠ id) }, .ret v tr)
  | .callDrop id =>
    ({ a with pending := a.pending.filter (fun q => q.id ≠ id) }, .unit)

def aRun (fns : List FnSpec) (tls : Nat → Tlru S) (size : V → Nat) (isOk : V → Bool) :
    ASys K V → List (AOp K V × List Nat) → ASys K V × List (AOut K V)
  | a, [] => (a, [])
  | a, (op, rs) :: ops =>
    let (a1, o) := aStep fns tls size isOk rs a op
    let (a2, os) := aRun fns tls size isOk a1 ops
    (a2, o :: os)

end Cachelito
