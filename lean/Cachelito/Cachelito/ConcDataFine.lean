/-
  Cachelito.ConcDataFine — the interleaving model of `Cachelito.ConcData` with the queue section of the
  sync `insert_with_memory` split into its real store-lock sections (core Lean only).

  `ConcData.contSync` executes the whole queue-mutex section of the sync `insert_with_memory`
  (`trackMemStep`) as ONE atomic micro-step.  In the real code (`global_cache.rs`, `insert_with_memory`)
  that section holds the queue mutex `O` throughout but takes the store lock `M` several times:

      [O acquired] erasePush k ;
      [M.r : size of the entry now stored under k]                                   (yield point 1017)
      oversize  ⇒ [M.w : remove k] ; pop_back ; return                               (1018)
      loop { [M.r : Σ sizes]                                                         (1019)
             fits ⇒ break
             [M.w : evict one entry by policy, store + queue]                        (1020–1024)
             nothing evicted ⇒ break }
      entry-limit step ([M.w] nested, `handle_entry_limit_eviction`)                 (1010–1014)
      [O released]

  BETWEEN two of these `M` sections other threads can run their store-only sections (`[M.w: put k' v']` =
  first micro-step of another sync `insert` / `insert_with_memory`, `[M.w: bumpHits]`, `[M.r]` lookups,
  lock-free `tick`s).  They cannot touch the queue, and they cannot start any section that needs `O`.

  This file removes the approximation.  A thread has the local states of `ConcData.Pend` (`FPend.base`)
  plus four new ones that are all INSIDE the `O` section:

      base (trackMem k v rs) ──enter──▶ oversize k v ──▶ done
                                   └──▶ loopRead k v rs ⇄ loopEvict k v rs ──▶ limit k v r ──▶ done

  * `enter`  = `[O acquire ; erasePush k ; M.r: entry size]`.  The queue-only prefix `erasePush k` is merged
    into the first `M` section: nobody else can observe the queue while `O` is held and the store-only
    sections of other threads commute with a queue-only action, so the prefix takes effect at the first
    nested `M` acquisition.
  * `oversize` = `[M.w: remove k] ; pop_back` (the `pop_back` is queue-only, merged likewise).
  * `loopRead` = `[M.r: Σ sizes]` and the comparison;  `loopEvict` = one `evictMem` (`[M.w]`; for Random the
    queue-only `o.remove(pos)` precedes it and is merged).  ONE loop iteration of `Cachelito.memLoop` = one
    `loopRead` + one `loopEvict`; the loop has no fuel here (the real loop has none; a micro-step is not
    recursive) — `fine_single_thread_eq` (Lemmas) shows that a thread running alone computes exactly
    `ConcData.trackMemStep`, i.e. `memLoop` with the fuel `|queue| + 1`.
  * `limit` = the entry-limit step.
  * with `max_memory = None` there is a single nested `M` section (the limit step): the coarse micro-step
    `contSync (.trackMem …)` is exact and is used unchanged.

  Every other operation, and the whole async engine, delegate to `ConcData.first` / `contSync` /
  `contAsync` unchanged (fixed code only, `legacy = false`).

  The queue mutex is modelled EXPLICITLY: `needsO` says which micro-steps run inside (or acquire) `O`
  (every continuation except `bump`; of the first steps: async insert / insertMem / clear, sync clear /
  conditional invalidation); `holdsO` says which local states are inside an `O` section that spans
  several micro-steps (the four new ones).  `cstepFine` refuses (returns `none`, the schedule entry is
  skipped by `crunFine`) a micro-step that needs `O` while ANOTHER thread holds it.  A thread that
  already holds `O` "needs" it trivially; that nobody else can hold it then is the theorem
  `C18f.queue_mutex_exclusive` (step lemma `cstepFine_holders`).  The clock is read in the micro-step that uses
  it (TLRU ages), as in `ConcData`.
-/
import Cachelito.ConcData

namespace Cachelito.ConcDataFine
open Cachelito Cachelito.ConcData

variable {K V S : Type} [DecidableEq K]

/-- local state of a thread between two critical sections: a state of the coarse model, or one of the
    four states inside the queue section of the sync `insert_with_memory` -/
inductive FPend (K V : Type)
  /-- a local state of `ConcData` -/
  | base (p : Pend K V)
  /-- `O` held; the entry stored under `k` was larger than `max_memory`; next: `[M.w: remove k] ; pop_back` -/
  | oversize (k : K) (v : V)
  /-- `O` held; next: `[M.r: Σ sizes]`, compare with `max_memory` -/
  | loopRead (k : K) (v : V) (rs : List Nat)
  /-- `O` held; the last sum did not fit; next: `[M.w: evict one entry by policy]` -/
  | loopEvict (k : K) (v : V) (rs : List Nat)
  /-- `O` held; the memory loop is over; next: the entry-limit step with draw `r`, then release `O` -/
  | limit (k : K) (v : V) (r : Nat)

/-- result of one micro-step of the fine model -/
inductive FRes (K V : Type)
  | more (p : FPend K V)
  | fin (op : Op K V) (o : Out V)

def liftRes : Res K V → FRes K V
  | .more p => .more (.base p)
  | .fin op o => .fin op o

def liftStep (x : State K V × Res K V) : State K V × FRes K V := (x.1, liftRes x.2)

/-- the local state left by a micro-step -/
def resPend : FRes K V → Option (FPend K V)
  | .more p => some p
  | .fin _ _ => none

/-- the coarse local state a fine local state carries -/
def coarseOf : Option (FPend K V) → Option (Pend K V)
  | some (.base p) => some p
  | _ => none

/-- `some (k, v, rs, maxM)` when the next micro-step is the ENTRY of the split queue section: sync engine,
    `insert_with_memory` in flight, `max_memory = Some(maxM)` -/
def fineEntry (cfg : Cfg) : Pend K V → Option (K × V × List Nat × Nat)
  | .trackMem k v rs =>
    if isAsync cfg then none
    else
      match cfg.maxMem with
      | some maxM => some (k, v, rs, maxM)
      | none => none
  | _ => none

/-- `[O acquire ; erasePush k ; M.r: map.get(k).map(size).unwrap_or(0)]`, compare with `max_memory` -/
def enterStep (size : V → Nat) (maxM : Nat) (s : State K V) (k : K) (v : V) (rs : List Nat) :
    State K V × FRes K V :=
  let s1 := { s with queue := erasePush k s.queue }
  if entrySize size k s.store > maxM then (s1, .more (.oversize k v)) else (s1, .more (.loopRead k v rs))

/-- `[M.w: map.remove(k)] ; o.pop_back() ; return` (releases `O`) -/
def oversizeStep (s : State K V) (k : K) (v : V) : State K V × FRes K V :=
  ({ s with store := eraseKey k s.store, queue := s.queue.dropLast }, .fin (.insertMem k v) .unit)

/-- `[M.r: Σ sizes]` ; `if current_mem <= max_mem { break }` -/
def loopReadStep (cfg : Cfg) (size : V → Nat) (s : State K V) (k : K) (v : V) (rs : List Nat) :
    State K V × FRes K V :=
  match cfg.maxMem with
  | none => (s, .more (.limit k v (rs.headD 0)))          -- not reachable: the loop exists only with a bound
  | some maxM =>
    if totalMem size s.store ≤ maxM then (s, .more (.limit k v (rs.headD 0)))
    else (s, .more (.loopEvict k v rs))

/-- `[M.w: evict one entry by policy]` ; `if !evicted { break }` — one `Cachelito.evictMem`, consuming one draw -/
def loopEvictStep (cfg : Cfg) (tl : Tlru S) (s : State K V) (k : K) (v : V) (rs : List Nat) :
    State K V × FRes K V :=
  let res := evictMem cfg tl s.now (rs.headD 0) s.store s.queue
  let s1 := { s with store := res.1, queue := res.2.1 }
  if res.2.2 then (s1, .more (.loopRead k v rs.tail)) else (s1, .more (.limit k v (rs.tail.headD 0)))

/-- `handle_entry_limit_eviction(&mut o)` ; `O` released -/
def limitStepF (cfg : Cfg) (tl : Tlru S) (s : State K V) (k : K) (v : V) (r : Nat) : State K V × FRes K V :=
  let res := limitStep cfg tl s.now r s.store s.queue
  ({ s with store := res.1, queue := res.2 }, .fin (.insertMem k v) .unit)

/-- one micro-step of the fine model -/
def microF (cfg : Cfg) (tl : Tlru S) (size : V → Nat) (s : State K V) (op : Op K V) (rs : List Nat) :
    Option (FPend K V) → State K V × FRes K V
  | none => liftStep (micro false cfg tl size s op rs none)
  | some (.base p) =>
    match fineEntry cfg p with
    | some (k, v, rs', maxM) => enterStep size maxM s k v rs'
    | none => liftStep (micro false cfg tl size s op rs (some p))
  | some (.oversize k v) => oversizeStep s k v
  | some (.loopRead k v rs') => loopReadStep cfg size s k v rs'
  | some (.loopEvict k v rs') => loopEvictStep cfg tl s k v rs'
  | some (.limit k v r) => limitStepF cfg tl s k v r

/-- the local state is inside a queue-mutex section that spans several micro-steps -/
def holdsO : Option (FPend K V) → Bool
  | some (.oversize _ _) => true
  | some (.loopRead _ _ _) => true
  | some (.loopEvict _ _ _) => true
  | some (.limit _ _ _) => true
  | _ => false

/-- the next micro-step (operation `op`, local state given) runs inside the queue mutex `O`.
    Continuations: all but `bump` (`[M.w]` only).  First micro-steps: async `insert` / `insert_with_memory`
    (whole body in `O`), `clear` (both engines), the sync conditional invalidation; the others are
    store-only (`[M.r]` / shard lookup, sync `[M.w: put]`, async key collection) or lock-free (`tick`). -/
def needsO (cfg : Cfg) (op : Op K V) : Option (FPend K V) → Bool
  | none =>
    match op with
    | .get _ => false
    | .insert _ _ => isAsync cfg
    | .insertMem _ _ => isAsync cfg
    | .clear => true
    | .invalidateWith _ => !isAsync cfg
    | .tick _ => false
  | some (.base (.bump _ _)) => false
  | some _ => true

/-- A thread of the fine model. -/
structure FThread (K V : Type) where
  prog : List (Op K V × List Nat)
  pend : Option (FPend K V)
  done : List (Op K V × Out V)

/-- state of the fine interleaving model -/
structure FState (K V : Type) where
  shared : State K V
  threads : List (FThread K V)

def FThread.start (prog : List (Op K V × List Nat)) : FThread K V := ⟨prog, none, []⟩

def FState.start (s : State K V) (progs : List (List (Op K V × List Nat))) : FState K V :=
  ⟨s, progs.map FThread.start⟩

def FState.init (progs : List (List (Op K V × List Nat))) : FState K V := FState.start State.init progs

/-- a thread / state of the coarse model seen as one of the fine model -/
def embedT (t : Thread K V) : FThread K V := ⟨t.prog, t.pend.map FPend.base, t.done⟩
def embed (c : CState K V) : FState K V := ⟨c.shared, c.threads.map embedT⟩

/-- no thread other than `i` is inside a multi-step queue-mutex section -/
def othersFree (ts : List (FThread K V)) (i : Nat) : Bool := (ts.eraseIdx i).all (fun t => !holdsO t.pend)

/-- The next micro-step of thread `i`; `none` when there is no such thread, it has finished, or it is
    BLOCKED: its next micro-step needs the queue mutex and another thread holds it. -/
def cstepFine (cfg : Cfg) (tl : Tlru S) (size : V → Nat) (c : FState K V) (i : ThreadId) : Option (FState K V) :=
  match c.threads[i]? with
  | none => none
  | some t =>
    match t.prog with
    | [] => none
    | (op, rs) :: rest =>
      if needsO cfg op t.pend && !othersFree c.threads i then none
      else
        match microF cfg tl size c.shared op rs t.pend with
        | (s', .more p) => some ⟨s', c.threads.set i { t with pend := some p }⟩
        | (s', .fin op' o) => some ⟨s', c.threads.set i { prog := rest, pend := none, done := t.done ++ [(op', o)] }⟩

/-- run a schedule; entries naming a finished, non-existent or blocked thread are skipped -/
def crunFine (cfg : Cfg) (tl : Tlru S) (size : V → Nat) : List ThreadId → FState K V → FState K V
  | [], c => c
  | i :: sch, c =>
    match cstepFine cfg tl size c i with
    | none => crunFine cfg tl size sch c
    | some c' => crunFine cfg tl size sch c'

/-- strict replay of a recorded schedule: `none` as soon as an entry names a thread that cannot step.
    Recording rule on top of `ConcData`'s: inside the queue section of the sync `insert_with_memory` emit the
    thread id at EVERY nested store-lock acquisition (yield points 1017–1024) and at the limit step. -/
def creplayFine (cfg : Cfg) (tl : Tlru S) (size : V → Nat) : List ThreadId → FState K V → Option (FState K V)
  | [], c => some c
  | i :: sch, c =>
    match cstepFine cfg tl size c i with
    | none => none
    | some c' => creplayFine cfg tl size sch c'

/-- no thread is in the middle of an operation -/
def QuiescentF (c : FState K V) : Prop := ∀ t, t ∈ c.threads → t.pend = none

/-- every thread has run its whole program -/
def AllDoneF (c : FState K V) : Prop := ∀ t, t ∈ c.threads → t.prog = []

def quiescentFB (c : FState K V) : Bool := c.threads.all (fun t => t.pend.isNone)
def allDoneFB (c : FState K V) : Bool := c.threads.all (fun t => t.prog.isEmpty)

/-- keys collected from the local states of all threads -/
def keysBy (g : Option (FPend K V) → List K) (ts : List (FThread K V)) : List K := ts.flatMap (fun t => g t.pend)

/-- own in-flight key: written to the store, NOT yet pushed to the queue (the thread is between the store
    write and the acquisition of `O`) -/
def fkeys (p : Option (FPend K V)) : List K := ownKeys (coarseOf p)

/-- key of a thread inside the split queue section (its key has been pushed; `O` is held) -/
def hkeys : Option (FPend K V) → List K
  | some (.oversize k _) => [k]
  | some (.loopRead k _ _) => [k]
  | some (.loopEvict k _ _) => [k]
  | some (.limit k _ _) => [k]
  | _ => []

/-- keys written to the store whose queue section has not STARTED yet -/
def pendKeysF (ts : List (FThread K V)) : List K := keysBy fkeys ts

/-- keys of the threads that are inside the split queue section (at most one, `C18f.queue_mutex_exclusive`) -/
def holdKeys (ts : List (FThread K V)) : List K := keysBy hkeys ts

end Cachelito.ConcDataFine
