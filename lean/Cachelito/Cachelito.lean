-- Root of the `Cachelito` library: the executable model.  Property theorems are under
-- `Cachelito/Props/`, lemmas under `Cachelito/Lemmas/`; the checks build those modules by name.
import Cachelito.Basic
import Cachelito.Core
import Cachelito.Wrapper
import Cachelito.System
import Cachelito.Async
import Cachelito.ConcData
